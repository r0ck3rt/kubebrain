/-
  C04 — Every issued revision is resolved: reads never overtake a write and never stall.
  Model: KB.Sys (interleaving LTS of client requests, retry loop and sequencer). The theorems hold
  for every schedule, any number of clients, arbitrary (also future / malformed) expected revisions
  and every placement of storage faults (`Fault` on each commit). The retry loop's repair is two steps
  (read + deal, commit + report); between them the revision it was dealt is in flight like a client's.
-/
import KB.Lemmas.Sys
namespace KB.C04

/-- The revision a request has been dealt but not yet reported to the sequencer. -/
def inflightRev (c : Client) : Option Nat :=
  match c.pc with
  | .createCommit r => some r
  | .createReread r => some r
  | .createRetry r => some r
  | .createOver r _ _ => some r
  | .createRecheck r _ => some r
  | .updateCommit r => some r
  | .deleteCommit r _ _ => some r
  | _ => none

/-- The revision the retry loop has been dealt (for its rewrite) but not yet reported to the sequencer. -/
def repairRev (g : G) : Option Nat := g.retryPc.map (·.rev)

/-- Initial states: nothing in flight, the read revision has caught up. -/
def Init (g : G) : Prop :=
  g.committed = g.dealt ∧ g.slots = [] ∧ g.clients = [] ∧ g.retryQ = [] ∧ g.retryPc = none

instance (g : G) : Decidable (Init g) := by unfold Init; infer_instance

theorem inflightRev_eq (c : Client) : inflightRev c = c.pc.inflight := by
  obtain ⟨id, kind, pc, bd⟩ := c
  cases pc <;> rfl

/-- The sequencing invariant holds in every reachable state. -/
theorem sinv {g0 g : G} (h0 : Init g0) (hr : Reachable g0 g) : SInv g.view :=
  hr.closed SInv.closed (SInv.init h0.1 h0.2.1 h0.2.2.1 h0.2.2.2.2)

/-- The read revision never reaches the revision of a write whose storage transaction has not finished. -/
theorem committed_lt_unfinished {g0 g : G} (h0 : Init g0) (hr : Reachable g0 g)
    (c : Client) (hc : c ∈ g.clients) (r : Nat) (hi : inflightRev c = some r) : g.committed < r := by
  rw [inflightRev_eq] at hi
  exact (sinv h0 hr).inflR c hc r hi

/-- ... nor the revision the retry loop holds between its read and its commit. -/
theorem committed_lt_repair {g0 g : G} (h0 : Init g0) (hr : Reachable g0 g) (r : Nat)
    (hi : repairRev g = some r) : g.committed < r ∧ r ≤ g.dealt :=
  (sinv h0 hr).rpcR r hi

theorem SInv.accounting {g : G} (h : SInv g.view) (r : Nat) (hlo : g.committed < r) (hhi : r ≤ g.dealt) :
    ((∃ w ∈ g.slots, w.rev = r) ∧ (¬ ∃ c ∈ g.clients, inflightRev c = some r) ∧ repairRev g ≠ some r) ∨
    ((¬ ∃ w ∈ g.slots, w.rev = r) ∧ (∃ c ∈ g.clients, inflightRev c = some r) ∧ repairRev g ≠ some r) ∨
    ((¬ ∃ w ∈ g.slots, w.rev = r) ∧ (¬ ∃ c ∈ g.clients, inflightRev c = some r) ∧ repairRev g = some r) := by
  simp only [inflightRev_eq]
  have hsc : ¬ ((∃ w ∈ g.slots, w.rev = r) ∧ ∃ c ∈ g.clients, c.pc.inflight = some r) := by
    rintro ⟨⟨w, hw, rfl⟩, c, hc, hi⟩
    exact h.slotInfl w hw c hc hi
  have hsr : ¬ ((∃ w ∈ g.slots, w.rev = r) ∧ repairRev g = some r) := by
    rintro ⟨⟨w, hw, rfl⟩, hi⟩
    exact h.rpcSlot w hw hi
  have hcr : ¬ ((∃ c ∈ g.clients, c.pc.inflight = some r) ∧ repairRev g = some r) := by
    rintro ⟨⟨c, hc, hi⟩, hp⟩
    exact h.rpcInfl c hc r hi hp
  rcases h.cover r hlo hhi with hs | hc | hp
  · exact .inl ⟨hs, fun hc => hsc ⟨hs, hc⟩, fun hp => hsr ⟨hs, hp⟩⟩
  · exact .inr (.inl ⟨fun hs => hsc ⟨hs, hc⟩, hc, fun hp => hcr ⟨hc, hp⟩⟩)
  · exact .inr (.inr ⟨fun hs => hsr ⟨hs, hp⟩, fun hc => hcr ⟨hc, hp⟩, hp⟩)

/-- Slot accounting: every dealt revision above the committed one is in a filled slot, or owned by an
in-flight request that will still report it, or held by the retry loop between its read and its commit —
exactly one of the three (and by exactly one request: `C02.deal_unique`). -/
theorem slot_accounting {g0 g : G} (h0 : Init g0) (hr : Reachable g0 g) (r : Nat)
    (hlo : g.committed < r) (hhi : r ≤ g.dealt) :
    ((∃ w ∈ g.slots, w.rev = r) ∧ (¬ ∃ c ∈ g.clients, inflightRev c = some r) ∧ repairRev g ≠ some r) ∨
    ((¬ ∃ w ∈ g.slots, w.rev = r) ∧ (∃ c ∈ g.clients, inflightRev c = some r) ∧ repairRev g ≠ some r) ∨
    ((¬ ∃ w ∈ g.slots, w.rev = r) ∧ (¬ ∃ c ∈ g.clients, inflightRev c = some r) ∧ repairRev g = some r) :=
  SInv.accounting (sinv h0 hr) r hlo hhi

theorem committed_le_dealt {g0 g : G} (h0 : Init g0) (hr : Reachable g0 g) : g.committed ≤ g.dealt :=
  (sinv h0 hr).le

/-- With nothing in flight, the slot of `committed + 1` is filled, and the sequencer consumes it
without touching the dealt counter, the clients or the retry loop. -/
theorem stepSeq_quiescent {g : G} (h : SInv g.view) (hq : ∀ c ∈ g.clients, c.pc.inflight = none)
    (hp : g.retryPc = none) (hlt : g.committed < g.dealt) :
    (stepSeq g).committed = g.committed + 1 ∧ (stepSeq g).dealt = g.dealt ∧
      (stepSeq g).clients = g.clients ∧ (stepSeq g).retryPc = none := by
  rcases view_stepSeq g with ⟨_, hno⟩ | ⟨w, hw, hwr, e⟩
  · rcases h.cover (g.committed + 1) (Nat.lt_succ_self _) hlt with ⟨w, hw, e⟩ | ⟨c, hc, hi⟩ | hr
    · exact absurd e (hno w hw)
    · rw [hq c hc] at hi
      cases hi
    · simp [G.view, hp] at hr
  · rw [View.consume_of_le (h.slotR w hw).2] at e
    exact ⟨hwr ▸ congrArg View.committed e, congrArg View.dealt e, congrArg View.clients e,
      Option.map_eq_none_iff.1 ((congrArg View.rpc e).trans (congrArg (Option.map _) hp))⟩

/-- No stall: when no request is in flight, the retry loop is not in the middle of a repair and some
revision is still unresolved, the sequencer has an enabled step, and that step advances the read revision by
exactly one. -/
theorem sequencer_enabled {g0 g : G} (h0 : Init g0) (hr : Reachable g0 g)
    (hq : ∀ c ∈ g.clients, inflightRev c = none) (hp : g.retryPc = none) (hlt : g.committed < g.dealt) :
    (stepSeq g).committed = g.committed + 1 := by
  simp only [inflightRev_eq] at hq
  exact (stepSeq_quiescent (sinv h0 hr) hq hp hlt).1

/-- From any state satisfying the sequencing invariant (reachable or not) in which nothing is in flight, the
sequencer alone catches up with the dealt counter. -/
theorem catches_up {g : G} (h : SInv g.view) (hq : ∀ c ∈ g.clients, c.pc.inflight = none) (hp : g.retryPc = none) :
    (run g (List.replicate (g.dealt - g.committed) Action.seq)).committed = g.dealt := by
  generalize hn : g.dealt - g.committed = n
  induction n generalizing g with
  | zero =>
    have : g.committed ≤ g.dealt := h.le
    show g.committed = g.dealt
    omega
  | succ n ih =>
    obtain ⟨e1, e2, e3, e4⟩ := stepSeq_quiescent h hq hp (by omega)
    have := ih (g := stepSeq g) (act_P SInv.closed .seq h) (e3 ▸ hq) e4 (by omega)
    rw [e2] at this
    simpa [run, List.replicate_succ, act] using this

/-- Once all in-flight requests have returned and the retry loop has finished the repair it was in the
middle of (if any), running the sequencer reaches the highest revision handed out — for every mix of
outcomes, including drift rejections, storage errors and repairs that lost their compare-and-swap. -/
theorem quiescent_catches_up {g0 g : G} (h0 : Init g0) (hr : Reachable g0 g)
    (hq : ∀ c ∈ g.clients, inflightRev c = none) (hp : g.retryPc = none) :
    (run g (List.replicate (g.dealt - g.committed) Action.seq)).committed = g.dealt := by
  simp only [inflightRev_eq] at hq
  exact catches_up (sinv h0 hr) hq hp

/-- The full invariant (sequencing and finished-request log) holds in every state reachable from an
initial state whose ghost log of finished requests is empty. -/
theorem finv {g0 g : G} (h0 : Init g0) (hd0 : g0.done = []) (hr : Reachable g0 g) : FInv g.view :=
  hr.closed FInv.closed ⟨SInv.init h0.1 h0.2.1 h0.2.2.1 h0.2.2.2.2, DInv.init hd0⟩

/-- Every request that returned with a revision (`done`; a request whose `Deal` was refused because the sequencer's ring
was full holds none and is logged in `refused`: `KB.C04Window`) consumed exactly one revision and reported it: nothing
it dealt is left unresolved (in particular the revision-drift rejections). (`hd0`: the ghost log of finished
requests starts empty — `Init` alone does not say so.) -/
theorem done_resolved {g0 g : G} (h0 : Init g0) (hd0 : g0.done = []) (hr : Reachable g0 g)
    (d : Done) (hd : d ∈ g.done) :
    d.rev ≠ 0 ∧ (d.rev ≤ g.committed ∨ ∃ w ∈ g.slots, w.rev = d.rev) := by
  have h := (finv h0 hd0 hr).2
  refine ⟨?_, h.dRes d hd⟩
  have := (h.dR d hd).1
  omega

/-! Non-vacuity: a reachable state with an out-of-order completion and a drift rejection. -/
def ex0 : G := { dealt := 1000, committed := 1000 }
def exSched : List Action :=
  [ .begin 1 (.create [47, 97] [1]), .begin 2 (.update [47, 98] [2] (2 ^ 62)), .begin 3 (.create [47, 99] [3]),
    .step 1 .none, .step 2 .none, .step 3 .none, .step 3 .none, .seq ]
example : Init ex0 := by decide
example : (run ex0 exSched).committed = 1000 ∧ (run ex0 exSched).dealt = 1003 ∧
    ((run ex0 exSched).slots.map (·.rev)) = [1002, 1003] := by decide

/-! The retry loop between its read and its commit: request 1's create lands with an unknown outcome and is
queued; the retry loop reads and is dealt revision 1002; request 2 creates another key at 1003 and returns.
Revision 1002 is in no slot and owned by no request — it is the retry loop's (`slot_accounting`, third case). -/
def exRepair : List Action :=
  [ .begin 1 (.create [47, 97] [1]), .step 1 .none, .step 1 .uncApplied, .seq, .retryRead,
    .begin 2 (.create [47, 98] [2]), .step 2 .none, .step 2 .none ]
example : repairRev (run ex0 exRepair) = some 1002 ∧ (run ex0 exRepair).committed = 1001 ∧
    (run ex0 exRepair).dealt = 1003 ∧ ((run ex0 exRepair).slots.map (·.rev)) = [1003] ∧
    (run ex0 exRepair).clients = [] := by decide

/-- `quiescent_catches_up` (and `sequencer_enabled`) without the hypothesis that the retry loop is not in the
middle of a repair is false for the non-atomic repair: in the state above no request is in flight, yet the read
revision cannot pass 1001 — until the repair commits (whatever its outcome), after which it catches up. -/
theorem quiescent_catches_up_needs_idle_repair :
    Init ex0 ∧ (∀ c ∈ (run ex0 exRepair).clients, inflightRev c = none) ∧ (run ex0 exRepair).retryPc ≠ none ∧
      (run (run ex0 exRepair) (List.replicate ((run ex0 exRepair).dealt - (run ex0 exRepair).committed) Action.seq)).committed
        < (run ex0 exRepair).dealt ∧
      (run (act (run ex0 exRepair) (.retryCommit .err))
        (List.replicate ((run ex0 exRepair).dealt - (run ex0 exRepair).committed) Action.seq)).committed
        = (run ex0 exRepair).dealt := by
  decide

end KB.C04
