/-
  C04 / C20 — the sequencer's ring always has a slot for a dealt revision (/repo 624b477).
  The outcome of every dealt revision waits in a ring of `ringLen` slots (`watchersChanCapacity` = `tso.MaxInFlight` =
  100000, `Cfg.ringLen`; slot index = revision mod ringLen) until all earlier revisions are resolved; `notify` stops the
  process ("watch push buffer full") when `revision - committed ≥ ringLen`. Since 624b477 `tso.Deal` REFUSES to hand out
  `dealt + 1` while `dealt + 1 - committed ≥ ringLen` (`G.windowFull`): the request is answered with an error, consumes no
  revision and needs no slot (`G.refuse`, ghost log `G.refused`); the repair loop keeps its queue head and tries again.
  Model: KB.Sys — `stepClient` = refusal at the steps that deal (`dealSite`), else `stepClientCore`; `stepRetryRead`.
  `Cfg.dealUnguarded = true` is the `Deal` before the fix (refutation).
  No bound on the number of requests in flight is assumed anywhere: the window is an invariant.
  Real code: the scheduling suite cannot issue 100000 requests and /repo exposes no verif-only way to shrink the ring
  (pkg/backend/verif_export.go has none; `MaxInFlight` is a constant): the tie is this theorem + the regenerated
  constant (`ring_len_is_the_generated_constant`) + the shape facts of `Deal` (KB.Props.C18Cas / OrderC04).
-/
import KB.Lemmas.Window
import KB.Props.OrderC04
namespace KB.C04Window
open KB.C04 KB.Window

/-- The initial condition about the ring: the guarded `Deal`, at least one slot. -/
def RingOK (g0 : G) : Prop := g0.cfg.dealUnguarded = false ∧ 0 < g0.cfg.ringLen

instance (g0 : G) : Decidable (RingOK g0) := by unfold RingOK; infer_instance

/-- **The window.** In every reachable state the dealt revision is less than a whole ring ahead of the committed one. -/
theorem window_holds {g0 g : G} (h0 : Init g0) (hring : RingOK g0) (hr : Reachable g0 g) :
    g.dealt < g.committed + g.cfg.ringLen ∧ 0 < g.cfg.ringLen ∧ g.cfg.dealUnguarded = false := by
  have hw : WInv g0.view := ⟨hring.1, hring.2, by
    show g0.dealt < g0.committed + g0.cfg.ringLen
    have := h0.1; have := hring.2; omega⟩
  have h := hr.closed WInv.closed hw
  exact ⟨h.2.2, h.2.1, h.1⟩

/-- revision `r` is held: by a filled slot, by a request in flight, or by the repair loop between its read and its commit -/
def Held (g : G) (r : Nat) : Prop :=
  (∃ w ∈ g.slots, w.rev = r) ∨ (∃ c ∈ g.clients, inflightRev c = some r) ∨ repairRev g = some r

theorem Held.range {g : G} (h : SInv g.view) {r : Nat} (hh : Held g r) : g.committed < r ∧ r ≤ g.dealt := by
  simp only [Held, inflightRev_eq] at hh
  rcases hh with ⟨w, hw, rfl⟩ | ⟨c, hc, hi⟩ | hp
  · exact h.slotR w hw
  · exact ⟨h.inflR c hc r hi, (h.inflD c hc r hi).2⟩
  · exact h.rpcR r hp

/-- In any state with the sequencing invariant whose dealt counter is inside the window: every dealt revision, in
particular every held one, is less than a ring ahead of the committed one, and two held revisions with the same ring
index are the same revision. -/
theorem held_in_ring {g : G} (hs : SInv g.view) (hw : g.dealt < g.committed + g.cfg.ringLen) :
    (∀ r, r ≤ g.dealt → r - g.committed < g.cfg.ringLen) ∧
    (∀ r, Held g r → r - g.committed < g.cfg.ringLen) ∧
    (∀ r1 r2, Held g r1 → Held g r2 → r1 % g.cfg.ringLen = r2 % g.cfg.ringLen → r1 = r2) := by
  have hle : g.committed ≤ g.dealt := hs.le
  refine ⟨fun r h => by omega, fun r hh => ?_, fun r1 r2 h1 h2 e => ?_⟩
  · have := (hh.range hs).2; omega
  · have a := h1.range hs; have b := h2.range hs
    exact KB.OrderC04.ring_window_injective g.cfg.ringLen g.committed r1 r2 a.1 (by omega) b.1 (by omega) e

/-- **`notify` never finds the ring full**: every dealt, unresolved revision `r` — whoever holds it: a request in
flight, the repair loop between its read and its commit, a filled slot — satisfies `r - committed < ringLen`, the
negation of the fail-stop test of `notify` (`KB.OrderC04.notify_guard_matches_ring_len`). No bound on the number of
requests in flight is assumed. -/
theorem notify_never_overflows {g0 g : G} (h0 : Init g0) (hring : RingOK g0) (hr : Reachable g0 g) :
    (∀ r, g.committed < r → r ≤ g.dealt → r - g.committed < g.cfg.ringLen) ∧
    (∀ c ∈ g.clients, ∀ r, inflightRev c = some r → r - g.committed < g.cfg.ringLen) ∧
    (∀ r, repairRev g = some r → r - g.committed < g.cfg.ringLen) ∧
    (∀ w ∈ g.slots, w.rev - g.committed < g.cfg.ringLen) := by
  have H := held_in_ring (sinv h0 hr) (window_holds h0 hring hr).1
  exact ⟨fun r _ h => H.1 r h, fun c hc r hi => H.2.1 r (.inr (.inl ⟨c, hc, hi⟩)), fun r hi => H.2.1 r (.inr (.inr hi)),
    fun w hw => H.2.1 w.rev (.inl ⟨w, hw, rfl⟩)⟩

/-- **Every unresolved revision has its own slot**: two dealt, unresolved revisions never share a ring index
(`KB.OrderC04.ring_window_injective` lifted to the reachable states) — so the slot of a revision still in flight is
empty when its request reports it, and the sequencer never reads another revision's outcome from it. -/
theorem slot_always_free {g0 g : G} (h0 : Init g0) (hring : RingOK g0) (hr : Reachable g0 g)
    (r1 r2 : Nat) (h1 : g.committed < r1) (h1' : r1 ≤ g.dealt) (h2 : g.committed < r2) (h2' : r2 ≤ g.dealt)
    (h : r1 % g.cfg.ringLen = r2 % g.cfg.ringLen) : r1 = r2 := by
  have hw := (window_holds h0 hring hr).1
  exact KB.OrderC04.ring_window_injective g.cfg.ringLen g.committed r1 r2 h1 (by omega) h2 (by omega) h

/-- ... in particular: the ring index of a revision held by a request in flight (or by the repair loop) is that of no
filled slot and of no other request in flight. -/
theorem inflight_slot_is_empty {g0 g : G} (h0 : Init g0) (hring : RingOK g0) (hr : Reachable g0 g)
    (c : Client) (hc : c ∈ g.clients) (r : Nat) (hi : inflightRev c = some r) :
    (∀ w ∈ g.slots, w.rev % g.cfg.ringLen ≠ r % g.cfg.ringLen) ∧
    (∀ c' ∈ g.clients, ∀ r', inflightRev c' = some r' → r' % g.cfg.ringLen = r % g.cfg.ringLen → c' = c) ∧
    (∀ r', repairRev g = some r' → r' % g.cfg.ringLen ≠ r % g.cfg.ringLen) := by
  have hs := sinv h0 hr
  have H := (held_in_ring hs (window_holds h0 hring hr).1).2.2
  have hr0 : Held g r := .inr (.inl ⟨c, hc, hi⟩)
  simp only [inflightRev_eq] at hi ⊢
  refine ⟨fun w hw e => ?_, fun c' hc' r' hi' e => ?_, fun r' hi' e => ?_⟩
  · exact hs.slotInfl w hw c hc (H w.rev r (.inl ⟨w, hw, rfl⟩) hr0 e ▸ hi)
  · exact hs.inflU c' hc' c hc r (H r' r (.inr (.inl ⟨c', hc', inflightRev_eq c' ▸ hi'⟩)) hr0 e ▸ hi') hi
  · exact hs.rpcInfl c hc r hi (H r' r (.inr (.inr hi')) hr0 e ▸ hi')

/-- **A full window is a refusal, not a panic.** In ANY state whose window is full, a request at a step that deals
returns at once: answered with an error (the delete of a missing key: "not found" under header 0), recorded without a
revision; nothing is dealt, no slot is touched, nothing is written, no other request is affected. -/
theorem window_full_is_refused_not_panicked (g : G) (c : Client) (f : Fault) (hd : dealSite c = true)
    (hfull : g.windowFull = true) :
    stepClient g c f = g.refuse c (refusal c) ∧
    (stepClient g c f).dealt = g.dealt ∧ (stepClient g c f).committed = g.committed ∧
    (stepClient g c f).slots = g.slots ∧ (stepClient g c f).store = g.store ∧ (stepClient g c f).wlog = g.wlog ∧
    (stepClient g c f).done = g.done ∧ (stepClient g c f).retryQ = g.retryQ ∧
    (∀ x, x ∈ (stepClient g c f).clients ↔ x ∈ g.clients ∧ x.id ≠ c.id) ∧
    (∃ d, (stepClient g c f).refused = g.refused ++ [d] ∧ d.id = c.id ∧ d.rev = 0 ∧
      (d.res = .error .other ∨ d.res = .notFound 0)) := by
  have e : stepClient g c f = g.refuse c (refusal c) := by simp [stepClient, hd, hfull]
  rw [e]
  refine ⟨rfl, rfl, rfl, rfl, rfl, rfl, rfl, rfl, ?_, ⟨_, rfl, rfl, rfl, refusal_cases c⟩⟩
  intro x
  simp [G.refuse]

/-- With the window full the repair loop's read changes nothing but its queue, which loses at most its head. -/
theorem window_full_repair_waits' (g : G) (hfull : g.windowFull = true) :
    ∃ n, n ≤ 1 ∧ stepRetryRead g = { g with retryQ := g.retryQ.drop n } := by
  apply SysStore.stepRetryRead_cases (P := fun g' => ∃ n, n ≤ 1 ∧ g' = { g with retryQ := g.retryQ.drop n })
  case hBusy => intros; exact ⟨0, Nat.zero_le _, rfl⟩
  case hNop => intros; exact ⟨0, Nat.zero_le _, rfl⟩
  case hPop => intro w rest _ hq _; exact ⟨1, Nat.le_refl _, by rw [hq]; rfl⟩
  case hDeal =>
    intro _ _ _ _ _ _ _ hopen
    rw [hfull] at hopen; cases hopen
  case hFull => intros; exact ⟨0, Nat.zero_le _, rfl⟩

/-- The repair loop under a full window: it deals nothing and stays at the top of `retry()`; its queue only loses heads
that need no repair. -/
theorem window_full_repair_waits (g : G) (hfull : g.windowFull = true) :
    (stepRetryRead g).dealt = g.dealt ∧ (stepRetryRead g).retryPc = g.retryPc ∧
    (stepRetryRead g).slots = g.slots ∧ (stepRetryRead g).store = g.store := by
  obtain ⟨n, _, e⟩ := window_full_repair_waits' g hfull
  rw [e]; exact ⟨rfl, rfl, rfl, rfl⟩

/-- A refused request holds no revision: nothing it could have dealt is left unresolved (`C04.done_resolved` is about
the requests that were dealt one). -/
theorem refused_hold_no_revision {g0 g : G} (h : g0.refused = []) (hr : Reachable g0 g) :
    ∀ d ∈ g.refused, d.rev = 0 := by
  obtain ⟨s, rfl⟩ := hr
  exact run_refused (by rw [h]; intro d hd; cases hd) s

/-- The model's ring is the regenerated constant of the source (`watchersChanCapacity` of pkg/backend/backend.go). -/
theorem ring_len_is_the_generated_constant : ({} : Cfg).ringLen = Generated.watchersChanCapacity ∧
    ({} : Cfg).dealUnguarded = false ∧ RingOK {} := ⟨rfl, rfl, rfl, by decide⟩

/-! ### A ring of 3 slots: one parked write and three later requests -/

/-- request 1 is dealt revision 1 and parks before its commit; requests 2, 3, 4 (deletes of missing keys: they
consume a revision without touching the engine) run to completion -/
def parked : List Action :=
  [ .begin 1 (.create [47, 97] [1]), .step 1 .none,
    .begin 2 (.delete [47, 98] 0), .step 2 .none, .step 2 .none,
    .begin 3 (.delete [47, 99] 0), .step 3 .none, .step 3 .none,
    .begin 4 (.delete [47, 100] 0), .step 4 .none, .step 4 .none ]

def ring3 : G := { cfg := { ringLen := 3 } }
def ring3Old : G := { cfg := { ringLen := 3, dealUnguarded := true } }

/-- **The `Deal` before 624b477 overflows the ring.** With the unguarded `Deal` the schedule reaches a state in which
revision 1 (still in flight) and revision 4 (reported) share ring index 1, and in which `notify`'s fail-stop test
`revision - committed ≥ ringLen` holds for revisions 3 and 4: the real node has panicked on the request goroutine at
revision 3 (had it not, the slot of revision 1 would be overwritten / never readable). -/
theorem old_deal_overflows_ring :
    let g := run ring3Old parked
    Init ring3Old ∧ g.committed = 0 ∧ g.dealt = 4 ∧ g.clients.map inflightRev = [some 1] ∧
    g.slots.map (·.rev) = [2, 3, 4] ∧ 1 % g.cfg.ringLen = 4 % g.cfg.ringLen ∧
    ¬ (g.dealt < g.committed + g.cfg.ringLen) ∧ (g.slots.filter (fun w => w.rev - g.committed ≥ g.cfg.ringLen)).map (·.rev) = [3, 4] ∧
    g.refused = [] := by
  decide +kernel

/-- The same schedule with the `Deal` as it is: with revisions 1 and 2 dealt the window of a 3-slot ring is full (`2 + 1 - 0 ≥ 3`): requests 3 and 4 are refused ("not found" under header 0 for these
deletes of missing keys), consume nothing; the window holds; once request 1 commits and the sequencer has run, a new
request is dealt revision 3. -/
theorem guarded_deal_refuses_instead :
    let g := run ring3 parked
    Init ring3 ∧ RingOK ring3 ∧ g.committed = 0 ∧ g.dealt = 2 ∧ g.clients.map inflightRev = [some 1] ∧
    g.slots.map (·.rev) = [2] ∧ g.dealt < g.committed + g.cfg.ringLen ∧
    g.refused.map (fun d => (d.id, d.res, d.rev)) = [(3, .notFound 0, 0), (4, .notFound 0, 0)] ∧
    (let g' := run g [.step 1 .none, .seq, .seq, .begin 5 (.delete [47, 99] 0), .step 5 .none, .step 5 .none]
     g'.committed = 2 ∧ g'.dealt = 3 ∧ g'.done.map (fun d => (d.id, d.rev)) = [(2, 2), (1, 1), (5, 3)]) := by
  decide +kernel

/-! Non-vacuity: the hypotheses of `window_holds` … `inflight_slot_is_empty` hold of the 3-slot run (and of the empty
default state: `ring_len_is_the_generated_constant`); those of `window_full_is_refused_not_panicked` /
`window_full_repair_waits` of its final state. -/
set_option maxRecDepth 100000 in
example : ∃ (g0 g : G) (c : Client) (r : Nat), Init g0 ∧ RingOK g0 ∧ Reachable g0 g ∧ c ∈ g.clients ∧
    inflightRev c = some r :=
  ⟨ring3, run ring3 parked, ⟨1, .create [47, 97] [1], .createCommit 1, 0⟩, 1, by decide, by decide, ⟨_, rfl⟩,
    by decide +kernel⟩

set_option maxRecDepth 100000 in
example : ∃ (g : G) (c : Client), dealSite c = true ∧ g.windowFull = true ∧ c ∈ g.clients :=
  ⟨run ring3 (parked ++ [.begin 6 (.update [47, 97] [2] 1)]), ⟨6, .update [47, 97] [2] 1, .start, 2⟩, rfl,
    by decide +kernel⟩

#print axioms window_holds
#print axioms notify_never_overflows
#print axioms slot_always_free
#print axioms inflight_slot_is_empty
#print axioms window_full_is_refused_not_panicked
#print axioms window_full_repair_waits
#print axioms refused_hold_no_revision
#print axioms ring_len_is_the_generated_constant
#print axioms old_deal_overflows_ring
#print axioms guarded_deal_refuses_instead

end KB.C04Window
