/-
  C05 — a watch delivers exactly the matching changes, once, in order — or is closed.

  Model: KB.Watch (ring.go literally; pipeline LTS of backend.go:208-270, watcherhub.go, watch.go).
  Helper lemmas: KB.Lemmas.WatchRing (index arithmetic), KB.Lemmas.Watch (the inductive invariant).
  All theorems quantify over ALL capacities (`PCfg`, only `0 < ringCap` is required: `NewRing(0)` cannot
  `Add`) and ALL schedules of the LTS built from the actions of the code after d65a4b9 (`Act.fixed`).
-/
import KB.Watch
import KB.Lemmas.WatchRing
import KB.Lemmas.Watch
namespace KB.C05
open KB.Watch

/-! ### the event cache -/

/-- For every capacity `cap > 0` and every sequence of `Add`s with strictly increasing revisions:
the ring's window is the last `min n cap` events; `FindEvents S` — with the LITERAL index arithmetic,
`sort.Search` contract and two-segment copy of ring.go (`Ring.findLit`) — answers empty / high / low
exactly per `findSpec` and otherwise exactly the cached events with revision ≥ S, in order, wrap-around
included (no nil entry, no slice panic); the simplified `Ring.find` used by the sequential model
(KB.Backend) computes the same. -/
theorem ring_find_spec (cap : Nat) (hcap : 0 < cap) (evs : List Event) (hs : SortedRev evs) (S : Nat) :
    (ringOf cap evs).window = evs.drop (evs.length - cap) ∧
    (ringOf cap evs).findLit S = findSpec cap evs S ∧
    (ringOf cap evs).find S = findSpec cap evs S :=
  ⟨ringOf_window cap hcap evs, ringOf_findLit cap hcap evs hs S, ringOf_find cap hcap evs hs S⟩

/-- The loop of Go's `sort.Search` (binary search, literally) returns what `findLit` assumes of it
(`searchFirst`: the first index at which the predicate holds) whenever the predicate is monotone. -/
theorem sort_search_contract (n : Nat) (f : Nat → Bool)
    (mono : ∀ i j, i ≤ j → j < n → f i = true → f j = true) : goSearch n f = searchFirst n f :=
  goSearch_eq_searchFirst n f mono

/-- ... and on every ring built by `Add`s with increasing revisions the predicate handed to
`sort.Search` by `FindEvents` IS monotone: the literal binary search returns the index `findLit` uses. -/
theorem find_uses_sort_search (cap : Nat) (hcap : 0 < cap) (evs : List Event) (hs : SortedRev evs) (S : Nat) :
    goSearch ((ringOf cap evs).e - (ringOf cap evs).s) ((ringOf cap evs).searchPred S) =
    searchFirst ((ringOf cap evs).e - (ringOf cap evs).s) ((ringOf cap evs).searchPred S) :=
  (ringOf_inv cap hcap evs).goSearch_eq_searchFirst hs S

/-- what the spec means, spelled out: with at least one cached event, `oldest`/`newest` being the ends
of the window -/
theorem find_spec_cases (cap : Nat) (evs : List Event) (S : Nat) :
    (evs.drop (evs.length - cap) = [] → findSpec cap evs S = .empty) ∧
    (∀ oldest newest, (evs.drop (evs.length - cap)).head? = some oldest →
      (evs.drop (evs.length - cap)).getLast? = some newest →
      (S > newest.rev → findSpec cap evs S = .high) ∧
      (¬ S > newest.rev → S < oldest.rev → findSpec cap evs S = .low oldest.rev) ∧
      (¬ S > newest.rev → ¬ S < oldest.rev →
        findSpec cap evs S = .events newest.rev
          ((evs.drop (evs.length - cap)).filter (fun e => decide (S ≤ e.rev))))) := by
  refine ⟨findSpec_nil S, fun oldest newest ho hn => ?_⟩
  rw [findSpec_of_ends S ho hn]
  exact ⟨fun h => if_pos h, fun h1 h2 => by rw [if_neg h1, if_pos h2], fun h1 h2 => by rw [if_neg h1, if_neg h2]⟩

example : SortedRev [⟨.create, 5, [1], [], 5⟩, ⟨.put, 7, [1], [], 7⟩] := by
  simp [SortedRev]

/-! ### the stream of an accepted watcher -/

/-- MAIN INVARIANT. Over all schedules of the pipeline (fixed fan-out), for every watcher — whatever
its registration raced with — the sequence delivered to the client is a prefix of the specified one:
for `S > 0` of `filter (rev ≥ S ∧ hasPrefix P) (all events produced so far)`; for `S = 0` of the
`P`-filtered events from the point `subAt` on (everything not yet fanned out when it subscribed). -/
theorem watch_prefix_of_spec (c : PCfg) (hcap : 0 < c.ringCap) (s : WState) (hr : Reachable c s)
    (w : W) (hw : w ∈ s.ws) : w.delivered <+: specOf w s.produced := by
  have hwi := (ginv_reachable hcap hr).ws w hw
  by_cases hl : w.phase = .live
  · obtain ⟨rest, e, _⟩ := hwi.live_accounting hl
    rw [← e, W.stream, List.append_assoc, List.append_assoc]
    exact List.prefix_append _ _
  · rw [hwi.phase.delivered_nil hl]; exact List.nil_prefix

/-- non-vacuity of `watch_prefix_of_spec` (and of the hand-over from cache to live): watcher 0 (S = 1)
subscribes after event 1 was fanned out; event 2 is produced before, event 3 after the cache read, both
reach it through its subscription in one batch; the decision hands out the cached [1, 2] and sets the
live filter to 3: the duplicate of 2 is dropped, the client sees 1, 2, 3. -/
example :
    let c : PCfg := { ringCap := 2, subCap := 4, outCap := 4 }
    let e (r : Nat) : Event := ⟨.create, r, [1], [], r⟩
    let sched : List Watch.Act :=
      [.produce (e 1), .flush, .fanout, .subscribe [] 1, .produce (e 2), .readCache 0, .produce (e 3), .flush,
       .decide 0, .fanout, .forward 0, .forward 0, .consume 0, .consume 0]
    (∀ a ∈ sched, a.fixed = true) ∧
    (run c (WState.init c) sched).ws.map (fun w => (w.from_, w.delivered.map (·.rev))) = [(3, [1, 2, 3])] := by
  decide

/-- the two readings of the specification -/
theorem spec_pos (w : W) (h : w.start ≠ 0) (E : List Event) :
    specOf w E = E.filter (fun e => decide (w.start ≤ e.rev) && hasPrefix e.key w.pfx) := by
  simp [specOf, h, matches_]

theorem spec_zero (w : W) (h : w.start = 0) (E : List Event) :
    specOf w E = (E.drop w.subAt).filter (fun e => hasPrefix e.key w.pfx) := by
  simp only [specOf, h, if_true]; rfl

/-- `S = 0`: the point from which events are delivered is not after the subscription: every event
produced after `AddWatcher` returned is part of the specified stream. -/
theorem zero_start_covers_everything_after_subscription (c : PCfg) (hcap : 0 < c.ringCap) (s : WState)
    (hr : Reachable c s) (w : W) (hw : w ∈ s.ws) :
    w.subAt ≤ w.subProduced ∧ w.subProduced ≤ s.produced.length :=
  ((ginv_reachable hcap hr).ws w hw).subLe

/-- strictly increasing revisions, hence no duplicate; every delivered event is a produced one that
matches (right kind, key, value, previous revision: the `Event` itself) -/
theorem delivered_strictly_increasing (c : PCfg) (hcap : 0 < c.ringCap) (s : WState) (hr : Reachable c s)
    (w : W) (hw : w ∈ s.ws) : SortedRev w.delivered ∧ ∀ e ∈ w.delivered, e ∈ s.produced ∧ hasPrefix e.key w.pfx = true ∧ w.start ≤ e.rev := by
  have hpre := watch_prefix_of_spec c hcap s hr w hw
  exact ⟨(ginv_reachable hcap hr).sorted.sublist (hpre.sublist.trans (specOf_sublist w _)),
    fun e he => mem_specOf (hpre.subset he)⟩

/-- no gap at quiescence: a live watcher whose subscription is still open has, once the pipeline is
drained (nothing in flight, nothing buffered), received the COMPLETE specified stream. -/
theorem complete_when_drained (c : PCfg) (hcap : 0 < c.ringCap) (s : WState) (hr : Reachable c s)
    (w : W) (hw : w ∈ s.ws) (hl : w.phase.isLive = true) (hopen : w.subClosed = false)
    (hq : inflight s = []) (h1 : w.sub = []) (h2 : w.hand = []) (h3 : w.out = []) :
    w.delivered = specOf w s.produced := by
  obtain ⟨rest, e, hr⟩ := ((ginv_reachable hcap hr).ws w hw).live_accounting (Phase.isLive_iff.1 hl)
  rw [hr hopen, hq, h1, W.stream, h2, h3] at e
  simpa using e

/-- a refused (or hung) watch delivers nothing -/
theorem refused_delivers_nothing (c : PCfg) (hcap : 0 < c.ringCap) (s : WState) (hr : Reachable c s)
    (w : W) (hw : w ∈ s.ws) (h : w.phase.isLive = false) : w.delivered = [] :=
  ((ginv_reachable hcap hr).ws w hw).phase.delivered_nil fun hl => by rw [hl] at h; cases h

/-- `catchUpEvents` never blocks with the constants of the source (regenerated: `resultChanLength`,
`eventBatchSize`): whatever the number of cached events, the catch-up loop terminates and cuts them into
at most `resultChanLength` batches, so the `hung` phase of the model is unreachable for the real
capacities. -/
theorem catch_up_never_blocks (ringCap subCap : Nat) (evs : List Event) :
    let c : PCfg := { ringCap := ringCap, subCap := subCap }
    ∃ chunks, catchUpChunks c evs = some chunks ∧ chunks.length ≤ c.outCap :=
  catchUpChunks_fits { ringCap := ringCap, subCap := subCap } (show 2 ≤ 100 by decide) (show 100 ≤ 300 + 2 by decide) evs

theorem decision_is_live_or_refused (ringCap subCap committed : Nat) (w : W) (ret : FindRet)
    (hph : w.phase = .cacheRead ret) :
    let c : PCfg := { ringCap := ringCap, subCap := subCap }
    (w.decide c committed).phase.isLive = true ∨ (w.decide c committed).phase.isRefused = true :=
  W.decide_live_or_refused { ringCap := ringCap, subCap := subCap } (show 2 ≤ 100 by decide)
    (show 100 ≤ 300 + 2 by decide) committed hph

/-! ### overflow -/

/-- Once a batch was not delivered to a subscriber (its buffer was full: ghost `missed`), the
subscription is closed in the same step, and from then on — over every continuation of the schedule —
nothing is ever put into it again: its queue only shrinks, and for a live watcher the totality of what
the client has received or will receive (`W.total`: delivered ++ result channel ++ batch in hand ++
filtered queue) never changes, so the stream only drains what it already had (a prefix of the
specification by `watch_prefix_of_spec`) and can then only close. -/
theorem no_continue_after_gap (c : PCfg) (hcap : 0 < c.ringCap) (s : WState) (hr : Reachable c s)
    (i : Nat) (w : W) (hw : s.ws[i]? = some w) (hm : w.missed = true)
    (sched : List Watch.Act) (hfix : ∀ a ∈ sched, a.fixed = true) :
    w.subClosed = true ∧
    ∃ w', (run c s sched).ws[i]? = some w' ∧ w'.subClosed = true ∧ w'.sub <:+ w.sub ∧
      (w.phase.isLive = true → w'.total = w.total ∧ w.delivered <+: w'.delivered ∧ w'.delivered <+: w.total) := by
  have hwi := (ginv_reachable hcap hr).ws w (List.mem_of_getElem? hw)
  have hc := hwi.closed hm
  refine ⟨hc, ?_⟩
  obtain ⟨w', hw', hf⟩ := frozen_run c sched hfix hw hc
  refine ⟨w', hw', hf.closed, hf.sub, fun hl => ?_⟩
  exact ⟨(hf.live hl).2.1, (hf.live hl).2.2, hf.delivered_prefix hl⟩

/-- when the frozen stream has been drained, the next step of `processEvents` closes the result channel -/
theorem closed_after_drain (c : PCfg) (w : W) (hl : w.phase.isLive = true) (hc : w.subClosed = true)
    (h1 : w.sub = []) (h2 : w.hand = []) (h3 : w.outClosed = false) : (w.forward c).outClosed = true := by
  simp [W.forward, hl, hc, h1, h2, h3]

/-- hypotheses of `no_continue_after_gap` are satisfiable: a watcher with a one-slot buffer misses the
second batch (and is closed at once) -/
example :
    let c : PCfg := { ringCap := 4, subCap := 1, outCap := 1 }
    let e1 : Event := ⟨.create, 1, [1], [], 1⟩
    let e2 : Event := ⟨.create, 2, [1], [], 2⟩
    let s := run c (WState.init c)
      [.subscribe [] 0, .readCache 0, .produce e1, .flush, .fanout, .produce e2, .flush, .fanout]
    s.ws.map (fun w => (w.missed, w.subClosed, w.sub.length)) = [(true, true, 1)] := by decide

/-! ### refusal -/

/-- the decision table refuses exactly in the `low` case and in the empty-and-not-future case -/
theorem decide_refuses_iff (pfx : Bytes) (S committed : Nat) (ret : FindRet) :
    decideRet pfx S committed ret = .refuse ↔ ((∃ o, ret = .low o) ∨ (ret = .empty ∧ S ≤ committed)) := by
  cases ret with
  | empty =>
    simp only [decideRet, reduceCtorEq, exists_false, false_or, true_and]
    split <;> simp <;> omega
  | high => simp [decideRet]
  | low o => simp [decideRet]
  | events n evs =>
    simp only [decideRet, reduceCtorEq, exists_false, false_and, or_false, iff_false]
    split <;> simp

theorem findSpec_empty_iff (cap : Nat) (evs : List Event) (S : Nat) :
    findSpec cap evs S = .empty ↔ evs.drop (evs.length - cap) = [] := by
  refine ⟨fun h => ?_, findSpec_nil S⟩
  apply Classical.byContradiction
  intro hne
  obtain ⟨oldest, newest, ho, hn⟩ := exists_ends hne
  rw [findSpec_of_ends S ho hn] at h
  split at h
  · cases h
  · split at h <;> cases h

theorem findSpec_low_iff (cap : Nat) (evs : List Event) (S : Nat) (hs : SortedRev evs) :
    (∃ o, findSpec cap evs S = .low o) ↔
    ∃ oldest, (evs.drop (evs.length - cap)).head? = some oldest ∧ S < oldest.rev := by
  by_cases hne : evs.drop (evs.length - cap) = []
  · rw [findSpec_nil S hne, hne]; simp
  · obtain ⟨oldest, newest, ho, hn⟩ := exists_ends hne
    have hle := (hs.drop _).le_last hn _ (List.mem_of_head? ho)
    rw [findSpec_of_ends S ho hn, ho]
    split
    · simp; omega
    · split <;> simp <;> omega

/-- REFUSAL, over all reachable states: when `Watch` (start revision S > 0) takes its decision, it
returns an error exactly when, at the moment the cache was read, either the cache was empty (nothing
had been produced) and S is not in the future (`S ≤ committed` at decision time), or S lies below the
oldest cached event (the needed history has been evicted). In every other case — S above the newest, or
inside the window — the watch is accepted (or, if the catch-up does not fit the result channel, hangs:
impossible for the real constants, see DESIGN-C05.md). -/
theorem refused_iff (c : PCfg) (hcap : 0 < c.ringCap) (s : WState) (hr : Reachable c s)
    (i : Nat) (w : W) (hw : s.ws[i]? = some w) (ret : FindRet) (hph : w.phase = .cacheRead ret) :
    let cached := (s.produced.take w.readAt).drop ((s.produced.take w.readAt).length - c.ringCap)
    (∃ w', (act c s (.decide i)).ws[i]? = some w' ∧ w'.phase.isRefused = true) ↔
    ((cached = [] ∧ w.start ≤ s.committed) ∨ (∃ oldest, cached.head? = some oldest ∧ w.start < oldest.rev)) := by
  intro cached
  have hg := ginv_reachable hcap hr
  have hp := (hg.ws w (List.mem_of_getElem? hw)).phase
  rw [hph] at hp
  have hstep : (act c s (.decide i)).ws[i]? = some (w.decide c s.committed) := by
    simp only [act]; rw [getElem?_updAt hw, if_pos rfl]
  simp only [hstep, Option.some.injEq, exists_eq_left']
  rw [W.decide_isRefused hph, decide_refuses_iff, hp.2.2.2.2.2, findSpec_empty_iff,
    findSpec_low_iff _ _ _ (hg.sorted.take _)]
  exact Or.comm

/-- hypotheses of `refused_iff` are satisfiable, and both sides hold: with a one-slot cache holding
event 2, a watch from revision 1 is refused -/
example :
    let c : PCfg := { ringCap := 1, subCap := 4, outCap := 4 }
    let e (r : Nat) : Event := ⟨.create, r, [1], [], r⟩
    let s := run c (WState.init c) [.produce (e 1), .produce (e 2), .subscribe [] 1, .readCache 0]
    (s.ws.map (fun w => (w.readAt, match w.phase with | .cacheRead (.low o) => o | _ => 0)) = [(2, 2)]) ∧
    ((act c s (.decide 0)).ws.map (fun w => w.phase.isRefused) = [true]) := by
  decide

/-! ### the pre-fix defect -/

/-- WITNESS of the negation for the code BEFORE d65a4b9 (`go w.DeleteWatcher(sub, true)` in the slow
branch; model actions `fanoutAsync` + `deleteRun`): watcher 0 (S = 1, one-slot buffers) misses event 2
because its buffer is full, `processEvents` then frees a slot, event 3 is fanned out to the
still-registered subscriber, and only then the spawned deletion runs. The client receives 1, 3: the
stream continued past an event it did not deliver. -/
def asyncSchedule : List Watch.Act :=
  let e (r : Nat) : Event := ⟨.create, r, [1], [], r⟩
  [.subscribe [] 1, .readCache 0, .decide 0,
   .commit 1, .produce (e 1), .flush, .fanoutAsync,
   .commit 2, .produce (e 2), .flush, .fanoutAsync,      -- buffer full: `go DeleteWatcher` spawned, event 2 missed
   .forward 0,                                           -- processEvents takes event 1 in hand: one free slot
   .commit 3, .produce (e 3), .flush, .fanoutAsync,      -- event 3 is delivered to the dropped subscriber
   .deleteRun 0,                                         -- the deletion finally runs
   .forward 0, .consume 0, .forward 0, .forward 0, .consume 0, .forward 0]

def asyncCfg : PCfg := { ringCap := 4, subCap := 1, outCap := 1 }

theorem async_delete_continues_after_gap :
    let s := run asyncCfg (WState.init asyncCfg) asyncSchedule
    s.produced.map (·.rev) = [1, 2, 3] ∧
    s.ws.map (fun w => (w.start, w.missed, w.outClosed, w.delivered.map (·.rev),
                        (specOf w s.produced).map (·.rev))) = [(1, true, true, [1, 3], [1, 2, 3])] := by
  decide

/-- the same schedule with the fixed fan-out (the deletion is part of the fan-out step): the stream
stops at the gap -/
theorem fixed_fanout_stops_at_gap :
    let sched := asyncSchedule.map (fun a => match a with | .fanoutAsync => Watch.Act.fanout | a => a)
    let s := run asyncCfg (WState.init asyncCfg) sched
    s.ws.map (fun w => (w.missed, w.outClosed, w.delivered.map (·.rev))) = [(true, true, [1])] := by
  decide

end KB.C05
