/-
  C07 with the ttl pass switched on — the compaction of an engine WITHOUT native ttl (TiKV), whose worker also
  expires Events (`worker.compactIfExpired`, scanner.go): timeout revision `T ≠ 0`, `supportTTL = false`.
  Model: `KB.passLoop` / `KB.passRun` — the worker loop as it runs, record by record, every call executed against
  the live store under an arbitrary failure mask before the next record is looked at (what the versions of an expired
  Event are in for depends on the OUTCOME of the expiry batch made at its revision record — since /repo 74218cc ONE
  write batch: compare-and-delete of the record + deletes of the versions the snapshot shows —: `goneEventRawKey` /
  `liveEventRawKey`). A crash after n calls is the mask that fails every call from n on.

  What is proved, for every sorted store, every `R`, every `T ≠ 0`, every mask:
  * a key that is not an Event, or an Event whose revision record names a revision above `T` (its newest change is
    younger than the ttl), or an Event whose revision record the pass did not remove (its expiry batch
    failed, whatever the class of the failure): every read at every revision ≥ R is unchanged, point and range,
    and what the pass removed of it is what the ordinary compaction rules remove;
  * all-or-nothing under every mask / crash point and "every key stays writable": `KB.Props.C07Atomic`;
  * the refutation of the rule as it was before "fix: the ttl pass spares the versions of an Event whose revision
    record is not expired" (`old_ttl_pass_removes_live_version`).
  In the real code `T` is the revision of an earlier compaction mark (`getTimeoutRevision`), so `T ≤ R` as long as
  compactions are requested at non-decreasing revisions; the theorems do NOT need that hypothesis (the examples
  satisfy it: `T = 5`, `R = 7`).
-/
import KB.Lemmas.ExpirePass
namespace KB.C07Expire
open KB KB.Compact KB.ExpirePass

/-- the store after one worker's pass over `recs` -/
def finalStore (c : WCfg) (mask : Nat → DelOutcome) (recs : List Rec) : Store :=
  (passRun c mask { store := encodeStore recs } recs).2.store

/-- the decoded store after the pass -/
def after (c : WCfg) (mask : Nat → DelOutcome) (recs : List Rec) : List Rec :=
  recs.filter (fun r => ((finalStore c mask recs).get r.ik).isSome)

/-- the newest change of `k` is younger than the ttl: its revision record names a revision above the timeout
revision -/
def Young (c : WCfg) (recs : List Rec) (k : Bytes) : Prop :=
  ∃ i ∈ recs, i.key = k ∧ i.rev = 0 ∧ 8 ≤ i.val.length ∧ c.timeout < fromBE (i.val.take 8)

/-- the revision record of `k` is still there after the pass -/
def IndexKept (c : WCfg) (mask : Nat → DelOutcome) (recs : List Rec) (k : Bytes) : Prop :=
  ∃ i ∈ recs, i.key = k ∧ i.rev = 0 ∧ 8 ≤ i.val.length ∧ (finalStore c mask recs).get i.ik ≠ none

/-- not expired: what C17 says the ttl pass must not remove -/
def NotExpired (c : WCfg) (recs : List Rec) (k : Bytes) : Prop := isEventKey c k = false ∨ Young c recs k

/-- the keys the ttl pass of THIS run has to leave to the ordinary compaction rules -/
def Spared (c : WCfg) (mask : Nat → DelOutcome) (recs : List Rec) (k : Bytes) : Prop :=
  NotExpired c recs k ∨ IndexKept c mask recs k

theorem sparedIn_of_spared {c : WCfg} {mask : Nat → DelOutcome} {recs : List Rec} {k : Bytes} (h : Spared c mask recs k)
    : SparedIn c (finalStore c mask recs) recs k := by
  intro hev
  rcases h with (h | ⟨i, hi, h1, h2, h3, h4⟩) | ⟨i, hi, h1, h2, h3, h4⟩
  · rw [hev] at h; cases h
  · exact ⟨i, hi, h1, h2, h3, .inl h4⟩
  · exact ⟨i, hi, h1, h2, h3, .inr h4⟩

section
variable {recs : List Rec} (hs : SortedRecs recs) (hw : WellKeyed recs)
  (hk : ∀ r ∈ recs, Alphabet r.key ∧ r.rev < 2 ^ 64) (hne : ∀ r ∈ recs, r.key ≠ [])
  (c : WCfg) (hcomp : c.compact = true) (httl : c.supportTTL = false) (hT : c.timeout ≠ 0)
  (mask : Nat → DelOutcome)
include hs hw hk hne hcomp httl hT

/-- What the pass removes of a spared key is what compaction at `R` may remove: at or below `R`; a revision record
only with the deletion flag; a version only when it is a deletion marker or superseded by a newer version ≤ R of the
same key. In particular the ttl pass removes NOTHING of it. -/
theorem spared_removed_is_deletable (k : Bytes) (hsp : Spared c mask recs k) (d : Rec) (hd : d ∈ recs)
    (hdk : d.key = k) (hgone : (finalStore c mask recs).get d.ik = none) : Deletable c.R recs d :=
  (spared_key hs hw hk hne hcomp httl hT rfl (sparedIn_of_spared hsp)).1 d hd hdk hgone

/-- **Main theorem.** A compaction pass at `R` WITH the ttl pass enabled (engine without native ttl, timeout
revision `T ≠ 0`), whatever delete calls succeed, fail (with whatever class of error) or are cut short: for every
key that is not an Event, or whose newest change is younger than the ttl (revision record above `T`), or whose
revision record the pass did not remove, every read at every revision ≥ R returns exactly what it returned
before. -/
theorem spared_reads_unchanged (k : Bytes) (hsp : Spared c mask recs k) (R' : Nat) (hR : c.R ≤ R') :
    readAt R' (after c mask recs) k = readAt R' recs k := by
  obtain ⟨hDel, hTC⟩ := spared_key hs hw hk hne hcomp httl hT rfl (sparedIn_of_spared hsp)
  have hkeep : ∀ d : Rec, ((finalStore c mask recs).get d.ik).isSome = false ↔
      (finalStore c mask recs).get d.ik = none := by
    intro d; cases (finalStore c mask recs).get d.ik <;> simp
  unfold after
  apply readAt_filter_key hs _ c.R R' hR k
  · intro d hd hdk hkd
    exact hDel d hd hdk ((hkeep d).1 hkd)
  · intro t ht htk hkt htomb hpos w hw' hwk h0 hlt
    exact (hkeep w).2 (hTC t ht htk ((hkeep t).1 hkt) htomb hpos w hw' hwk h0 hlt)

/-- The statement of C07 for the pass with expiry: a key that is NOT an event key, or whose revision record has a
revision above the timeout revision (newest change younger than the ttl) reads the same at every revision ≥ R. -/
theorem compact_preserves_reads (k : Bytes) (hk' : NotExpired c recs k) (R' : Nat) (hR : c.R ≤ R') :
    readAt R' (after c mask recs) k = readAt R' recs k :=
  spared_reads_unchanged hs hw hk hne c hcomp httl hT mask k (.inl hk') R' hR

/-- Range form: restricted to any set `sp` of spared keys the range read at every revision ≥ R is unchanged. -/
theorem spared_scan_unchanged (sp : Bytes → Bool) (hsp : ∀ k, sp k = true → Spared c mask recs k)
    (R' : Nat) (hR : c.R ≤ R') :
    (scanRecs R' (after c mask recs)).filter (fun e => sp e.1) = (scanRecs R' recs).filter (fun e => sp e.1) :=
  scan_filter_on hs _ R' sp
    (fun k hk' => spared_reads_unchanged hs hw hk hne c hcomp httl hT mask k (hsp k hk') R' hR)

/-- … in particular restricted to the keys that are not expired. -/
theorem compact_preserves_scan (sp : Bytes → Bool) (hsp : ∀ k, sp k = true → NotExpired c recs k)
    (R' : Nat) (hR : c.R ≤ R') :
    (scanRecs R' (after c mask recs)).filter (fun e => sp e.1) = (scanRecs R' recs).filter (fun e => sp e.1) :=
  spared_scan_unchanged hs hw hk hne c hcomp httl hT mask sp (fun k h => .inl (hsp k h)) R' hR

/-- An EXPIRED Event (revision record at or below the timeout revision) whose revision record the pass did not
remove — its compare-and-delete failed: the engine refused it with whatever class of error, or the record had
changed — loses NONE of its versions to expiry: whatever the pass removed of it is what the ordinary compaction rules
remove (superseded versions ≤ R, deletion markers), and every read at every revision ≥ R is unchanged. -/
theorem expired_index_failure_spares_versions (i : Rec) (hi : i ∈ recs) (hi0 : i.rev = 0)
    (h8 : 8 ≤ i.val.length) (_hexp : fromBE (i.val.take 8) ≤ c.timeout)
    (hkept : (finalStore c mask recs).get i.ik ≠ none) :
    (∀ w ∈ recs, w.key = i.key → (finalStore c mask recs).get w.ik = none → Deletable c.R recs w) ∧
    ∀ R', c.R ≤ R' → readAt R' (after c mask recs) i.key = readAt R' recs i.key := by
  have hsp : Spared c mask recs i.key := .inr ⟨i, hi, rfl, hi0, h8, hkept⟩
  exact ⟨fun w hw' hwk hg => spared_removed_is_deletable hs hw hk hne c hcomp httl hT mask i.key hsp w hw' hwk hg,
    fun R' hR => spared_reads_unchanged hs hw hk hne c hcomp httl hT mask i.key hsp R' hR⟩

end

/-- **Wholly.** An EXPIRED Event — revision record and every version at or below the timeout revision — in a pass
all of whose calls succeed: revision record and versions are gone together (in ONE engine call when the revision
record is there: `KB.C07Atomic`); the key reads absent at every revision and has no record left (so it can be created
again). (`hmax`: `expireEvent` iterates the versions below revision `MaxUint64`; no revision that large is ever
dealt.) -/
theorem expired_key_removed_wholly {recs : List Rec} (hs : SortedRecs recs) (hw : WellKeyed recs)
    (hk : ∀ r ∈ recs, Alphabet r.key ∧ r.rev < 2 ^ 64)
    (c : WCfg) (httl : c.supportTTL = false) (hT : c.timeout ≠ 0)
    (mask : Nat → DelOutcome) (hok : ∀ i, mask i = .ok) (k : Bytes) (hev : isEventKey c k = true)
    (hidx : ∀ i ∈ recs, i.key = k → i.rev = 0 → 8 ≤ i.val.length ∧ fromBE (i.val.take 8) ≤ c.timeout)
    (hver : ∀ w ∈ recs, w.key = k → w.rev ≤ c.timeout)
    (hmax : ∀ w ∈ recs, w.key = k → w.rev < 2 ^ 64 - 1) :
    (∀ w ∈ recs, w.key = k → (finalStore c mask recs).get w.ik = none) ∧
    (∀ w ∈ after c mask recs, w.key ≠ k) ∧ ∀ R', readAt R' (after c mask recs) k = none := by
  have hgone : ∀ w ∈ recs, w.key = k → (finalStore c mask recs).get w.ik = none :=
    expired_key_removed hs hw hk httl hT hok hev hidx hver hmax
  have hnot : ∀ w ∈ after c mask recs, w.key ≠ k := by
    intro w hwa hwk
    have := List.mem_filter.1 hwa
    rw [hgone w this.1 hwk] at this
    exact absurd this.2 (by decide)
  refine ⟨hgone, hnot, fun R' => ?_⟩
  unfold readAt visible
  have : (after c mask recs).filter (fun r => r.key == k && decide (0 < r.rev) && decide (r.rev ≤ R')) = [] := by
    rw [List.filter_eq_nil_iff]
    intro w hwa
    simp [hnot w hwa]
  rw [this]; rfl

/-! ### one step: a failed expiry batch is remembered -/

/-- `expireEvent` returns an error exactly when it made the call and the call did not remove the Event: the engine
answered with an error — of the failed-condition class or any other — or the record under the iterator had changed. -/
theorem expireErr_iff (mask : Nat → DelOutcome) (st : CompState) (ik v raw : Bytes) :
    expireErr mask st ik v raw = true ↔
      ¬ (st.lastFailed ≠ [] ∧ st.lastFailed = raw) ∧
      (mask st.calls = .fail ∨ mask st.calls = .failCas ∨ st.store.get ik ≠ some v) := by
  have hm : mask st.calls ≠ .ok ↔ mask st.calls = .fail ∨ mask st.calls = .failCas := by
    cases mask st.calls <;> simp
  show (!skipped st raw && (mask st.calls != .ok || st.store.get ik != some v)) = true ↔ _
  rw [Bool.and_eq_true, Bool.not_eq_true', Bool.eq_false_iff, ne_eq, skipped_iff, Bool.or_eq_true, bne_iff_ne, bne_iff_ne,
    hm, or_assoc]

/-- The worker loop at the expired revision record `r` of an Event whose expiry batch returns an error: NOTHING of
the Event is removed (revision record and versions are one batch), the key is remembered (`liveEventRawKey`), and
from then on `compactIfExpired` answers "not expired" for EVERY version of that key — they are left to the ordinary
rules. -/
theorem failed_index_delete_is_remembered (c : WCfg) (mask : Nat → DelOutcome) (snap : List Rec) (p : Prev)
    (live gone : Bytes) (st : CompState) (r : Rec) (rs : List Rec) (hidx : expiry c live gone r = .idx)
    (herr : expireErr mask st r.ik r.val r.key = true) :
    (runExpire mask st r.ik r.val (versionsOf r.key snap) r.key).store = st.store ∧
    passLoop c mask snap p live gone st (r :: rs) =
      (.expire r.ik r.val (versionsOf r.key snap) r.key ::
        (passLoop c mask snap p r.key gone (runExpire mask st r.ik r.val (versionsOf r.key snap) r.key) rs).1,
       (passLoop c mask snap p r.key gone (runExpire mask st r.ik r.val (versionsOf r.key snap) r.key) rs).2) ∧
    ∀ w : Rec, w.key = r.key → w.rev ≠ 0 → gone ≠ r.key → expireStep c r.key gone snap w = none := by
  refine ⟨?_, ?_, ?_⟩
  · rcases runExpire_cases mask st r.ik r.val (versionsOf r.key snap) r.key with ⟨_, _, h⟩ | ⟨_, h, _⟩ | ⟨_, _, h, _⟩
    · rw [h] at herr; cases herr
    · rw [h] at herr; cases herr
    · exact h
  · have he : expireStep c live gone snap r = some [.expire r.ik r.val (versionsOf r.key snap) r.key] := by
      unfold expireStep; rw [hidx]
    rw [passLoop_cons, he, passStep_idx (s := ⟨p, live, gone, st⟩) hidx]
    simp only [herr, if_true]
    rfl
  · intro w hwk hw0 hg
    unfold expireStep
    rw [expiry_live_version c hw0 hwk (hwk ▸ hg.symm)]

/-! ### the rule as it was before the fix -/

/-- the decoded store after a pass of the OLD worker (`workerActsOld`: every record of an event key at or below the
timeout revision expires on its own) -/
def afterOld (c : WCfg) (mask : Nat → DelOutcome) (recs : List Rec) : List Rec :=
  let st := runDeletes mask { store := encodeStore recs } (workerActsOld c recs)
  recs.filter (fun r => (st.store.get r.ik).isSome)

/-- events directory `/e/`, Event `/e/x`, non-event key `/n` -/
def exPfx : Bytes := [47, 101, 47]
def exE : Bytes := [47, 101, 47, 120]
def exN : Bytes := [47, 110]
/-- compaction at 7, timeout revision 5 (an earlier compaction mark: `T ≤ R`) -/
def exCfg : WCfg := { R := 7, compact := true, timeout := 5, supportTTL := false, eventsPfx := exPfx }
/-- the Event was created at 3 (value `[1]`) and updated at 9 (value `[2]`): its revision record says 9; `/n` was
created at 4 and updated at 6 -/
def exRecs : List Rec :=
  [ { key := exE, rev := 0, val := be64 9, ik := encode exE 0 },
    { key := exE, rev := 3, val := [1], ik := encode exE 3 },
    { key := exE, rev := 9, val := [2], ik := encode exE 9 },
    { key := exN, rev := 0, val := be64 6, ik := encode exN 0 },
    { key := exN, rev := 4, val := [7], ik := encode exN 4 },
    { key := exN, rev := 6, val := [8], ik := encode exN 6 } ]

/-- **Refutation of the old rule.** The Event `/e/x` was updated at 9 — after the mark at 5, its newest change is
younger than the ttl — and the compaction runs at 7. The OLD ttl pass removes the version at 3 (it is ≤ 5) although
it is what every read in [7, 9) returns: `readAt 7` flips from `[1]` to absent (point and range read), i.e.
`Compact(7)` made a live Event vanish from reads at 7. The worker as it is now remembers the key when it sees the
revision record and leaves the version alone; the hypotheses of the main theorem hold for this store. -/
theorem old_ttl_pass_removes_live_version :
    SortedRecs exRecs ∧ WellKeyed exRecs ∧ (∀ r ∈ exRecs, Alphabet r.key ∧ r.rev < 2 ^ 64) ∧
    (∀ r ∈ exRecs, r.key ≠ []) ∧
    exCfg.compact = true ∧ exCfg.supportTTL = false ∧ exCfg.timeout ≠ 0 ∧ exCfg.timeout ≤ exCfg.R ∧
    isEventKey exCfg exE = true ∧ isEventKey exCfg exN = false ∧
    -- before the pass
    readAt 7 exRecs exE = some ([1], 3) ∧ scanRecs 7 exRecs = [(exE, [1], 3), (exN, [8], 6)] ∧
    -- the old rule: the live version is gone
    readAt 7 (afterOld exCfg (fun _ => .ok) exRecs) exE = none ∧
    scanRecs 7 (afterOld exCfg (fun _ => .ok) exRecs) = [(exN, [8], 6)] ∧
    -- the rule as it is: unchanged (only `/n`'s superseded version at 4 is compacted)
    readAt 7 (after exCfg (fun _ => .ok) exRecs) exE = some ([1], 3) ∧
    scanRecs 7 (after exCfg (fun _ => .ok) exRecs) = [(exE, [1], 3), (exN, [8], 6)] ∧
    (after exCfg (fun _ => .ok) exRecs).map (fun r => (r.key, r.rev)) =
      [(exE, 0), (exE, 3), (exE, 9), (exN, 0), (exN, 6)] := by
  decide +kernel

/-! Non-vacuity -/
theorem exRecs_ok :
    SortedRecs exRecs ∧ WellKeyed exRecs ∧ (∀ r ∈ exRecs, Alphabet r.key ∧ r.rev < 2 ^ 64) ∧
    (∀ r ∈ exRecs, r.key ≠ []) ∧ exCfg.timeout ≠ 0 ∧ isEventKey exCfg exN = false :=
  have ⟨hs, hw, hk, hne, _, _, hT, _, _, hN, _⟩ := old_ttl_pass_removes_live_version
  ⟨hs, hw, hk, hne, hT, hN⟩
theorem exE_young : Young exCfg exRecs exE := ⟨_, List.mem_cons_self, rfl, rfl, by decide, by decide⟩
example : Young exCfg exRecs exE := exE_young
theorem exN_notExpired : NotExpired exCfg exRecs exN := .inl exRecs_ok.2.2.2.2.2
example : NotExpired exCfg exRecs exN := exN_notExpired
example (R' : Nat) (hR : 7 ≤ R') (mask : Nat → DelOutcome) :
    readAt R' (after exCfg mask exRecs) exE = readAt R' exRecs exE :=
  have ⟨hs, hw, hk, hne, hT, _⟩ := exRecs_ok
  compact_preserves_reads hs hw hk hne exCfg rfl rfl hT mask exE (.inr exE_young) R' hR

/-- the range read restricted to the two keys (both not expired), under any mask -/
example (R' : Nat) (hR : 7 ≤ R') (mask : Nat → DelOutcome) :
    (scanRecs R' (after exCfg mask exRecs)).filter (fun e => e.1 == exE || e.1 == exN) =
      (scanRecs R' exRecs).filter (fun e => e.1 == exE || e.1 == exN) :=
  have ⟨hs, hw, hk, hne, hT, _⟩ := exRecs_ok
  compact_preserves_scan hs hw hk hne exCfg rfl rfl hT mask (fun k => k == exE || k == exN)
    (fun k hk => by
      rcases Bool.or_eq_true_iff.1 hk with h | h <;> rw [beq_iff_eq.1 h]
      · exact .inr exE_young
      · exact exN_notExpired) R' hR

/-- an EXPIRED Event (newest change at 4 ≤ 5) with two versions, next to `/n` -/
def exOld : List Rec :=
  [ { key := exE, rev := 0, val := be64 4, ik := encode exE 0 },
    { key := exE, rev := 3, val := [1], ik := encode exE 3 },
    { key := exE, rev := 4, val := [2], ik := encode exE 4 },
    { key := exN, rev := 0, val := be64 6, ik := encode exN 0 },
    { key := exN, rev := 6, val := [8], ik := encode exN 6 } ]
example : SortedRecs exOld ∧ WellKeyed exOld := by decide +kernel
example : isEventKey exCfg exE = true ∧
    (∀ i ∈ exOld, i.key = exE → i.rev = 0 → 8 ≤ i.val.length ∧ fromBE (i.val.take 8) ≤ exCfg.timeout) ∧
    (∀ w ∈ exOld, w.key = exE → w.rev ≤ exCfg.timeout) ∧ (∀ w ∈ exOld, w.key = exE → w.rev < 2 ^ 64 - 1) := by decide +kernel
/-- all calls succeed: revision record and both versions go together — in one call -/
example : (passRun exCfg (fun _ => .ok) { store := encodeStore exOld } exOld).2.trace =
    [.expire (encode exE 0) 2] := by decide +kernel
example : (after exCfg (fun _ => .ok) exOld).map (fun r => (r.key, r.rev)) = [(exN, 0), (exN, 6)] := by decide +kernel
/-- the expiry batch (call 0) fails with a failed-condition error: nothing expires; the
version at 3, superseded by the one at 4 ≤ 7, is compacted by the ordinary rule; reads at ≥ 7 see `[2]` as before -/
example : (after exCfg (fun i => if i = 0 then .failCas else .ok) exOld).map (fun r => (r.key, r.rev)) =
    [(exE, 0), (exE, 4), (exN, 0), (exN, 6)] := by decide +kernel
/-- the hypotheses of `expired_index_failure_spares_versions` for that run: the revision record is expired and still there -/
example : fromBE ((be64 4).take 8) ≤ exCfg.timeout ∧
    (finalStore exCfg (fun i => if i = 0 then .failCas else .ok) exOld).get (encode exE 0) ≠ none := by decide +kernel
/-- … with any other error the key is also the `lastCompactFailedRawKey`: nothing of it is touched -/
example : after exCfg (fun i => if i = 0 then .fail else .ok) exOld = exOld := by decide +kernel
/-- the rule BEFORE 8442634 with the same failed-condition error (on the compare-and-delete of the revision record,
a call of its own then) removed both versions and left the revision record behind -/
example : (afterOld exCfg (fun i => if i = 0 then .failCas else .ok) exOld).map (fun r => (r.key, r.rev)) =
    [(exE, 0), (exN, 0), (exN, 6)] := by decide +kernel
example : expiry exCfg [] [] { key := exE, rev := 0, val := be64 4, ik := encode exE 0 } = .idx ∧
    expireErr (fun i => if i = 0 then .failCas else .ok) { store := encodeStore exOld } (encode exE 0) (be64 4) exE = true := by
  decide +kernel

end KB.C07Expire

#print axioms KB.C07Expire.spared_removed_is_deletable
#print axioms KB.C07Expire.spared_reads_unchanged
#print axioms KB.C07Expire.compact_preserves_reads
#print axioms KB.C07Expire.spared_scan_unchanged
#print axioms KB.C07Expire.compact_preserves_scan
#print axioms KB.C07Expire.expired_index_failure_spares_versions
#print axioms KB.C07Expire.expired_key_removed_wholly
#print axioms KB.C07Expire.expireErr_iff
#print axioms KB.C07Expire.failed_index_delete_is_remembered
#print axioms KB.C07Expire.old_ttl_pass_removes_live_version
