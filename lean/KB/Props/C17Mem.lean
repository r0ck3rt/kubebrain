/-
  C17 (in-memory engine part) — the ttl timers of pkg/storage/memkv expire the VALUE a ttl was given to.

  Model: KB.MemTTL (batch.go Commit / asyncRemove / the time.AfterFunc closure, skiplist.go store.expireAt), tied
  to the real code by the `engine` correspondence suite (batch lines with a ttl per put, `sleep`; kbcheck/props/c17.py
  `engine_ttl_case`). On memkv the backend writes an Event's index record and its version record in ONE batch with
  the same ttl (C17's `ttl_only_for_event_keys`, `native_oracle`), so the statements below, which are per engine key,
  give C17's three clauses for that engine:
    * "never removes an Event whose newest change is younger than the TTL"   → `young_value_survives`
    * "never removes keys written without a TTL"                            → `no_ttl_never_expires`
    * "removes an expired key's index and versions together"                → `expired_is_removed`,
                                                                              `same_batch_expires_together`
  All theorems quantify over ALL histories: any list of operations (batches, clock advances, timer firings in any
  order and with any delay) run from the empty store. A history is cut at the LAST batch that writes the key:
  `pre ++ .commit ws :: post` with `lastWrite ws k = some w` and no operation of `post` writing `k`; `(run pre).now`
  is the clock at that write. Since `post` is arbitrary, "the final state" is every state after that write.

  The mechanism before commit 8c76399 (`fireOld`: the timer deletes by key name) is refuted by a concrete history.
-/
import KB.Lemmas.MemTTL
namespace KB.C17Mem
open KB.MemTTL

/-! ### the invariant -/

/-- Every state reachable from the empty store: the skip list is sorted, a deadline is remembered only for a key
that has a value, and the timer of every remembered deadline is still armed. -/
theorem invariant (ops : List Op) : TTLInv (run ops) := TTLInv.init.runFrom ops

/-- the clock never runs backwards -/
theorem clock_monotone (pre post : List Op) : (run pre).now ≤ (run (pre ++ post)).now := by
  rw [run_append]
  exact runFrom_now_mono (run pre) post

/-! ### 1. a value younger than its ttl is there -/

/-- If the last write of `k` was `put v ttl` at clock `t`, then in every later state with `now < t + ttl` the store
maps `k` to `v` — whatever timers (of older writes of `k`, of other keys) have fired in between. -/
theorem young_value_survives (pre post : List Op) (ws : List (Bytes × Write)) (k v : Bytes) (ttl : Nat)
    (hlast : lastWrite ws k = some (.put v ttl))
    (hpost : ∀ op ∈ post, op.writes k = false)
    (hyoung : (run (pre ++ .commit ws :: post)).now < (run pre).now + ttl) :
    (run (pre ++ .commit ws :: post)).store.get k = some v := by
  refine congrArg Prod.fst (last_write_stays_until_deadline {} .init pre post ws k _ hlast hpost fun d hd => ?_)
  simp only [effectOf] at hd
  split at hd <;> cases hd
  exact hyoung

example : ∃ (pre post : List Op) (ws : List (Bytes × Write)) (k v : Bytes) (ttl : Nat),
    lastWrite ws k = some (.put v ttl) ∧ (∀ op ∈ post, op.writes k = false) ∧
    (run (pre ++ .commit ws :: post)).now < (run pre).now + ttl :=
  ⟨[.commit [([107], .put [1] 2)], .advance 1], [.advance 1, .fire 0], [([107], .put [2] 2)], [107], [2], 2,
    by decide⟩

/-! ### 2. a value without a ttl never vanishes -/

/-- If the last write of `k` was `put v 0`, the store maps `k` to `v` in every later state, whatever timers fire. -/
theorem no_ttl_never_expires (pre post : List Op) (ws : List (Bytes × Write)) (k v : Bytes)
    (hlast : lastWrite ws k = some (.put v 0))
    (hpost : ∀ op ∈ post, op.writes k = false) :
    (run (pre ++ .commit ws :: post)).store.get k = some v := by
  exact congrArg Prod.fst (last_write_stays_until_deadline {} .init pre post ws k _ hlast hpost (by simp [effectOf]))

example : ∃ (post : List Op) (ws : List (Bytes × Write)) (k v : Bytes),
    lastWrite ws k = some (.put v 0) ∧ (∀ op ∈ post, op.writes k = false) :=
  ⟨[.advance 5, .fire 0], [([107], .put [2] 0)], [107], [2], by decide⟩

/-! ### 3. an expired value is removed (liveness modulo the timers firing) -/

/-- If the last write of `k` was `put v ttl` (`ttl > 0`) at clock `t`, a state with `now ≥ t + ttl` in which every
timer that is due has fired (all armed timers have their deadline ahead) does not contain `k` — neither its value
nor a remembered deadline. -/
theorem expired_is_removed (pre post : List Op) (ws : List (Bytes × Write)) (k v : Bytes) (ttl : Nat)
    (hlast : lastWrite ws k = some (.put v ttl)) (httl : 0 < ttl)
    (hpost : ∀ op ∈ post, op.writes k = false)
    (hexpired : (run pre).now + ttl ≤ (run (pre ++ .commit ws :: post)).now)
    (hfired : ∀ x ∈ (run (pre ++ .commit ws :: post)).timers, (run (pre ++ .commit ws :: post)).now < x.2) :
    (run (pre ++ .commit ws :: post)).store.get k = none ∧
    alookup (run (pre ++ .commit ws :: post)).expireAt k = none := by
  rcases after_put_ttl pre post ws k v ttl hlast httl hpost with ⟨_, harmed⟩ | h
  · have := hfired _ harmed
    simp only at this
    omega
  · exact h

example : ∃ (pre post : List Op) (ws : List (Bytes × Write)) (k v : Bytes) (ttl : Nat),
    lastWrite ws k = some (.put v ttl) ∧ 0 < ttl ∧ (∀ op ∈ post, op.writes k = false) ∧
    (run pre).now + ttl ≤ (run (pre ++ .commit ws :: post)).now ∧
    (∀ x ∈ (run (pre ++ .commit ws :: post)).timers, (run (pre ++ .commit ws :: post)).now < x.2) :=
  ⟨[], [.advance 3, .fire 0], [([107], .put [1] 2)], [107], [1], 2, by decide⟩

/-- The same, one timer at a time: once `now ≥ t + ttl`, firing the timer `(k, t + ttl)` leaves `k` absent. -/
theorem expired_removed_by_its_timer (pre post : List Op) (ws : List (Bytes × Write)) (k v : Bytes) (ttl i : Nat)
    (hlast : lastWrite ws k = some (.put v ttl)) (httl : 0 < ttl)
    (hpost : ∀ op ∈ post, op.writes k = false)
    (hexpired : (run pre).now + ttl ≤ (run (pre ++ .commit ws :: post)).now)
    (htimer : (run (pre ++ .commit ws :: post)).timers[i]? = some (k, (run pre).now + ttl)) :
    (run (pre ++ .commit ws :: post ++ [.fire i])).store.get k = none := by
  rw [run_append]
  apply fire_own_timer _ (invariant _).sorted i k _ htimer hexpired
  rcases after_put_ttl pre post ws k v ttl hlast httl hpost with ⟨h, _⟩ | ⟨h, _⟩
  · exact .inr h
  · exact .inl h

/-- … and that timer IS armed as long as the key is there: an expired key is gone or removable right now. -/
theorem expired_is_removable (pre post : List Op) (ws : List (Bytes × Write)) (k v : Bytes) (ttl : Nat)
    (hlast : lastWrite ws k = some (.put v ttl)) (httl : 0 < ttl)
    (hpost : ∀ op ∈ post, op.writes k = false)
    (hexpired : (run pre).now + ttl ≤ (run (pre ++ .commit ws :: post)).now) :
    (run (pre ++ .commit ws :: post)).store.get k = none ∨
    ∃ i, (run (pre ++ .commit ws :: post)).timers[i]? = some (k, (run pre).now + ttl) ∧
      (run (pre ++ .commit ws :: post ++ [.fire i])).store.get k = none := by
  rcases after_put_ttl pre post ws k v ttl hlast httl hpost with ⟨_, harmed⟩ | ⟨h, _⟩
  · obtain ⟨i, hi⟩ := List.getElem?_of_mem harmed
    exact .inr ⟨i, hi, expired_removed_by_its_timer pre post ws k v ttl i hlast httl hpost hexpired hi⟩
  · exact .inl h

example : ∃ (pre post : List Op) (ws : List (Bytes × Write)) (k v : Bytes) (ttl i : Nat),
    lastWrite ws k = some (.put v ttl) ∧ 0 < ttl ∧ (∀ op ∈ post, op.writes k = false) ∧
    (run pre).now + ttl ≤ (run (pre ++ .commit ws :: post)).now ∧
    (run (pre ++ .commit ws :: post)).timers[i]? = some (k, (run pre).now + ttl) :=
  ⟨[], [.advance 3], [([107], .put [1] 2)], [107], [1], 2, 0, by decide⟩

/-! ### 4. records written in one batch with one ttl expire together -/

/-- Two keys written in ONE commit with the same ttl (an Event's index record and its version record) have the
same deadline `D`: before `D` both are there; from `D` on each of them is gone or can be removed at once by its own
armed timer; and once neither of the two timers is armed any more both are gone.
The two removals are two timer callbacks (two `time.AfterFunc` closures, each taking the store mutex on its own),
NOT one atomic step — that is what the code does; `same_batch_removal_is_two_steps` shows the state in between. -/
theorem same_batch_expires_together (pre post : List Op) (ws : List (Bytes × Write)) (k1 k2 v1 v2 : Bytes) (ttl : Nat)
    (h1 : lastWrite ws k1 = some (.put v1 ttl)) (h2 : lastWrite ws k2 = some (.put v2 ttl)) (httl : 0 < ttl)
    (hpost : ∀ op ∈ post, op.writes k1 = false ∧ op.writes k2 = false) :
    ((run (pre ++ .commit ws :: post)).now < (run pre).now + ttl →
      (run (pre ++ .commit ws :: post)).store.get k1 = some v1 ∧
      (run (pre ++ .commit ws :: post)).store.get k2 = some v2) ∧
    ((run pre).now + ttl ≤ (run (pre ++ .commit ws :: post)).now →
      ∀ k ∈ [k1, k2], (run (pre ++ .commit ws :: post)).store.get k = none ∨
        ∃ i, (run (pre ++ .commit ws :: post)).timers[i]? = some (k, (run pre).now + ttl) ∧
          (run (pre ++ .commit ws :: post ++ [.fire i])).store.get k = none) ∧
    (∀ k ∈ [k1, k2], (k, (run pre).now + ttl) ∉ (run (pre ++ .commit ws :: post)).timers →
      (run (pre ++ .commit ws :: post)).store.get k = none) := by
  have hp1 : ∀ op ∈ post, op.writes k1 = false := fun op h => (hpost op h).1
  have hp2 : ∀ op ∈ post, op.writes k2 = false := fun op h => (hpost op h).2
  exact ⟨fun hy => ⟨young_value_survives pre post ws k1 v1 ttl h1 hp1 hy,
                   young_value_survives pre post ws k2 v2 ttl h2 hp2 hy⟩,
    fun hexp => forall_mem_pair (expired_is_removable pre post ws k1 v1 ttl h1 httl hp1 hexp)
      (expired_is_removable pre post ws k2 v2 ttl h2 httl hp2 hexp),
    forall_mem_pair (unarmed_is_gone pre post ws k1 v1 ttl h1 httl hp1)
      (unarmed_is_gone pre post ws k2 v2 ttl h2 httl hp2)⟩

example : ∃ (post : List Op) (ws : List (Bytes × Write)) (k1 k2 v1 v2 : Bytes) (ttl : Nat),
    lastWrite ws k1 = some (.put v1 ttl) ∧ lastWrite ws k2 = some (.put v2 ttl) ∧ 0 < ttl ∧ k1 ≠ k2 ∧
    (∀ op ∈ post, op.writes k1 = false ∧ op.writes k2 = false) :=
  ⟨[.advance 3, .fire 1], [([105], .put [1] 2), ([118], .put [2] 2)], [105], [118], [1], [2], 2, by decide⟩

/-- Between the two callbacks one record of the pair is gone and the other is still there (a reader that comes
between the two closures sees it; nothing in memkv groups the timers of one batch). -/
theorem same_batch_removal_is_two_steps :
    let s := run [.commit [([105], .put [1] 2), ([118], .put [2] 2)], .advance 3, .fire 1]
    s.store.get [118] = none ∧ s.store.get [105] = some [1] := by decide

/-! ### 5. a deleted key stays deleted until it is written again -/

/-- If the last write of `k` was a delete, `k` is absent in every later state and no deadline is remembered for it
(the `delete(b.store.expireAt, k)` of Commit's delete branch): timers neither resurrect nor remove anything. -/
theorem deleted_stays_deleted_until_rewritten (pre post : List Op) (ws : List (Bytes × Write)) (k : Bytes)
    (hlast : lastWrite ws k = some .del)
    (hpost : ∀ op ∈ post, op.writes k = false) :
    (run (pre ++ .commit ws :: post)).store.get k = none ∧
    alookup (run (pre ++ .commit ws :: post)).expireAt k = none := by
  exact Prod.ext_iff.1 (last_write_stays_until_deadline {} .init pre post ws k _ hlast hpost (by simp [effectOf]))

example : ∃ (post : List Op) (ws : List (Bytes × Write)) (k : Bytes),
    lastWrite ws k = some .del ∧ (∀ op ∈ post, op.writes k = false) :=
  ⟨[.advance 5, .fire 0], [([107], .del)], [107], by decide⟩

/-- A key that no batch ever wrote is absent (timers create nothing). -/
theorem never_written_absent (ops : List Op) (k : Bytes) (h : ∀ op ∈ ops, op.writes k = false) :
    (run ops).store.get k = none := by
  rcases view_runFrom_nowrite {} TTLInv.init ops k h with h1 | ⟨d, h1, _, _⟩
  · exact congrArg Prod.fst h1
  · simp [view, alookup] at h1

/-! ### 6. the mechanism before commit 8c76399 -/

/-- put k v1 ttl=2 at 0; advance 1; put k v2 ttl=2; advance 1; the first write's timer (deadline 2) fires. -/
def renewHistory : List Op :=
  [.commit [([107], .put [1] 2)], .advance 1, .commit [([107], .put [2] 2)], .advance 1, .fire 0]

/-- OLD mechanism (the timer deletes by key name): after `renewHistory` the key is absent although its newest write
is 1 unit old and carries a ttl of 2. -/
theorem old_timer_removes_young_value :
    (runOld renewHistory).store.get [107] = none ∧ (runOld renewHistory).now = 2 := by decide

/-- The same history under the mechanism as it is now keeps the newer value. -/
theorem new_timer_keeps_young_value : (run renewHistory).store.get [107] = some [2] := by decide

/-- Hence `young_value_survives` is FALSE for the old mechanism. -/
theorem old_mechanism_refutes_young_value_survives :
    ¬ (∀ (pre post : List Op) (ws : List (Bytes × Write)) (k v : Bytes) (ttl : Nat),
        lastWrite ws k = some (.put v ttl) → (∀ op ∈ post, op.writes k = false) →
        (runOld (pre ++ .commit ws :: post)).now < (runOld pre).now + ttl →
        (runOld (pre ++ .commit ws :: post)).store.get k = some v) := by
  intro h
  have := h [.commit [([107], .put [1] 2)], .advance 1] [.advance 1, .fire 0] [([107], .put [2] 2)] [107] [2] 2
    (by decide) (by decide) (by decide)
  revert this
  decide

/-! ### the batch conditions are KB.Engine's: a batch that passes leaves the same store in both models -/

/-- A batch whose conditions hold in the reference engine (`KB.commit … = .ok s'`, C11) and the TTL model's Commit
loop over the batch's cache leave the same value for every key: the TTL model adds bookkeeping, it does not change
what a batch does to the store. (`ops` pairs every operation with the ttl handed to it.) -/
theorem commit_agrees_with_engine (q : Quirks) (st : State) (hinv : TTLInv st) (ops : List (BOp × Nat)) (s' : Store)
    (h : KB.commit q st.store (ops.map (·.1)) = .ok s') (k : Bytes) :
    (step st (.commit (ops.map (fun o => writeOf o.2 o.1)))).store.get k = s'.get k := by
  show (view (commitWrites st _) k).1 = s'.get k
  rw [view_commitWrites st hinv.sorted, C11.commit_effect q st.store s' _ h, get_foldl_effect st.store hinv.sorted]
  cases lastWrite (ops.map (fun o => writeOf o.2 o.1)) k with
  | none => rfl
  | some w => cases w <;> rfl

example : ∃ (q : Quirks) (st : State) (ops : List (BOp × Nat)) (s' : Store),
    TTLInv st ∧ KB.commit q st.store (ops.map (·.1)) = .ok s' :=
  ⟨Quirks.memkv, {}, [(.pine [107] [1], 1), (.cas [107] [2] [1], 0)], [([107], [2])], TTLInv.init, rfl⟩

end KB.C17Mem
