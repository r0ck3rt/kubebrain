/-
  C03 — A read at a revision returns exactly the MVCC snapshot at that revision.
  Property theorems only. Model: KB.Scan (worker loop), KB.Backend (getInternal, doList, doCount),
  spec: KB.Spec (visible / readAt over a sorted decoded store).
-/
import KB.Lemmas.Partition
namespace KB.C03
open KB Generated

/-- The read revision a request is served at: an explicit one, or the committed revision. -/
def readRev (R committed : Nat) : Nat := if R == 0 then committed else R

/-- Range scan = snapshot, membership form: a kv is emitted iff it is the newest version ≤ R of its
key and not a deletion. Holds for every sorted decoded store (no other well-formedness needed). -/
theorem mem_scan_iff {recs : List Rec} (hs : SortedRecs recs) (R : Nat) (k v : Bytes) (r : Nat) :
    (k, v, r) ∈ scanRecs R recs ↔ readAt R recs k = some (v, r) :=
  mem_scanRecs_iff hs R k v r

/-- ... and the result is strictly sorted by key, hence every key appears at most once. -/
theorem scan_keys_sorted {recs : List Rec} (hs : SortedRecs recs) (R : Nat) :
    (scanRecs R recs).Pairwise (fun a b => cmp a.1 b.1 = .lt) :=
  scanRecs_sorted hs R

/-- Re-reading an old snapshot after further writes gives the same answer: records with a
revision above R (and index records, revision 0) are invisible to a read at R. -/
theorem stable_reread {recs : List Rec} (R : Nat) (k : Bytes) :
    readAt R (recs.filter (fun r => decide (0 < r.rev) && decide (r.rev ≤ R))) k = readAt R recs k := by
  rw [readAt_def, readAt_def, visible_filter_live]

/-- Any value other than the reserved deletion marker is returned byte for byte.
(The full statement "any non-empty value" is FALSE of the code: see `tombstone_value_lost`.) -/
theorem value_roundtrip_partial {recs : List Rec} (R : Nat) (k : Bytes) (r : Rec)
    (h : visible R recs k = some r) (hv : r.val ≠ tombstone) : readAt R recs k = some (r.val, r.rev) := by
  have ht : isTomb r.val = false := by simpa [isTomb] using hv
  simp [readAt, h, ht]

/-- Witness of the negation of the full statement (known finding): a record whose value is the
literal bytes "tombstone" reads as absent. Replayed on the implementation on every run. -/
theorem tombstone_value_lost :
    readAt 5 [{ key := [47, 97], rev := 5, val := tombstone, ik := encode [47, 97] 5 }] [47, 97] = none := by
  decide

/-- Point read (`getInternalVal`) on the encoded store, for every adapter deviation the interface
leaves open (`Quirks`): the first element of the descending iteration, after decode-and-compare,
is exactly the newest version ≤ R. -/
theorem get_spec (c : Cfg) {recs : List Rec} (hs : SortedRecs recs)
    (hk : ∀ r ∈ recs, Alphabet r.key ∧ r.rev < 2 ^ 64) (k : Bytes) (hka : Alphabet k)
    (R : Nat) (hR : R < 2 ^ 64) :
    getInternal c (encodeStore recs) k R =
      (visible (if R == 0 then 2 ^ 64 - 1 else R) recs k).map (fun r => (r.val, r.rev)) :=
  getInternal_encodeStore c hs hk k hka R hR

/-- Unlimited / limited range read through `Backend.List` on an engine with one partition:
the kvs are the scan of exactly the records of the raw keys in `[a, b)`; with a limit the first
`n` of them, and `more` is set exactly when the limit cut the result short. -/
theorem list_spec (c : Cfg) (hsplit : c.splits = []) (s : BState) {recs : List Rec}
    (hstore : s.store = encodeStore recs) (hs : SortedRecs recs)
    (hk : ∀ r ∈ recs, Alphabet r.key ∧ r.rev < 2 ^ 64)
    (a b : Bytes) (ha : Alphabet a) (hb : Alphabet b) (hab : cmp a b = .lt) (R n : Nat) :
    let full := scanRecs (readRev R s.committed) (recs.filter (fun r => ble a r.key && blt r.key b))
    ∃ res, doList c s a b R n = .ok res ∧ res.hdr = hdrOf s.committed res.kvs ∧
      res.kvs = (if n = 0 then full else full.take n) ∧ (res.more = true ↔ (0 < n ∧ n < full.length)) := by
  have _ := ha; have _ := hb  -- the bounds need not be over the alphabet: `KB.doList_general`
  exact ⟨_, doList_general c (hsplit ▸ .nil) (hsplit ▸ nofun) s hstore hs hk hab R n rfl, rfl, rfl, decide_eq_true_iff⟩

/-- Count = number of kvs of the unlimited read at the committed revision. -/
theorem count_spec (c : Cfg) (hsplit : c.splits = []) (hcompat : c.etcdCompat = true) (s : BState)
    {recs : List Rec} (hstore : s.store = encodeStore recs) (hs : SortedRecs recs)
    (hk : ∀ r ∈ recs, Alphabet r.key ∧ r.rev < 2 ^ 64)
    (a b : Bytes) (ha : Alphabet a) (hb : Alphabet b) (hab : cmp a b = .lt) :
    doCount c s a b = .ok (s.committed,
      (scanRecs s.committed (recs.filter (fun r => ble a r.key && blt r.key b))).length) := by
  have _ := ha; have _ := hb
  exact doCount_general c (hsplit ▸ .nil) (hsplit ▸ nofun) hcompat s hstore hs hk hab

/-! Non-vacuity: a sorted store with prefix-related keys, an index record, a tombstone. -/
def exRecs : List Rec :=
  [ { key := [47, 97], rev := 0, val := be64 7 ++ [0], ik := encode [47, 97] 0 },
    { key := [47, 97], rev := 3, val := [1], ik := encode [47, 97] 3 },
    { key := [47, 97], rev := 7, val := tombstone, ik := encode [47, 97] 7 },
    { key := [47, 97, 47, 98], rev := 0, val := be64 5, ik := encode [47, 97, 47, 98] 0 },
    { key := [47, 97, 47, 98], rev := 5, val := [2], ik := encode [47, 97, 47, 98] 5 } ]
example : SortedRecs exRecs := by decide
example : scanRecs 6 exRecs = [([47, 97], [1], 3), ([47, 97, 47, 98], [2], 5)] := by decide
example : scanRecs 7 exRecs = [([47, 97, 47, 98], [2], 5)] := by decide

end KB.C03
