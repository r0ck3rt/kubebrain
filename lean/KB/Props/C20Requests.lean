/-
  C20 (request part) — no request can crash or wedge a node.
  The model's handlers are total functions over ALL request structures (any bytes, any revision), so
  "answers with a response or an error" holds of the model by construction; the substantive statements
  are: (1) hostile revisions (negative through the etcd API = huge after the uint64 cast, far-future,
  zero) take the rejection path and their revision is still resolved; (2) after ANY schedule of ANY
  requests the node keeps serving: once in-flight requests have returned the read revision catches up
  (C04) and a following create + read of a fresh key behaves normally; (3) since /repo 5ace897 `Decode`
  reports a key too short to be an internal key instead of indexing out of range: NO key in the store and NO
  partition border (client-supplied range-stream borders of 1, 4, 12 bytes included) makes a range read, a
  count or a streamed range panic — `list_never_panics`, `stream_with_any_borders_never_panics`; the one panic
  left in the backend model is characterised (`compact_panics_only_in_ttl_pass`).
-/
import KB.Lemmas.Serve
import KB.Lemmas.Total
namespace KB.C20Requests
open Generated

/-- `uint64(x)` for an `int64` x, as in backendshim.go / watch.go. -/
def castRev (x : Int) : Nat := (x % (2 ^ 64 : Int)).toNat

theorem cast_nonneg (x : Int) (h0 : 0 ≤ x) (h1 : x < 2 ^ 63) : castRev x = x.toNat := by
  unfold castRev
  have e : (2 : Int) ^ 64 = 18446744073709551616 := by decide
  have e3 : (2 : Int) ^ 63 = 9223372036854775808 := by decide
  rw [e]; rw [e3] at h1
  rw [Int.emod_eq_of_lt h0 (by omega)]

/-- A negative etcd revision becomes a revision at or above 2^63: beyond anything ever dealt. -/
theorem cast_negative_is_far_future (x : Int) (hx : x < 0) (hlo : -(2 ^ 63 : Int) ≤ x) :
    2 ^ 63 ≤ castRev x ∧ castRev x < 2 ^ 64 := by
  unfold castRev
  omega

/-- Such a guarded update is rejected with the drift error in its very first step, and the revision it
consumed is reported to the sequencer (slot filled): it cannot wedge the node. The drift path is taken by
every expectation at or above the revision the request is dealt (`dealt + 1 ≤ exp`; backend.go `deal`:
`rev <= prevRevision`), the boundary case included. `hopen`: the request is dealt a revision at all - since /repo
624b477 `Deal` refuses while the sequencer's ring is full, and then NO revision is consumed
(`C04Window.window_full_is_refused_not_panicked`): 100000 such requests behind one slow write no longer kill the node. -/
theorem far_future_update_rejected_and_resolved (g : G) (id : Nat) (k v : Bytes) (exp : Nat)
    (hfree : g.client id = none) (hopen : g.windowFull = false) (hexp : g.dealt + 1 ≤ exp) :
    let g' := run g [.begin id (.update k v exp), .step id .none]
    g'.client id = none ∧ (∃ d ∈ g'.done, d.id = id ∧ d.res = .error .drift ∧ d.rev = g.dealt + 1) ∧
    (∃ w ∈ g'.slots, w.rev = g.dealt + 1 ∧ w.valid = false) := by
  intro g'
  rw [show g' = _ from run_update_drift g id k v exp hfree hopen hexp]
  exact ⟨hfree, ⟨_, List.mem_append_right _ (List.mem_singleton_self _), rfl, rfl, rfl⟩,
    ⟨_, List.mem_append_right _ (List.mem_singleton_self _), rfl, rfl⟩⟩

/-- Same for a guarded delete of an existing key. -/
theorem far_future_delete_rejected_and_resolved (g : G) (id : Nat) (k : Bytes) (exp : Nat)
    (hfree : g.client id = none) (hopen : g.windowFull = false) (hexp : g.dealt + 1 ≤ exp) (v : Bytes) (m : Nat)
    (hfound : bget g.cfg g.store k 0 = .found v m) :
    let g' := run g [.begin id (.delete k exp), .step id .none, .step id .none]
    g'.client id = none ∧ (∃ d ∈ g'.done, d.id = id ∧ d.res = .error .drift ∧ d.rev = g.dealt + 1) ∧
    (∃ w ∈ g'.slots, w.rev = g.dealt + 1 ∧ w.valid = false) := by
  intro g'
  rw [show g' = _ from run_delete_drift g id k exp hfree hopen hexp v m hfound]
  exact ⟨hfree, ⟨_, List.mem_append_right _ (List.mem_singleton_self _), rfl, rfl, rfl⟩,
    ⟨_, List.mem_append_right _ (List.mem_singleton_self _), rfl, rfl⟩⟩

/-- Why `probe_after_anything` asks for `hal` (the store holds only records of keys over the alphabet). From the empty
initial state, request 1 creates the
hostile key `"2$\xff\xff\xff\xff\xff\xff\xff\xfe"` (it contains the split byte `$`, so it is outside the documented
alphabet) and the sequencer consumes it: the state is quiescent, `dealt = committed = 1`. The probe creates
`"2"`: the create succeeds at revision 2 and `committed` reaches 2 — but every internal key of the hostile
key lies between `("2", 2)` and `("2", 2^64-1)`, so the descending point read of `"2"` meets a record of the
other key first, decode-and-compare fails and the read answers "not found". The hypotheses of `probe_after_anything`
other than `hal` that the theorem below lists hold (also `v ≠ []` and the identifier is unused). -/
def cexHostile : Bytes := [50, 36, 255, 255, 255, 255, 255, 255, 255, 254]
def cexSched : List Action := [.begin 1 (.create cexHostile [1]), .step 1 .none, .step 1 .none, .seq]
def cexG : G := run {} cexSched

theorem probe_after_anything_counterexample :
    C02.Init {} ∧ C02.StoreOK {} ∧ Reachable {} cexG ∧ cexG.clients = [] ∧ cexG.dealt + 1 < 2 ^ 64 ∧
    cexG.cfg.q.casMissingNotFound = false ∧ Alphabet [50] ∧ ([1] : Bytes) ≠ tombstone ∧ ([1] : Bytes) ≠ [] ∧
    cexG.store.get (idxKey [50]) = none ∧
    (let g1 := run cexG ([.begin 7 (.create [50] [1]), .step 7 .none, .step 7 .none] ++
                      List.replicate (cexG.dealt + 1 - cexG.committed) Action.seq)
     (∃ d ∈ g1.done, d.id = 7 ∧ d.res = .ok (cexG.dealt + 1)) ∧ g1.committed = cexG.dealt + 1 ∧
     bget g1.cfg g1.store [50] 0 = .notFound 0 ∧
     bget g1.cfg g1.store [50] 0 ≠ .found [1] (cexG.dealt + 1)) := by
  refine ⟨⟨by decide, rfl, rfl, rfl⟩, ⟨[], rfl, List.Pairwise.nil, by simp, by decide⟩, ⟨cexSched, rfl⟩,
    by decide, by decide, by decide, by decide, by decide, by decide, by decide, ?_, by decide, by decide, by decide⟩
  exact ⟨⟨7, .create [50] [1], .ok 2, 2, 1, 2⟩, by decide, by decide, by decide⟩

/-- hence `probe_after_anything` without `hal` is refutable (`hp`, `hopen` left out as well: they hold of `cexG`) -/
theorem probe_after_anything_false :
    ¬ (∀ {g0 g : G} (_ : C02.Init g0) (_ : C02.StoreOK g0) (_ : Reachable g0 g)
      (_ : g.clients = []) (_ : g.dealt + 1 < 2 ^ 64) (_ : g.cfg.q.casMissingNotFound = false)
      (id : Nat) (k v : Bytes) (_ : Alphabet k) (_ : v ≠ tombstone)
      (_ : g.store.get (idxKey k) = none),
      let g1 := run g ([.begin id (.create k v), .step id .none, .step id .none] ++
                        List.replicate (g.dealt + 1 - g.committed) Action.seq)
      (∃ d ∈ g1.done, d.id = id ∧ d.res = .ok (g.dealt + 1)) ∧ g1.committed = g.dealt + 1 ∧
      bget g1.cfg g1.store k 0 = .found v (g.dealt + 1)) := by
  intro h
  obtain ⟨h0, hs, hr, hq, hb, hcm, hk, hv, _, hfresh, _, _, _, hne⟩ := probe_after_anything_counterexample
  exact hne (h h0 hs hr hq hb hcm 7 [50] [1] hk hv hfresh).2.2

/-- After any reachable state with nothing in flight a create + read of a fresh key is served, provided the store holds
only records of keys over the documented alphabet
(`hal`; true of every state reached by requests whose keys are over the alphabet, see
`probe_after_alphabet_requests`). The first two conjuncts (the create succeeds, the read revision catches up)
do not need `hal`. `hopen`: the sequencer is not a whole ring of unconsumed slots behind (`Deal` would refuse the
probe: /repo 624b477); it holds e.g. whenever the read revision has caught up. -/
theorem probe_after_anything {g0 g : G} (h0 : C02.Init g0) (hs : C02.StoreOK g0) (hr : Reachable g0 g)
    (hq : g.clients = []) (hp : g.retryPc = none) (hb : g.dealt + 1 < 2 ^ 64) (hopen : g.windowFull = false)
    (_hcm : g.cfg.q.casMissingNotFound = false)
    (hal : ∀ kv ∈ g.store, ∃ k' r, kv.1 = encode k' r ∧ Alphabet k')
    (id : Nat) (k v : Bytes) (hk : Alphabet k) (hv : v ≠ tombstone)
    (hfresh : g.store.get (idxKey k) = none) :
    let g1 := run g ([.begin id (.create k v), .step id .none, .step id .none] ++
                      List.replicate (g.dealt + 1 - g.committed) Action.seq)
    (∃ d ∈ g1.done, d.id = id ∧ d.res = .ok (g.dealt + 1)) ∧ g1.committed = g.dealt + 1 ∧
    bget g1.cfg g1.store k 0 = .found v (g.dealt + 1) :=
  probe_serves h0 hs hr hq hp hb hopen hal id k v hk hv hfresh

/-- Why `hp` ("the retry loop is not in the middle of a repair"): with no request in flight but the retry
loop between its read and its commit, the probe's create is acknowledged, yet the read revision cannot pass the
revision the repair holds until the repair commits (the probe is then served, `C04.quiescent_catches_up`). -/
def midRepairSched : List Action :=
  [.begin 1 (.create [97] [1]), .step 1 .none, .step 1 .uncApplied, .seq, .retryRead]

theorem probe_needs_idle_repair :
    let g := run {} midRepairSched
    let g1 := run g ([.begin 7 (.create [98] [1]), .step 7 .none, .step 7 .none] ++
                      List.replicate (g.dealt + 1 - g.committed) Action.seq)
    g.clients = [] ∧ g.retryPc ≠ none ∧ (∃ d ∈ g1.done, d.id = 7 ∧ d.res = .ok (g.dealt + 1)) ∧
      g1.committed < g.dealt + 1 ∧
      (run g1 [.retryCommit .none, .seq, .seq]).committed = g.dealt + 1 := by
  decide

/-- The same at the level of requests: after ANY schedule (any interleaving, any expected
revisions, any values, storage faults, retries) of requests whose keys are over the documented alphabet, once
nothing is in flight (no request, and the retry loop not in the middle of a repair), a create of a key without index record succeeds at the next revision, the read revision
catches up and the point read returns it. -/
theorem probe_after_alphabet_requests {g0 : G} (h0 : C02.Init g0) (hs : C02.StoreOK g0) (sched : List Action)
    (hsa : ∀ a ∈ sched, ∀ id kind, a = .begin id kind → Alphabet kind.key)
    (hq : (run g0 sched).clients = []) (hp : (run g0 sched).retryPc = none) (hb : (run g0 sched).dealt + 1 < 2 ^ 64)
    (hopen : (run g0 sched).windowFull = false)
    (id : Nat) (k v : Bytes) (hk : Alphabet k) (hv : v ≠ tombstone)
    (hfresh : (run g0 sched).store.get (idxKey k) = none) :
    let g := run g0 sched
    let g1 := run g ([.begin id (.create k v), .step id .none, .step id .none] ++
                      List.replicate (g.dealt + 1 - g.committed) Action.seq)
    (∃ d ∈ g1.done, d.id = id ∧ d.res = .ok (g.dealt + 1)) ∧ g1.committed = g.dealt + 1 ∧
    bget g1.cfg g1.store k 0 = .found v (g.dealt + 1) :=
  probe_serves h0 hs ⟨sched, rfl⟩ hq hp hb hopen ((AlphaInv.init h0 hs).run sched hsa).st id k v hk hv hfresh

/-- `Decode` decodes what the store holds: every internal key written by the backend is an `encode k r`, which
is at least 13 bytes long and decodes. (Before /repo 5ace897 this was what kept `Decode`'s index-out-of-range
away from stored keys; now `Decode` is total — next theorems.) -/
theorem stored_keys_decode (k : Bytes) (r : Nat) (hr : r < 2 ^ 64) :
    decode (encode k r) = .ok k r ∧ 13 ≤ (encode k r).length := by
  refine ⟨decode_encode k r hr, ?_⟩
  rw [encode_length, magic_length]; omega

/-- `Decode` is total: ANY bytes are decoded or reported, never an index out of range (/repo 5ace897). -/
theorem decode_total (ik : Bytes) : decode ik ≠ .panic ∧ (decode ik = .err ∨ ∃ k r, decode ik = .ok k r) :=
  ⟨decode_never_panics ik, KB.decode_total ik⟩

/-- Border adjustment (`adjustPartitionsBorders`) is total: ANY partition borders — whatever the engine hands
over, client-supplied bytes clipped into a region included. -/
theorem adjustBorders_total (ps : List (Bytes × Bytes)) : ∃ out, adjustBorders none ps = some out :=
  KB.adjustBorders_total none ps

/-- ... in particular a short border (1 byte, the bare magic, 12 bytes) is left alone, where the old code died
(`C10.old_decode_panics`). -/
theorem short_border_left_alone (pe : Option Bytes) (s e : Bytes) (he : e.length < 13) (rest out : List (Bytes × Bytes))
    (hne : rest ≠ []) (h : adjustBorders (some e) rest = some out) :
    adjustBorders pe ((s, e) :: rest) = some ((pe.getD s, e) :: out) := by
  rw [adjustBorders.eq_3 pe s e rest (fun h => hne h), decode_short he]
  simp [h]

/-- A STREAMED RANGE WITH ANY BORDERS NEVER PANICS: for ARBITRARY client-supplied border bytes `start`, `stop`
(`ListByStream` hands them to the scanner as they are: 1 byte, the bare magic, 12 bytes, anything), ANY
partitioning (any region borders `c.splits`, in any order), ANY store (well-formed or not), any revision — the
answer of `doStream` / `scanParts` is a result or an error, never the crash of the scan goroutine. -/
theorem stream_with_any_borders_never_panics (c : Cfg) (s : BState) (start stop : Bytes) (rev : Nat) :
    ((∃ res, doStream c s start stop rev = .ok res) ∨ (∃ e, doStream c s start stop rev = .error e)) ∧
    ((∃ outs, scanParts c s.store start stop rev = .ok outs) ∨ (∃ e, scanParts c s.store start stop rev = .error e)) :=
  ⟨ScanRes.notPanic_iff.mp (doStream_notPanic c s start stop rev),
   ScanRes.notPanic_iff.mp (scanParts_notPanic c s.store start stop rev)⟩

/-- ... `doStream` in fact always hands back a stream (a scan error becomes its terminator). -/
theorem stream_always_answers (c : Cfg) (s : BState) (start stop : Bytes) (rev : Nat) :
    ∃ res, doStream c s start stop rev = .ok res := by
  have hnp := scanParts_notPanic c s.store start stop (if rev == 0 then s.committed else rev)
  unfold doStream
  simp only []
  split
  · exact ⟨_, rfl⟩
  · exact ⟨_, rfl⟩
  · rename_i h; rw [h] at hnp; exact hnp.elim

/-- RANGE READS AND COUNTS NEVER PANIC: any store, any bounds (any bytes), any limit, any revision, any
partitioning. -/
theorem list_never_panics (c : Cfg) (s : BState) (key stop : Bytes) (rev limit : Nat) :
    ((∃ res, doList c s key stop rev limit = .ok res) ∨ (∃ e, doList c s key stop rev limit = .error e)) ∧
    ((∃ res, doCount c s key stop = .ok res) ∨ (∃ e, doCount c s key stop = .error e)) :=
  ⟨ScanRes.notPanic_iff.mp (doList_notPanic c s key stop rev limit),
   ScanRes.notPanic_iff.mp (doCount_notPanic c s key stop)⟩

/-- WHAT REMAINS ABLE TO PANIC IN THE BACKEND MODEL, and why: only a compaction, only in its TTL pass
(`compactIfExpired`, scanner.go: `binary.BigEndian.Uint64(value)` on the revision record of an event key) — on
an engine WITHOUT native TTL (TiKV), with a non-zero timeout revision, on a revision record (revision 0) of a key
under the events prefix whose value is shorter than 8 bytes. The backend writes revision-record values of 8 or 9
bytes only (C10 `parseRevision_live`, `parseRevision_deleted`), so this takes a store not written by the backend. -/
theorem compact_panics_only_in_ttl_pass (c : Cfg) (s : BState) (rev : Nat) (mask : Nat → DelOutcome)
    (h : ¬ ((∃ r, (doCompact c s rev mask).1 = .ok r) ∨ (∃ e, (doCompact c s rev mask).1 = .error e))) :
    c.q.supportTTL = false ∧
      ∃ (w : WCfg) (recs : List Rec), w.supportTTL = false ∧ w.timeout ≠ 0 ∧ w.eventsPfx = eventsPrefixOf c ∧
        ∃ r ∈ recs, r.rev = 0 ∧ isEventKey w r.key = true ∧ r.val.length < 8 :=
  doCompact_panic_source (fun hnp => h (ScanRes.notPanic_iff.mp hnp))

/-- ... never on an engine with native TTL (memkv, Badger). -/
theorem compact_never_panics_native_ttl (c : Cfg) (hq : c.q.supportTTL = true) (s : BState) (rev : Nat)
    (mask : Nat → DelOutcome) :
    (∃ r, (doCompact c s rev mask).1 = .ok r) ∨ (∃ e, (doCompact c s rev mask).1 = .error e) :=
  ScanRes.notPanic_iff.mp (doCompact_notPanic_native_ttl c hq s rev mask)

/-- The numbers: a two-region engine split at an internal key, a streamed range whose END is 1 byte, the bare
magic (4 bytes — the request that killed the process before /repo 5ace897: the TiKV adapter clips the end into
every region, `adjustPartitionsBorders` decodes it) or 12 bytes, and whose START is such bytes: each is answered
with an (empty) stream; the old `Decode` indexed out of range on the very same borders. -/
theorem short_border_stream_witness :
    let c : Cfg := { q := Quirks.tikv, splits := [encode [47, 114, 47, 98] 0] }
    let s : BState := { ring := Ring.new 1, dealt := 1000, committed := 1000, store := [(encode [47, 114, 47, 97] 5, [1])] }
    (∀ b ∈ [[47], magic, magic ++ [36, 0, 0, 0, 0, 0, 0, 0]],
      (match doStream c s [47, 114, 47] b 0 with | .ok r => r.endErr == none | _ => false) = true ∧
      (match doStream c s b [47, 114, 48] 0 with | .ok r => r.endErr == none | _ => false) = true) ∧
    decodeOld [47] = .panic ∧ decodeOld magic = .panic := by
  decide

/-- and the two raw records outside the magic range (`<prefix>/compact_key`) are never handed to
`Decode` by a scan of an object range: they do not lie between two encoded bounds. -/
theorem compact_key_outside_object_ranges (c : Cfg) (a b : Bytes) (ha : Alphabet a) (hb : Alphabet b)
    (h0 : c.pfx.head? ≠ some 87) :
    ¬ (ble (encode a 0) (compactKeyOf c) = true ∧ blt (compactKeyOf c) (encode b 0) = true) := by
  have _ := ha; have _ := hb
  rintro ⟨h1, h2⟩
  rw [ble_iff] at h1
  rw [blt_iff] at h2
  cases hp : c.pfx with
  | nil =>
    apply h1
    simp [compactKeyOf, hp, encode, magic, cmp_cons_cons]
  | cons x xs =>
    rw [hp] at h0
    simp only [List.head?_cons, ne_eq, Option.some.injEq] at h0
    simp only [compactKeyOf, hp, encode, magic, List.cons_append, cmp_cons_cons] at h1 h2
    by_cases hx : x < 87
    · simp [hx] at h1
      omega
    · have : 87 < x := by omega
      simp [this, hx] at h2

/-! Non-vacuity of `short_border_left_alone`, `compact_panics_only_in_ttl_pass`, `compact_never_panics_native_ttl`. -/
example : ([87, 251, 128, 139] : Bytes).length < 13 ∧ ([(([1] : Bytes), ([2] : Bytes))] : List (Bytes × Bytes)) ≠ [] ∧
    adjustBorders (some [87, 251, 128, 139]) [([1], [2])] = some [([87, 251, 128, 139], [2])] := by decide
-- compact_panics_only_in_ttl_pass: its hypothesis (the compaction is answered with neither a result nor an error) occurs —
-- TiKV, a mark older than the TTL, a revision record of an event key with a 1-byte value
example : ¬ ((∃ r, (doCompact { q := Quirks.tikv, pfx := [47, 114], ttl := 1 }
      { ring := Ring.new 4, dealt := 1000, committed := 1000, marks := [(900, 0)], now := 10,
        store := [(encode [47, 114, 47, 101, 118, 101, 110, 116, 115, 47, 120] 0, [1])] } 950 (fun _ => .ok)).1 = .ok r) ∨
    (∃ e, (doCompact { q := Quirks.tikv, pfx := [47, 114], ttl := 1 }
      { ring := Ring.new 4, dealt := 1000, committed := 1000, marks := [(900, 0)], now := 10,
        store := [(encode [47, 114, 47, 101, 118, 101, 110, 116, 115, 47, 120] 0, [1])] } 950 (fun _ => .ok)).1 = .error e)) := by
  rw [← ScanRes.notPanic_iff]
  decide
example : Quirks.memkv.supportTTL = true ∧ Quirks.badger.supportTTL = true ∧ Quirks.tikv.supportTTL = false := by decide

end KB.C20Requests
