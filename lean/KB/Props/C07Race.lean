/-
  C07Race — compaction racing concurrent writers: C07's quantifier "all interleavings with concurrent
  writes to the keys being compacted".

  Model. The compactor computes its delete actions from a SNAPSHOT `recs0` of the store (all three engines
  iterate over a snapshot: tikv's iterator reads at the fixed timestamp `w.tso` (scanner.go `worker.run`:
  `w.store.Iter(…, w.tso, 0)`); memkv's `iter.init` copies the range under the store mutex; Badger's iterator
  lives in a read transaction) and executes them one call at a
  time (scanner.go `compactKey` = unconditional `Del`, `compactCurrent` = compare-and-delete `DelCurrent`)
  against the LIVE store. Between any two calls writers commit atomic batches of the
  shapes of creator/naive.go (`create`, `update`) and txn.go (update, delete, retry), each at a freshly
  dealt revision, hence above the compaction revision `R` (compact.go `Compact` clamps `R` to the committed
  revision). `Step.compDel` is one `KB.runDelete`; `Step.write ops` is one `KB.commit` (a failed commit
  changes nothing).

  Results (all for every interleaving, EVERY failure mask — any mix of ok / error / failed-condition error
  on plain deletes and compare-and-deletes, hence every crash point —, every engine quirk set):
    * `compDel_invisible`     one more compactor call changes no read at any R' ≥ R and no key's logical
                              index (absent / live at rev): deleted keys do not reappear, live keys do not
                              vanish, every key stays writable with normal semantics;
    * `race_equals_restored`  in the final state of any run, reads at R' ≥ R equal the reads of the store
                              with every removed snapshot version put back;
    * `race_equals_keep`      ... and equal the reads of the SAME run executed by a compactor that never
                              deletes a version (it only collects flagged index records); in that run every
                              writer commit has the same outcome and every key the same logical index;
    * `Inv`, `inv_init`, `writer_batch_preserves_wf`, `compDel_preserves_wf`: the invariant, explicitly.

  Hypotheses beyond `compact_preserves_reads`: `IdxWF recs0` — no index record of the snapshot has the
  deletion MARKER ("tombstone") as its value. The backend only ever writes `be8 rev` / `be8 rev ++ [0]`
  there; without it the logical-index half is false (`idx_marker_value_breaks`), because the worker's
  "delete tombstone data" branch (scanner.go `worker.run`) does not look at the revision and would `Del` such an
  index record unconditionally.

  FINDING, since repaired in the code (`recreate_after_index_gc_conflicts` is the batch-level fact):
  creator/naive.go `CreateWithTTL` first commits `PutIfNotExist(index)`; on a conflict it takes the old
  index value and, if that carries the deletion flag, commits `CAS(index, new, old)`. If the compactor's
  `DelCurrent` removes the flagged index record BETWEEN those two commits, the CAS is refused although the
  key is absent. Before the fix ("fix: a create over a deleted key whose revision record is compacted
  mid-request creates the key") the create was then answered `Succeeded: false` — an unjustified failed
  condition (property C01, last clause; replayed on the real code by the gated harness). Now the creator
  re-reads the index after the refused CAS and, finding it gone, commits the plain create again
  (`Pc.createRecheck` in KB.Sys). Nothing is written by the refused commit and the store stays consistent.
-/
import KB.Lemmas.CompactRace
import KB.Props.C07
namespace KB.C07Race
open KB KB.Compact KB.Race KB.C07 Generated

inductive Step where
  /-- the compactor performs its next action (one `runDelete`: a delete call, or a no-op for `emit`) -/
  | compDel
  /-- a writer's batch commit (atomic; a failed commit changes nothing) -/
  | write (ops : List BOp)
  deriving Repr, DecidableEq

structure RState where
  /-- live store + `lastFailed` + call counter + ghost trace of the delete calls -/
  comp : CompState
  /-- the compactor's remaining actions, computed from the snapshot -/
  pending : List Act
  deriving Repr

def step (q : Quirks) (mask : Nat → DelOutcome) (s : RState) : Step → RState
  | .compDel =>
    match s.pending with
    | [] => s
    | a :: rest => { comp := runDelete mask s.comp a, pending := rest }
  | .write ops =>
    match commit q s.comp.store ops with
    | .ok st' => { s with comp := { s.comp with store := st' } }
    | .error _ => s

theorem step_compDel_nil {q : Quirks} {mask : Nat → DelOutcome} {s : RState} (h : s.pending = []) :
    step q mask s .compDel = s := by simp [step, h]

theorem step_compDel_cons {q : Quirks} {mask : Nat → DelOutcome} {s : RState} {a : Act} {rest : List Act}
    (h : s.pending = a :: rest) :
    step q mask s .compDel = { comp := runDelete mask s.comp a, pending := rest } := by simp [step, h]

theorem step_write_ok {q : Quirks} {mask : Nat → DelOutcome} {s : RState} {ops : List BOp} {st' : Store}
    (h : commit q s.comp.store ops = .ok st') :
    step q mask s (.write ops) = { s with comp := { s.comp with store := st' } } := by simp [step, h]

theorem step_write_error {q : Quirks} {mask : Nat → DelOutcome} {s : RState} {ops : List BOp} {e : CommitErr}
    (h : commit q s.comp.store ops = .error e) : step q mask s (.write ops) = s := by simp [step, h]

def run (q : Quirks) (mask : Nat → DelOutcome) (s : RState) (steps : List Step) : RState :=
  steps.foldl (step q mask) s

/-- the compactor has taken its snapshot `recs0` at revision `R` and made no call yet -/
def init (R : Nat) (recs0 : List Rec) : RState :=
  { comp := { store := encodeStore recs0 }, pending := workerActs { R := R, compact := true } recs0 }

/-- the revisions of all records of raw key `k` in the store: every version's revision and the revision
carried by the index record's value -/
def revsOf (st : Store) (k : Bytes) : List Nat :=
  st.filterMap (fun kv =>
    match decode kv.1 with
    | .ok k' n => if k' = k then (if n = 0 then (parseRevision kv.2).map (·.1) else some n) else none
    | _ => none)

/-- `rev` is a freshly dealt revision for a write to `k`: above the compaction revision and above every
revision of `k` in the store (what `tso.Deal` gives, backend.go) -/
def Fresh (R : Nat) (st : Store) (k : Bytes) (rev : Nat) : Prop :=
  Alphabet k ∧ k ≠ [] ∧ R < rev ∧ rev < 2 ^ 64 ∧ ∀ n ∈ revsOf st k, n < rev

instance (R : Nat) (st : Store) (k : Bytes) (rev : Nat) : Decidable (Fresh R st k rev) := by
  unfold Fresh; infer_instance

/-- The batches writers commit (`KB.Backend.creatorCreate`, `doUpdate`, `doDelete`, `doRetry`). -/
inductive WriterBatch (R : Nat) (st : Store) : List BOp → Prop
  /-- naive.go `create` -/
  | create (k v : Bytes) (rev : Nat) (h : Fresh R st k rev) :
      WriterBatch R st [.pine (idxKey k) (be8 rev), .put (encode k rev) v]
  /-- naive.go `update` after a conflict on a deleted key; `old` = the flagged index value it read -/
  | recreate (k v old : Bytes) (rev : Nat) (h : Fresh R st k rev) :
      WriterBatch R st [.cas (idxKey k) (be8 rev) old, .put (encode k rev) v]
  /-- txn.go update -/
  | update (k v : Bytes) (rev exp : Nat) (h : Fresh R st k rev) :
      WriterBatch R st [.cas (idxKey k) (be8 rev) (be8 exp), .put (encode k rev) v]
  /-- txn.go delete -/
  | delete (k : Bytes) (rev modRev : Nat) (h : Fresh R st k rev) :
      WriterBatch R st [.cas (idxKey k) (be8 rev ++ [0]) (be8 modRev), .put (encode k rev) tombstone]
  /-- retry.go: rewrite of an uncertain write at a new revision (`flag` = `[]` or `[0]`) -/
  | retry (k v flag : Bytes) (rev old : Nat) (h : Fresh R st k rev) :
      WriterBatch R st [.cas (idxKey k) (be8 rev ++ flag) (be8 old ++ flag), .put (encode k rev) v]

/-- every `write` step of the run is a `WriterBatch` for the store at the moment it is taken -/
def Disciplined (q : Quirks) (mask : Nat → DelOutcome) (R : Nat) : RState → List Step → Prop
  | _, [] => True
  | s, .compDel :: rest => Disciplined q mask R (step q mask s .compDel) rest
  | s, .write ops :: rest =>
    WriterBatch R s.comp.store ops ∧ Disciplined q mask R (step q mask s (.write ops)) rest

/-- every writer batch is a conditional write of the index record of a raw key, then the put of a version of that key
at a fresh revision -/
theorem WriterBatch.shape {R : Nat} {st : Store} {ops : List BOp} (h : WriterBatch R st ops) :
    ∃ k rev v new, Fresh R st k rev ∧
      (ops = [.pine (idxKey k) new, .put (encode k rev) v] ∨
       ∃ old, ops = [.cas (idxKey k) new old, .put (encode k rev) v]) := by
  cases h with
  | create k v rev h => exact ⟨k, rev, v, _, h, .inl rfl⟩
  | recreate k v old rev h => exact ⟨k, rev, v, _, h, .inr ⟨_, rfl⟩⟩
  | update k v rev exp h => exact ⟨k, rev, v, _, h, .inr ⟨_, rfl⟩⟩
  | delete k rev modRev h => exact ⟨k, rev, _, _, h, .inr ⟨_, rfl⟩⟩
  | retry k v flag rev old h => exact ⟨k, rev, v, _, h, .inr ⟨_, rfl⟩⟩

/-- The proofs use less than `WriterBatch`: only the shape and `R < rev < 2^64` over the alphabet
(`KB.Race.RaceBatch`); freshness w.r.t. the key's own records and `k ≠ []` are not needed. -/
theorem WriterBatch.raceBatch {R : Nat} {st : Store} {ops : List BOp} (h : WriterBatch R st ops) :
    RaceBatch R ops := by
  obtain ⟨k, rev, v, new, hf, hops⟩ := h.shape
  exact ⟨k, rev, v, new, hf.1, hf.2.2.1, hf.2.2.2.1, hops⟩

/-- The invariant of reachable states:
* the live store is a sorted association list (`Store.Sorted`) whose keys are all `encode k n` with `k`
  over the alphabet and `n < 2^64` (`GoodKeys`: it decodes without panic to a sorted record list);
* every version record `≤ R` in it is a record of the snapshot with its snapshot value
  (`OldFromSnapshot`: writers add only versions `> R`);
* the compactor is in step with its *shadow* (`Tracks`): for the prefix `done` of the pass already
  executed (`workerActs = done ++ pending`), `lastFailed` and the call counter equal those of `done`
  executed against the quiescent snapshot, and a snapshot version is missing from the live store iff it is
  missing from the shadow store. -/
def Inv (R : Nat) (recs0 : List Rec) (mask : Nat → DelOutcome) (s : RState) : Prop :=
  Store.Sorted s.comp.store ∧ GoodKeys s.comp.store ∧ OldFromSnapshot R recs0 s.comp.store ∧
    Tracks R recs0 mask s.comp s.pending

theorem run_append (q : Quirks) (mask : Nat → DelOutcome) (s : RState) (l1 l2 : List Step) :
    run q mask s (l1 ++ l2) = run q mask (run q mask s l1) l2 := by
  simp [run, List.foldl_append]

theorem disciplined_append {q : Quirks} {mask : Nat → DelOutcome} {R : Nat} {s : RState} {l1 l2 : List Step}
    (h1 : Disciplined q mask R s l1) (h2 : Disciplined q mask R (run q mask s l1) l2) :
    Disciplined q mask R s (l1 ++ l2) := by
  induction l1 generalizing s with
  | nil => exact h2
  | cons st rest ih =>
    cases st with
    | compDel => exact ih h1 h2
    | write ops => exact ⟨h1.1, ih h1.2 h2⟩

theorem inv_init {recs0 : List Rec} (hs : SortedRecs recs0)
    (hk : ∀ r ∈ recs0, Alphabet r.key ∧ r.rev < 2 ^ 64) (R : Nat) (mask : Nat → DelOutcome) :
    Inv R recs0 mask (init R recs0) :=
  ⟨encodeStore_sorted hs hk, goodKeys_init hk, oldFromSnapshot_init hk R, tracks_init R recs0 mask⟩

section main
variable {recs0 : List Rec} (hs : SortedRecs recs0) (hw : WellKeyed recs0)
  (hk : ∀ r ∈ recs0, Alphabet r.key ∧ r.rev < 2 ^ 64)

include hs hw hk

/-- **3a.** A writer batch (committed or refused) preserves the invariant. -/
theorem writer_batch_preserves_wf {R : Nat} {mask : Nat → DelOutcome} (q : Quirks) {s : RState}
    {ops : List BOp} (hI : Inv R recs0 mask s) (hb : WriterBatch R s.comp.store ops) :
    Inv R recs0 mask (step q mask s (.write ops)) := by
  cases hc : commit q s.comp.store ops with
  | error e => rw [step_write_error hc]; exact hI
  | ok st' =>
    rw [step_write_ok hc]
    exact write_preserves hs hw hk hb.raceBatch hc hI

/-- **3b.** A compactor call preserves the invariant. -/
theorem compDel_preserves_wf (hidx : IdxWF recs0) {R : Nat} {mask : Nat → DelOutcome} (q : Quirks)
    {s : RState} (hI : Inv R recs0 mask s) : Inv R recs0 mask (step q mask s .compDel) := by
  cases hp : s.pending with
  | nil => rw [step_compDel_nil hp]; exact hI
  | cons a rest =>
    have hI' : RaceInv R recs0 mask s.comp s.pending := hI
    rw [hp] at hI'
    rw [step_compDel_cons hp]
    exact compDel_preserves hs hw hk hidx hI'

theorem inv_run (hidx : IdxWF recs0) {R : Nat} {mask : Nat → DelOutcome} {q : Quirks} {s : RState}
    (steps : List Step) (hI : Inv R recs0 mask s) (hd : Disciplined q mask R s steps) :
    Inv R recs0 mask (run q mask s steps) := by
  induction steps generalizing s with
  | nil => exact hI
  | cons st rest ih =>
    cases st with
    | compDel => exact ih (compDel_preserves_wf hs hw hk hidx q hI) hd
    | write ops => exact ih (writer_batch_preserves_wf hs hw hk q hI hd.1) hd.2

/-- every state reachable by a disciplined run satisfies the invariant -/
theorem inv_reachable (hidx : IdxWF recs0) (R : Nat) (q : Quirks) (mask : Nat → DelOutcome)
    (steps : List Step) (hd : Disciplined q mask R (init R recs0) steps) :
    Inv R recs0 mask (run q mask (init R recs0) steps) :=
  inv_run hs hw hk hidx steps (inv_init hs hk R mask) hd

/-- the live store of a reachable state always decodes (the worker's `Decode` never panics on it), to a
sorted, well-keyed record list -/
theorem reachable_decodes (hidx : IdxWF recs0) (R : Nat) (q : Quirks) (mask : Nat → DelOutcome)
    (steps : List Step) (hd : Disciplined q mask R (init R recs0) steps) :
    let st := (run q mask (init R recs0) steps).comp.store
    decodeRecs st = some (storeRecs st) ∧ SortedRecs (storeRecs st) ∧ WellKeyed (storeRecs st) := by
  have hI := inv_reachable hs hw hk hidx R q mask steps hd
  refine ⟨?_, storeRecs_sorted hI.1 hI.2.1, storeRecs_wellKeyed hI.1 hI.2.1⟩
  rw [storeRecs_eq hI.2.1, decodeRecs_good hI.2.1]

/-- **2. Whole run.** In the final state of any disciplined run — any interleaving of compactor calls and
writer batches, any failure mask — every read at every
revision `R' ≥ R` equals the read of the store in which every version record of the snapshot that is
missing (only the compactor removes versions; writers only add versions `> R`) is put back. -/
theorem race_equals_restored (hne : ∀ r ∈ recs0, r.key ≠ []) (hidx : IdxWF recs0)
    (R : Nat) (q : Quirks) (mask : Nat → DelOutcome)
    (steps : List Step) (hd : Disciplined q mask R (init R recs0) steps)
    (R' : Nat) (hR : R ≤ R') (k : Bytes) :
    readS R' (run q mask (init R recs0) steps).comp.store k =
      readS R' (restored recs0 (run q mask (init R recs0) steps).comp.store) k :=
  read_restored hs hw hk hne (inv_reachable hs hw hk hidx R q mask steps hd) R' hR k

/-- **1. One compactor call is invisible.** In every state reachable by a disciplined run, one more
compactor call leaves every read at every revision `R' ≥ R` of every key unchanged, and leaves the logical
index of every key (absent-or-flagged / live at `rev` — what every writer's conditional commit tests)
unchanged. -/
theorem compDel_invisible (hne : ∀ r ∈ recs0, r.key ≠ []) (hidx : IdxWF recs0)
    (R : Nat) (q : Quirks) (mask : Nat → DelOutcome)
    (steps : List Step) (hd : Disciplined q mask R (init R recs0) steps) :
    let s := run q mask (init R recs0) steps
    let s' := step q mask s .compDel
    (∀ R', R ≤ R' → ∀ k, readS R' s'.comp.store k = readS R' s.comp.store k) ∧
    (∀ k, logicalIdx s'.comp.store k = logicalIdx s.comp.store k) := by
  intro s s'
  have hI : RaceInv R recs0 mask s.comp s.pending := inv_reachable hs hw hk hidx R q mask steps hd
  show (∀ R', R ≤ R' → ∀ k, readS R' (step q mask s .compDel).comp.store k = _) ∧
    ∀ k, logicalIdx (step q mask s .compDel).comp.store k = _
  cases hp : s.pending with
  | nil => rw [step_compDel_nil hp]; exact ⟨fun _ _ _ => rfl, fun _ => rfl⟩
  | cons a rest =>
    rw [hp] at hI
    rw [step_compDel_cons hp]
    exact runDelete_invisible hs hw hk hne hidx hI

end main

/-! ### the same schedule with a compactor that keeps all history -/

/-- the error of a refused commit (`none` = committed) -/
def commitErrOf (q : Quirks) (s : Store) (ops : List BOp) : Option CommitErr :=
  match commit q s ops with
  | .ok _ => none
  | .error e => some e

/-- The history-keeping compactor: an unconditional delete (always of a version record) makes its call —
same outcome from the mask, same skip rule, same trace — but removes nothing; a compare-and-delete (always
of an index record) acts as in `runDelete`. -/
def runDeleteKeep (mask : Nat → DelOutcome) (st : CompState) : Act → CompState
  | .del ik raw => { runDelete mask st (.del ik raw) with store := st.store }
  | a => runDelete mask st a

def stepKeep (q : Quirks) (mask : Nat → DelOutcome) (s : RState) : Step → RState
  | .compDel =>
    match s.pending with
    | [] => s
    | a :: rest => { comp := runDeleteKeep mask s.comp a, pending := rest }
  | .write ops => step q mask s (.write ops)

def runKeep (q : Quirks) (mask : Nat → DelOutcome) (s : RState) (steps : List Step) : RState :=
  steps.foldl (stepKeep q mask) s

/-- `u` is the history-keeping twin of `s`: same remaining actions, same control state and trace, and its
store is exactly the live store of `s` with the removed snapshot versions put back -/
def KeepSim (recs0 : List Rec) (s u : RState) : Prop :=
  u.pending = s.pending ∧ u.comp.lastFailed = s.comp.lastFailed ∧ u.comp.calls = s.comp.calls ∧
    u.comp.trace = s.comp.trace ∧ u.comp.store = restored recs0 s.comp.store

section keep
variable {recs0 : List Rec} (hs : SortedRecs recs0) (hw : WellKeyed recs0)
  (hk : ∀ r ∈ recs0, Alphabet r.key ∧ r.rev < 2 ^ 64)
include hs hw hk

theorem restored_idx {s : Store} (hsorted : s.Sorted) (k : Bytes) :
    (restored recs0 s).get (idxKey k) = s.get (idxKey k) :=
  get_restored_other (recs_val_uniq hs hw hk) hsorted
    (fun _ hr h0 => ik_version_ne_idx hw hk hr h0 k)

theorem keepSim_step (hidx : IdxWF recs0) {R : Nat} {mask : Nat → DelOutcome} {q : Quirks} {s u : RState}
    (hI : Inv R recs0 mask s) (hsim : KeepSim recs0 s u) (st : Step)
    (hd : ∀ ops, st = .write ops → WriterBatch R s.comp.store ops) :
    KeepSim recs0 (step q mask s st) (stepKeep q mask u st) := by
  have huniq := recs_val_uniq hs hw hk
  obtain ⟨hp, hlf, hc, ht, hst⟩ := hsim
  obtain ⟨hsorted, hgood, hold, done, hacts, _⟩ := hI
  cases st with
  | compDel =>
    cases hps : s.pending with
    | nil =>
      rw [step_compDel_nil hps]
      have : stepKeep q mask u .compDel = u := by simp only [stepKeep, hp, hps]
      rw [this]; exact ⟨hp, hlf, hc, ht, hst⟩
    | cons a rest =>
      rw [step_compDel_cons hps]
      have : stepKeep q mask u .compDel = { comp := runDeleteKeep mask u.comp a, pending := rest } := by
        simp only [stepKeep, hp, hps]
      rw [this]
      have hshape : DelShape R a := workerActs_shape hw hk hidx (by rw [hacts, hps]; simp)
      -- the control state is that of `runDelete`, which does not depend on the store
      obtain ⟨c1, c2, c3⟩ := runDelete_ctrl mask a u.comp s.comp hlf hc
      have hkeep : (runDeleteKeep mask u.comp a).lastFailed = (runDelete mask u.comp a).lastFailed ∧
          (runDeleteKeep mask u.comp a).calls = (runDelete mask u.comp a).calls ∧
          (runDeleteKeep mask u.comp a).trace = (runDelete mask u.comp a).trace := by
        cases a <;> exact ⟨rfl, rfl, rfl⟩
      refine ⟨rfl, hkeep.1.trans c1, hkeep.2.1.trans c2, hkeep.2.2.trans (c3 ht), ?_⟩
      show (runDeleteKeep mask u.comp a).store = restored recs0 (runDelete mask s.comp a).store
      cases a with
      | del ik raw =>
        -- the version the racing compactor removes is one `restored` puts back
        show u.comp.store = _
        obtain ⟨k', n, e1, h0, hle, hn⟩ := hshape
        rcases runDelete_store mask s.comp (.del ik raw) with e | ⟨ik', htg, e⟩
        · rw [e]; exact hst
        · cases htg
          rw [e, e1, restored_erase_version huniq hw hsorted hold h0 hle hn]; exact hst
      | delcur ik v raw =>
        -- both find the same index record, and removing it commutes with `restored`
        show (runDelete mask u.comp (.delcur ik v raw)).store = _
        obtain ⟨_, k', e1⟩ := hshape
        have hno : ∀ r ∈ recs0, 0 < r.rev → r.ik ≠ ik :=
          fun _ hr h0 => e1 ▸ ik_version_ne_idx hw hk hr h0 k'
        have hg : u.comp.store.get ik = s.comp.store.get ik := by
          rw [hst]; exact get_restored_other huniq hsorted hno
        rcases runDelete_store_congr mask (.delcur ik v raw) hlf hc (fun _ _ _ e => by cases e; exact hg) with
          ⟨e2, e3⟩ | ⟨ik', htg, e2, e3⟩
        · rw [e2, e3]; exact hst
        · cases htg
          rw [e2, e3, hst, restored_erase_other huniq hsorted hno]
      | _ => exact hst
  | write ops =>
    have hb := (hd ops rfl).raceBatch
    have hidxeq : ∀ k, u.comp.store.get (idxKey k) = s.comp.store.get (idxKey k) := by
      intro k; rw [hst]; exact restored_idx hs hw hk hsorted k
    show KeepSim recs0 (step q mask s (.write ops)) (step q mask u (.write ops))
    rcases commit_sim (q := q) hb hidxeq with ⟨a, va, b, vb, e1, e2⟩ | ⟨e, e1, e2⟩
    · rw [step_write_ok e1, step_write_ok e2]
      refine ⟨hp, hlf, hc, ht, ?_⟩
      show (u.comp.store.put a va).put b vb = restored recs0 ((s.comp.store.put a va).put b vb)
      rw [restored_put_put huniq hsorted, hst]
    · rw [step_write_error e1, step_write_error e2]
      exact ⟨hp, hlf, hc, ht, hst⟩

theorem keepSim_run (hidx : IdxWF recs0) {R : Nat} {mask : Nat → DelOutcome} {q : Quirks} {s u : RState}
    (steps : List Step) (hI : Inv R recs0 mask s) (hsim : KeepSim recs0 s u)
    (hd : Disciplined q mask R s steps) :
    KeepSim recs0 (run q mask s steps) (runKeep q mask u steps) := by
  induction steps generalizing s u with
  | nil => exact hsim
  | cons st rest ih =>
    cases st with
    | compDel =>
      exact ih (compDel_preserves_wf hs hw hk hidx q hI)
        (keepSim_step hs hw hk hidx hI hsim .compDel (fun _ h => by cases h)) hd
    | write ops =>
      exact ih (writer_batch_preserves_wf hs hw hk q hI hd.1)
        (keepSim_step hs hw hk hidx hI hsim (.write ops) (fun _ h => by cases h; exact hd.1)) hd.2

/-- nothing is missing from the snapshot store, so restoring it changes nothing -/
theorem restored_init : restored recs0 (encodeStore recs0) = encodeStore recs0 := by
  have hS := encodeStore_sorted hs hk
  apply store_ext (restored_sorted recs0 hS) hS
  intro x
  apply Option.ext
  intro v
  rw [get_restored (recs_val_uniq hs hw hk) hS]
  refine ⟨?_, .inl⟩
  rintro (h | ⟨hnone, r, hr, _, e, _⟩)
  · exact h
  · rw [← e, hw r hr, encodeStore_get hs hk hr] at hnone; cases hnone

/-- **2′. Whole run, against the history-keeping compactor.** Run the SAME schedule (same writer batches,
same compactor calls, same mask) with a compactor that never removes a version. Then, whatever the
interleaving:
* the store of that run is exactly `restored` of the racing run's store;
* every read at `R' ≥ R` is the same in both runs;
* every key has the same logical index in both, and any further writer batch has the same outcome (commits
  or is refused with the same error) in both — so the writers cannot tell the runs apart, and by induction
  over prefixes every commit of the schedule had the same outcome in both;
* the compactor made the same calls (trace) in both;
* in the history-keeping run every snapshot version `≤ R` is still there: it is the uncompacted history. -/
theorem race_equals_keep (hne : ∀ r ∈ recs0, r.key ≠ []) (hidx : IdxWF recs0)
    (R : Nat) (q : Quirks) (mask : Nat → DelOutcome)
    (steps : List Step) (hd : Disciplined q mask R (init R recs0) steps) :
    let s := run q mask (init R recs0) steps
    let u := runKeep q mask (init R recs0) steps
    u.comp.store = restored recs0 s.comp.store ∧
    (∀ R', R ≤ R' → ∀ k, readS R' s.comp.store k = readS R' u.comp.store k) ∧
    (∀ k, logicalIdx s.comp.store k = logicalIdx u.comp.store k) ∧
    (∀ ops, WriterBatch R s.comp.store ops →
      commitErrOf q s.comp.store ops = commitErrOf q u.comp.store ops) ∧
    u.comp.trace = s.comp.trace ∧ u.pending = s.pending ∧
    (∀ r ∈ recs0, 0 < r.rev → r.rev ≤ R → u.comp.store.get r.ik = some r.val) := by
  intro s u
  have hI : Inv R recs0 mask s := inv_reachable hs hw hk hidx R q mask steps hd
  have hsim0 : KeepSim recs0 (init R recs0) (init R recs0) :=
    ⟨rfl, rfl, rfl, rfl, (restored_init hs hw hk).symm⟩
  obtain ⟨hp, _, _, ht, hst⟩ : KeepSim recs0 s u :=
    keepSim_run hs hw hk hidx steps (inv_init hs hk R mask) hsim0 hd
  have hidxeq : ∀ k, u.comp.store.get (idxKey k) = s.comp.store.get (idxKey k) := by
    intro k; rw [hst]; exact restored_idx hs hw hk hI.1 k
  refine ⟨hst, ?_, ?_, ?_, ht, hp, ?_⟩
  · intro R' hR k
    rw [hst]
    exact read_restored hs hw hk hne hI R' hR k
  · intro k; exact (logicalIdx_congr (hidxeq k)).symm
  · intro ops hb
    unfold commitErrOf
    rcases commit_sim (q := q) hb.raceBatch hidxeq with ⟨a, va, b, vb, e1, e2⟩ | ⟨e, e1, e2⟩
    · rw [e1, e2]
    · rw [e1, e2]
  · intro r hr h0 hle
    rw [hst]
    exact get_restored_snapshot hs hw hk hI.1 hI.2.2.1 hr h0 hle

end keep

/-! ### non-vacuity: a deleted key is re-created in between the compactor's delete calls -/

def ka : Bytes := [47, 97]
def kb : Bytes := [47, 98]

/-- `ka` live with versions 4, 5; `kb` deleted: versions 3, deletion marker 7, index `(7, flag)` -/
def raceRecs : List Rec :=
  [ { key := ka, rev := 0, val := be64 5, ik := encode ka 0 },
    { key := ka, rev := 4, val := [2], ik := encode ka 4 },
    { key := ka, rev := 5, val := [3], ik := encode ka 5 },
    { key := kb, rev := 0, val := be64 7 ++ [0], ik := encode kb 0 },
    { key := kb, rev := 3, val := [1], ik := encode kb 3 },
    { key := kb, rev := 7, val := tombstone, ik := encode kb 7 } ]

theorem raceRecs_hyps :
    SortedRecs raceRecs ∧ WellKeyed raceRecs ∧ (∀ r ∈ raceRecs, Alphabet r.key ∧ r.rev < 2 ^ 64) ∧
      (∀ r ∈ raceRecs, r.key ≠ []) ∧ IdxWF raceRecs := by decide +kernel

/-- the pass at `R = 8`: 4 delete calls, the compare-and-delete of `kb`'s index record is the second -/
theorem raceRecs_acts :
    (init 8 raceRecs).pending =
      [.del (encode ka 4) ka, .emit ka [3] 5, .delcur (idxKey kb) (be64 7 ++ [0]) kb,
       .del (encode kb 3) kb, .del (encode kb 7) kb] := by decide +kernel

def okMask : Nat → DelOutcome := fun _ => .ok

/-- create of `kb` at revision 10: first attempt of naive.go -/
def createOps : List BOp := [.pine (idxKey kb) (be8 10), .put (encode kb 10) [9]]
/-- create of `kb` at revision 10: second attempt, over the flagged index value `(7, flag)` -/
def recreateOps : List BOp := [.cas (idxKey kb) (be8 10) (be64 7 ++ [0]), .put (encode kb 10) [9]]

def commitOk (q : Quirks) (s : Store) (ops : List BOp) : Bool :=
  match commit q s ops with
  | .ok _ => true
  | .error _ => false

/-- Order A: after the compactor's first delete call the writer re-creates `kb` (`PutIfNotExist` conflicts
with the flagged index record, the `CAS` over it succeeds); then the compactor goes on: its
compare-and-delete of `kb`'s index record FAILS (the value changed), its deletes of versions 3 and 7 go
through. -/
def runA : List Step :=
  [.compDel, .write createOps, .write recreateOps, .compDel, .compDel, .compDel, .compDel]

/-- Order B: the compactor's compare-and-delete removes `kb`'s index record and version 3 first; then the
writer re-creates `kb` (`PutIfNotExist` SUCCEEDS); then the compactor deletes the marker 7. -/
def runB : List Step :=
  [.compDel, .compDel, .compDel, .compDel, .write createOps, .compDel]

def sA : RState := run .tikv okMask (init 8 raceRecs) runA
def sB : RState := run .tikv okMask (init 8 raceRecs) runB

theorem runA_disciplined : Disciplined .tikv okMask 8 (init 8 raceRecs) runA :=
  ⟨.create kb [9] 10 (by decide +kernel), .recreate kb [9] (be64 7 ++ [0]) 10 (by decide +kernel), trivial⟩

theorem runB_disciplined : Disciplined .tikv okMask 8 (init 8 raceRecs) runB :=
  ⟨.create kb [9] 10 (by decide +kernel), trivial⟩

theorem runA_facts :
    -- the first create attempt conflicts, the second commits
    commitOk .tikv (run .tikv okMask (init 8 raceRecs) [.compDel]).comp.store createOps = false ∧
    commitOk .tikv (run .tikv okMask (init 8 raceRecs) [.compDel]).comp.store recreateOps = true ∧
    -- all four delete calls were made, the second is the compare-and-delete of `kb`'s index record ...
    sA.pending = [] ∧
    sA.comp.trace = [.del (encode ka 4), .delcur (idxKey kb), .del (encode kb 3), .del (encode kb 7)] ∧
    -- ... which failed: the index record is there, with the writer's value
    sA.comp.store.get (idxKey kb) = some (be8 10) ∧
    logicalIdx sA.comp.store kb = some 10 ∧ logicalIdx sA.comp.store ka = some 5 ∧
    -- the superseded version of `ka` and the old history of `kb` are gone
    sA.comp.store.get (encode ka 4) = none ∧
    sA.comp.store.get (encode kb 3) = none ∧ sA.comp.store.get (encode kb 7) = none ∧
    -- reads of `kb`: deleted at 8 and 9, the new object from 10 on
    readS 8 sA.comp.store kb = none ∧ readS 9 sA.comp.store kb = none ∧
    readS 10 sA.comp.store kb = some ([9], 10) ∧ readS (2 ^ 64 - 1) sA.comp.store kb = some ([9], 10) ∧
    -- reads of `ka`: untouched
    readS 8 sA.comp.store ka = some ([3], 5) ∧ readS (2 ^ 64 - 1) sA.comp.store ka = some ([3], 5) ∧
    -- the same reads on the restored store, which has the whole history again
    (storeRecs (restored raceRecs sA.comp.store)).map (fun r => (r.key, r.rev)) =
      [(ka, 0), (ka, 4), (ka, 5), (kb, 0), (kb, 3), (kb, 7), (kb, 10)] ∧
    readS 8 (restored raceRecs sA.comp.store) kb = none ∧
    readS 9 (restored raceRecs sA.comp.store) kb = none ∧
    readS 10 (restored raceRecs sA.comp.store) kb = some ([9], 10) := by
  decide +kernel

theorem runB_facts :
    -- the compare-and-delete removed the index record of `kb` ...
    (run .tikv okMask (init 8 raceRecs) [.compDel, .compDel, .compDel]).comp.store.get (idxKey kb) = none ∧
    -- ... so the first create attempt commits
    commitOk .tikv (run .tikv okMask (init 8 raceRecs) [.compDel, .compDel, .compDel, .compDel]).comp.store
      createOps = true ∧
    sB.pending = [] ∧
    sB.comp.trace = [.del (encode ka 4), .delcur (idxKey kb), .del (encode kb 3), .del (encode kb 7)] ∧
    sB.comp.store.get (idxKey kb) = some (be8 10) ∧
    logicalIdx sB.comp.store kb = some 10 ∧ logicalIdx sB.comp.store ka = some 5 ∧
    sB.comp.store.get (encode kb 3) = none ∧ sB.comp.store.get (encode kb 7) = none ∧
    readS 8 sB.comp.store kb = none ∧ readS 9 sB.comp.store kb = none ∧
    readS 10 sB.comp.store kb = some ([9], 10) ∧ readS (2 ^ 64 - 1) sB.comp.store kb = some ([9], 10) ∧
    readS 8 sB.comp.store ka = some ([3], 5) ∧ readS (2 ^ 64 - 1) sB.comp.store ka = some ([3], 5) ∧
    -- both orders end in the same store
    sB.comp.store = sA.comp.store := by
  decide +kernel

/-- the theorems apply to the two runs (their hypotheses are satisfiable) -/
example (R' : Nat) (hR : 8 ≤ R') (k : Bytes) :
    readS R' sA.comp.store k = readS R' (restored raceRecs sA.comp.store) k :=
  race_equals_restored raceRecs_hyps.1 raceRecs_hyps.2.1 raceRecs_hyps.2.2.1 raceRecs_hyps.2.2.2.1
    raceRecs_hyps.2.2.2.2 8 .tikv okMask runA runA_disciplined R' hR k

example := compDel_invisible raceRecs_hyps.1 raceRecs_hyps.2.1 raceRecs_hyps.2.2.1 raceRecs_hyps.2.2.2.1
    raceRecs_hyps.2.2.2.2 8 .tikv okMask [.compDel, .compDel, .compDel, .compDel, .write createOps]
    runB_disciplined

/-! ### failed-condition errors on delete calls (no hypothesis on the mask) -/

/-- the compare-and-delete of `kb`'s index record (call 1) AND the plain delete of `kb`'s version 3
(call 2) fail with an error of the failed-condition class -/
def casMask : Nat → DelOutcome := fun i => if i = 1 ∨ i = 2 then .failCas else .ok

def sC : RState := run .tikv casMask (init 8 raceRecs) runB

/-- with the flagged index record still there the writer's first attempt conflicts; it is a disciplined
batch all the same -/
theorem runC_disciplined : Disciplined .tikv casMask 8 (init 8 raceRecs) runB :=
  ⟨.create kb [9] 10 (by decide +kernel), trivial⟩

/-- the failed compare-and-delete is NOT remembered (the worker goes on to `kb`'s versions); the failed plain
delete IS: the marker above it is skipped, nothing of `kb`'s history is removed -/
theorem runC_facts :
    (run .tikv casMask (init 8 raceRecs) [.compDel, .compDel, .compDel]).comp.lastFailed = [] ∧
    sC.pending = [] ∧
    sC.comp.trace = [.del (encode ka 4), .delcur (idxKey kb), .del (encode kb 3)] ∧
    sC.comp.lastFailed = kb ∧
    sC.comp.store.get (idxKey kb) = some (be64 7 ++ [0]) ∧
    sC.comp.store.get (encode kb 3) = some [1] ∧ sC.comp.store.get (encode kb 7) = some tombstone ∧
    sC.comp.store.get (encode ka 4) = none ∧
    readS 8 sC.comp.store kb = none ∧ readS (2 ^ 64 - 1) sC.comp.store kb = none ∧
    readS 8 sC.comp.store ka = some ([3], 5) := by
  decide +kernel

example (R' : Nat) (hR : 8 ≤ R') (k : Bytes) :
    readS R' sC.comp.store k = readS R' (restored raceRecs sC.comp.store) k :=
  race_equals_restored raceRecs_hyps.1 raceRecs_hyps.2.1 raceRecs_hyps.2.2.1 raceRecs_hyps.2.2.2.1
    raceRecs_hyps.2.2.2.2 8 .tikv casMask runB runC_disciplined R' hR k

/-! ### what is not true -/

/-- Batch-level fact behind the repaired finding (see the header). The creator's second attempt — the `CAS` over the flagged index value it got
from the conflict of its first attempt — is refused when the compactor's compare-and-delete removed that
index record in between (the creator now re-reads the index and creates again). The refused commit changes
nothing (`kb` is absent before and after, and stays creatable: `runB`). -/
theorem recreate_after_index_gc_conflicts :
    let s0 := run .tikv okMask (init 8 raceRecs) [.compDel, .compDel]
    let s1 := step .tikv okMask s0 .compDel
    -- the creator's first attempt, before the compactor's call: conflict on the flagged index record
    commitErrOf .tikv s0.comp.store createOps = some (.conflict (some 1) (some (be64 7 ++ [0]))) ∧
    -- the compactor's compare-and-delete removes it
    s1.comp.store.get (idxKey kb) = none ∧
    -- the creator's second attempt is a disciplined batch, and is refused
    Fresh 8 s1.comp.store kb 10 ∧
    commitErrOf .tikv s1.comp.store recreateOps = some (.conflict (some 1) none) ∧
    commitErrOf .tikvOld s1.comp.store recreateOps = some .notFound ∧
    (step .tikv okMask s1 (.write recreateOps)).comp.store = s1.comp.store ∧
    -- although the key is absent, before and after
    logicalIdx s0.comp.store kb = none ∧ logicalIdx s1.comp.store kb = none ∧
    readS (2 ^ 64 - 1) s1.comp.store kb = none := by
  decide +kernel

/-- `IdxWF` is needed for the logical-index half of `compDel_invisible`: an index record whose VALUE is the
deletion marker is removed by the worker's unconditional "delete tombstone data" call whatever a writer has
put there since. (The backend never writes such an index value.) -/
theorem idx_marker_value_breaks :
    let recs0 : List Rec :=
      [ { key := ka, rev := 0, val := tombstone, ik := encode ka 0 },
        { key := ka, rev := 3, val := [1], ik := encode ka 3 } ]
    let rev := fromBE (tombstone.take 8) + 1
    let ops : List BOp := [.cas (idxKey ka) (be8 rev) tombstone, .put (encode ka rev) [9]]
    let s1 := step .tikv okMask (init 8 recs0) (.write ops)
    let s2 := step .tikv okMask s1 .compDel
    SortedRecs recs0 ∧ WellKeyed recs0 ∧ (∀ r ∈ recs0, Alphabet r.key ∧ r.rev < 2 ^ 64) ∧
      (∀ r ∈ recs0, r.key ≠ []) ∧ ¬ IdxWF recs0 ∧
      Fresh 8 (init 8 recs0).comp.store ka rev ∧
      logicalIdx s1.comp.store ka = some rev ∧ logicalIdx s2.comp.store ka = none := by
  decide +kernel

end KB.C07Race
