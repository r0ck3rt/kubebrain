/-
  C18 / C15 — the revision allocator `naiveTSO` (/repo/pkg/backend/tso/tso.go) at ATOMIC-INSTRUCTION
  granularity, for every set of goroutines and every interleaving.

  Model: KB.TsoCas (one step = one sync/atomic operation of Deal / GetRevision / Commit; an execution is a
  list of thread ids; `run s sched`). Helper lemmas: KB.Lemmas.TsoCas. Every theorem below quantifies over
  ALL states satisfying the invariant `WF` (in particular every `init W c d calls`: any number of goroutines
  at the entry of any calls, on registers with any contents — `invariant_holds_initially`) and over ALL
  schedules; "later" is expressed by schedule concatenation `p ++ q`.

    1. `deal_monotone` (unconditional, even with the pre-fix routines), `committed_monotone`
    2. `deals_unique`, `deal_results_increase_in_real_time` (Deal is a load / load / check / compare-and-swap
       loop since 624b477: "before B executed its add" = B's call is still in progress, `Pc.dealing`)
    2w. the window (624b477): `dealt_stays_in_window` — every revision v a Deal returned satisfies
       `v ≤ committed + (W - 1)` in the state it was returned in and in EVERY later state (the exact step-level
       guarantee is `deal_checked_against_loaded_value`: `v ≤ c + (W - 1)` for the committed value `c` that Deal
       loaded, and committed only grows), `dealt_distance_below_window`, `cursor_stays_in_window` (the cursor
       itself, Commits included), `dealt_stays_in_ring` (with the regenerated constants);
       `refused_only_when_window_full` + `refusal_iff_window_full_for_loaded_values` (a refusal is justified by
       the LOADED values; it can be stale w.r.t. the registers' present values: `refusal_can_be_stale`);
       `old_deal_leaves_window` / `current_deal_refuses` (W = 3, by evaluation)
    3. `commit_postcondition`
    4. `deal_after_commit_is_above` (C15: a new leader's first revision exceeds the start revision it
       installed) and `get_after_commit_is_at_least`, `get_results_monotone_in_real_time` (C18: a follower's
       synced read revision never goes back)
    5. `commit_terminates_when_alone` — FIVE steps from any point inside the call, four from its entry
       (`commit_call_alone_takes_four`); the bound "4 from any state" is false, witness
       `four_steps_not_enough_midway` (a stale compare-and-swap costs one extra round);
       `failed_cas_means_progress(_deal)`, and the bound `commit_failures_bounded(_deal)`: the failed
       compare-and-swaps of one Commit are at most the changes OTHER threads make to the register while it is
       below `r` (each of them a raise: `change_below_is_a_raise`); the same for Deal's compare-and-swap:
       `failed_deal_cas_means_progress`, `failed_deal_cas_register_was_raised`, `deal_failures_bounded`,
       `deal_change_is_a_raise`, `deal_terminates_when_alone`
    6. refutations for the routines before the repairs db7d4ff / 55a7cb8, by evaluation of concrete
       schedules: `old_commit_lowers`, `old_deal_cas_lost`, `old_deal_cas_lost_to_deal`; the same schedules
       under the current routines: `current_commit_keeps`, `current_deal_cas_retried`, `current_deal_after_commit`
    7. the tie to the source: `source_matches_lts` over the facts regenerated from tso.go by
       harness/cmd/kbextract/tsoshape.go on every run.

  Out of scope: wrap-around of the uint64 registers (revisions are `Nat`); `Init` racing with the routines
  (no non-test code calls it: `tsoInitCallSites = 0` is part of `source_matches_lts`); Go's memory model
  below sync/atomic (the LTS is sequentially consistent, which is what sync/atomic guarantees).
  `decide` is used only on concrete schedules and on the regenerated facts.
-/
import KB.TsoCas
import KB.Lemmas.TsoCas
import KB.Generated.OrderFacts
import KB.Generated.Consts
namespace KB.C18Cas
open KB.TsoCas KB.Generated

/-! ## the invariant -/

/-- Any number of goroutines at the entry of any calls, on registers with any contents, any window. -/
theorem invariant_holds_initially (W c d : Nat) (calls : List Call) : WF (init W c d calls) := wf_init W c d calls

theorem invariant_preserved_by_every_step {s : State} (h : WF s) (t : Nat) : WF (step s t) := wf_step h t

theorem invariant_along_every_execution {s : State} (h : WF s) (sched : List Nat) : WF (run s sched) := wf_run h sched

example : WF (init 100 4 9 [.deal, .commit 7, .get, .commit 2, .deal]) := wf_init _ _ _ _

/-! ## 1. the registers never decrease -/

/-- `dealRevision` never decreases — in ANY state, even with threads running the pre-fix routines. -/
theorem deal_monotone (s : State) (p q : List Nat) : (run s p).deal ≤ (run s (p ++ q)).deal := by
  rw [run_append]; exact run_deal_mono _ q

/-- `committedRevision` never decreases along any execution of the current routines. -/
theorem committed_monotone {s : State} (h : WF s) (p q : List Nat) :
    (run s p).committed ≤ (run s (p ++ q)).committed := by
  rw [run_append]; exact run_committed_mono (wf_noPlainStore (wf_run h p)) q

/-- … more generally whenever no thread runs the plain store of the code before db7d4ff. -/
theorem committed_monotone_without_plain_store {s : State} (h : NoPlainStore s) (p q : List Nat) :
    (run s p).committed ≤ (run s (p ++ q)).committed := by
  rw [run_append]; exact run_committed_mono (noPlainStore_run h p) q

example : (run (init 100 3 3 [.commit 9, .commit 5, .deal]) [0, 0, 1, 2, 1]).committed = 9 ∧
    (run (init 100 3 3 [.commit 9, .commit 5, .deal]) ([0, 0, 1, 2, 1] ++ [1, 1, 0, 0])).committed = 9 := by decide +kernel

/-! ## 2. Deal -/

/-- Two different Deal calls that have returned, returned different revisions. -/
theorem deals_unique {s : State} (h : WF s) (p : List Nat) {i j a b : Nat}
    (hi : (run s p).threads[i]? = some (.dealDone a)) (hj : (run s p).threads[j]? = some (.dealDone b))
    (hne : i ≠ j) : a ≠ b := by
  intro hab
  subst hab
  exact hne ((wf_run h p).distinct i j a hi hj)

example : (run (init 100 3 3 [.deal, .commit 9, .deal]) [0, 0, 0, 1, 1, 1, 1, 2, 2, 2]).threads[0]? = some (.dealDone 4) ∧
    (run (init 100 3 3 [.deal, .commit 9, .deal]) [0, 0, 0, 1, 1, 1, 1, 2, 2, 2]).threads[2]? = some (.dealDone 10) := by decide +kernel

/-- If Deal call `a` had returned while Deal call `b` was still in progress (`b` had not executed its successful
compare-and-swap; in particular: had not begun), `a`'s result is below `b`'s. -/
theorem deal_results_increase_in_real_time {s : State} (h : WF s) (p q : List Nat) {a b va vb : Nat} {pcb : Pc}
    (ha : (run s p).threads[a]? = some (.dealDone va))
    (hb : (run s p).threads[b]? = some pcb) (hpcb : pcb.dealing = true)
    (hb' : (run s (p ++ q)).threads[b]? = some (.dealDone vb)) : va < vb :=
  Nat.lt_of_le_of_lt (wf_at h p ha).2.1 (deal_result_exceeds_cursor s p q hb hpcb hb')

example : (run (init 100 3 3 [.deal, .deal, .commit 9]) [0, 0, 0, 2, 2, 1, 1]).threads[0]? = some (.dealDone 4) ∧
    (run (init 100 3 3 [.deal, .deal, .commit 9]) [0, 0, 0, 2, 2, 1, 1]).threads[1]? = some (.dealCas 4 9) ∧
    (Pc.dealCas 4 9).dealing = true ∧
    (run (init 100 3 3 [.deal, .deal, .commit 9]) ([0, 0, 0, 2, 2, 1, 1] ++ [2, 2, 1, 1, 1, 1])).threads[1]? = some (.dealDone 10) := by
  decide +kernel

/-! ## 2w. the window: a dealt revision is never `W` or more ahead of the committed one -/

/-- The exact guarantee of one Deal, at the step that returns: the value is the loaded cursor + 1, the cursor
still had the loaded value, and the result is within the window of the committed value THIS Deal loaded
(`c0`, possibly long ago; the register's present value is at least that: `WF`). -/
theorem deal_checked_against_loaded_value (s : State) {t dealt c0 v : Nat} (ht : s.threads[t]? = some (.dealCas dealt c0))
    (hv : (step s t).threads[t]? = some (.dealDone v)) :
    v = dealt + 1 ∧ s.deal = dealt ∧ (dealt < c0 ∨ dealt + 1 - c0 < s.window) ∧ v ≤ c0 + (s.window - 1) := by
  rw [step_threads_self ht] at hv
  rcases ite_outcomes (stepPc s.window s.committed s.deal (.dealCas dealt c0)) rfl with ⟨_, e⟩ | ⟨hf, hd, e⟩ | ⟨_, _, e⟩ <;>
    rw [e] at hv <;> cases hv
  omega

/-- Every revision `v` a Deal has returned is within the window of the committed revision — in the state it was
returned in (`q = []`) and, because the committed revision only grows, in every later state:
`v ≤ committed + (W - 1)` (for `W = 0` nothing above `committed` is ever dealt). -/
theorem dealt_stays_in_window {s : State} (h : WF s) (p q : List Nat) {t v : Nat}
    (ht : (run s p).threads[t]? = some (.dealDone v)) :
    v ≤ (run s (p ++ q)).committed + (s.window - 1) :=
  (wf_later h p q ht rfl).2.2

/-- … as a distance: `v - committed < W` (truncated subtraction: 0 when the committed revision has passed `v`). -/
theorem dealt_distance_below_window {s : State} (h : WF s) (hW : 0 < s.window) (p q : List Nat) {t v : Nat}
    (ht : (run s p).threads[t]? = some (.dealDone v)) : v - (run s (p ++ q)).committed < s.window := by
  have := dealt_stays_in_window h p q ht
  omega

/-- The cursor itself: from a state with `deal ≤ committed + (W - 1)` (e.g. `deal = committed`: a fresh `NewTSO()`,
or after `Init`) the deal cursor never leaves the window, whatever Deals and Commits interleave — a Commit raises
`deal` only to a revision it has already made `committed` reach. So at most `W - 1` revisions are ever dealt
and not committed. -/
theorem cursor_stays_in_window {s : State} (h : WF s) (hw : s.deal ≤ s.committed + (s.window - 1)) (p : List Nat) :
    (run s p).deal ≤ (run s p).committed + (s.window - 1) :=
  run_cursor_window h hw p

example : (run (init 3 0 0 [.deal, .deal, .commit 1, .deal, .deal]) [0, 0, 0, 1, 1, 1, 3, 3, 3, 2, 2, 2, 2, 4, 4, 4]).threads
    = [.dealDone 1, .dealDone 2, .commitDone 1, .dealRefused 2 0, .dealDone 3] := by decide +kernel

/-- A refused Deal had loaded values that fill the window: `dealt ≥ committed₀ ∧ dealt + 1 - committed₀ ≥ W`, both
loaded from the registers earlier (`dealt ≤ deal`, `committed₀ ≤ committed` now). -/
theorem refused_only_when_window_full {s : State} (h : WF s) (p : List Nat) {t dealt c0 : Nat}
    (ht : (run s p).threads[t]? = some (.dealRefused dealt c0)) :
    c0 ≤ dealt ∧ s.window ≤ dealt + 1 - c0 ∧ dealt ≤ (run s p).deal ∧ c0 ≤ (run s p).committed := by
  obtain ⟨h1, h2, h3, h4⟩ := wf_at h p ht
  exact ⟨h3, h4, h1, h2⟩

/-- At the moment of the check: the step from `dealCas dealt c0` refuses exactly when the loaded values fill the window. -/
theorem refusal_iff_window_full_for_loaded_values (s : State) {t dealt c0 : Nat} (ht : s.threads[t]? = some (.dealCas dealt c0)) :
    (step s t).threads[t]? = some (.dealRefused dealt c0) ↔ (c0 ≤ dealt ∧ s.window ≤ dealt + 1 - c0) := by
  rw [step_threads_self ht]
  rcases ite_outcomes (stepPc s.window s.committed s.deal (.dealCas dealt c0)) rfl with ⟨hf, e⟩ | ⟨hf, _, e⟩ | ⟨hf, _, e⟩ <;> rw [e]
  · exact ⟨fun _ => hf, fun _ => rfl⟩
  · exact ⟨nofun, fun h => absurd h hf⟩
  · exact ⟨nofun, fun h => absurd h hf⟩

/-- The refusal is conservative, not exact: between the loads and the check a Commit may have emptied the window
(here: W = 3, two revisions dealt, thread 2 loads `deal = 2, committed = 0`, Commit 2 finishes, thread 2 refuses
although `deal + 1 - committed = 1` now). The caller is told to try again. -/
theorem refusal_can_be_stale :
    let s := run (init 3 0 0 [.deal, .deal, .deal, .commit 2]) [0, 0, 0, 1, 1, 1, 2, 2, 3, 3, 3, 3, 2]
    s.threads[2]? = some (.dealRefused 2 0) ∧ s.threads[3]? = some (.commitDone 2) ∧ s.deal + 1 - s.committed = 1 := by
  decide +kernel

/-- W = 3, nothing committed: the one-instruction Deal of the code before 624b477 hands out revision 3 = committed + W
(no slot in a ring of 3) … -/
theorem old_deal_leaves_window :
    let s := run { window := 3, committed := 0, deal := 0, threads := [.dealAddOld, .dealAddOld, .dealAddOld] } [0, 1, 2]
    s.threads[2]? = some (.dealDone 3) ∧ s.committed = 0 ∧ s.window ≤ 3 - s.committed := by
  decide +kernel

/-- … the current Deal refuses the third call and the cursor stays at 2. -/
theorem current_deal_refuses :
    let s := run (init 3 0 0 [.deal, .deal, .deal]) [0, 0, 0, 1, 1, 1, 2, 2, 2]
    s.threads = [.dealDone 1, .dealDone 2, .dealRefused 2 0] ∧ s.deal = 2 ∧ s.committed = 0 := by
  decide +kernel

/-! ## 3. Commit's postcondition, now and for ever -/

/-- When a `Commit r` call is done, `committed ≥ r ∧ deal ≥ r` holds in that state (`q = []`) and in every
later state. -/
theorem commit_postcondition {s : State} (h : WF s) (p q : List Nat) {t r : Nat}
    (ht : (run s p).threads[t]? = some (.commitDone r)) :
    r ≤ (run s (p ++ q)).committed ∧ r ≤ (run s (p ++ q)).deal :=
  wf_later h p q ht rfl

example : (run (init 100 3 3 [.commit 9, .deal, .commit 5]) [0, 0, 1, 0, 0, 0, 0]).threads[0]? = some (.commitDone 9) := by
  decide +kernel

/-! ## 4. after a Commit -/

/-- A Deal whose (successful) add executes after a `Commit r` call finished — a Deal still in progress, or not
yet begun, when the Commit finished — returns a value above `r`. -/
theorem deal_after_commit_is_above {s : State} (h : WF s) (p q : List Nat) {t b r v : Nat} {pcb : Pc}
    (ht : (run s p).threads[t]? = some (.commitDone r))
    (hb : (run s p).threads[b]? = some pcb) (hpcb : pcb.dealing = true)
    (hb' : (run s (p ++ q)).threads[b]? = some (.dealDone v)) : r < v :=
  Nat.lt_of_le_of_lt (wf_at h p ht).2 (deal_result_exceeds_cursor s p q hb hpcb hb')

/-- thread 2 has not begun; thread 1 loaded `deal = 3` BEFORE the Commit finished: its compare-and-swap fails and it
goes round again -/
example : (run (init 100 3 3 [.commit 9, .deal, .deal]) [0, 0, 1, 0, 0, 0, 0]).threads[0]? = some (.commitDone 9) ∧
    (run (init 100 3 3 [.commit 9, .deal, .deal]) [0, 0, 1, 0, 0, 0, 0]).threads[2]? = some .dealLoadD ∧
    (run (init 100 3 3 [.commit 9, .deal, .deal]) [0, 0, 1, 0, 0, 0, 0]).threads[1]? = some (.dealLoadC 3) ∧
    (run (init 100 3 3 [.commit 9, .deal, .deal]) ([0, 0, 1, 0, 0, 0, 0] ++ [2, 2, 2, 1, 1, 1, 1, 1])).threads[2]? = some (.dealDone 10) ∧
    (run (init 100 3 3 [.commit 9, .deal, .deal]) ([0, 0, 1, 0, 0, 0, 0] ++ [2, 2, 2, 1, 1, 1, 1, 1])).threads[1]? = some (.dealDone 11) := by
  decide +kernel

/-- A GetRevision whose load executes after a `Commit r` call finished returns at least `r`. -/
theorem get_after_commit_is_at_least {s : State} (h : WF s) (p q : List Nat) {t g r v : Nat}
    (ht : (run s p).threads[t]? = some (.commitDone r)) (hg : (run s p).threads[g]? = some .getLoad)
    (hg' : (run s (p ++ q)).threads[g]? = some (.getDone v)) : r ≤ v :=
  Nat.le_trans (wf_at h p ht).1 (get_result_at_least_committed (wf_noPlainStore h) p q hg hg')

/-- If GetRevision call `a` had returned before call `b` executed its load, `b` does not return less:
the read revision never goes back, whatever Commits (late, out of order, concurrent) happen in between. -/
theorem get_results_monotone_in_real_time {s : State} (h : WF s) (p q : List Nat) {a b va vb : Nat}
    (ha : (run s p).threads[a]? = some (.getDone va)) (hb : (run s p).threads[b]? = some .getLoad)
    (hb' : (run s (p ++ q)).threads[b]? = some (.getDone vb)) : va ≤ vb :=
  Nat.le_trans (wf_at h p ha) (get_result_at_least_committed (wf_noPlainStore h) p q hb hb')

example : (run (init 100 3 3 [.commit 9, .get, .commit 5, .get]) [0, 0, 2, 1]).threads[1]? = some (.getDone 9) ∧
    (run (init 100 3 3 [.commit 9, .get, .commit 5, .get]) [0, 0, 2, 1]).threads[3]? = some .getLoad ∧
    (run (init 100 3 3 [.commit 9, .get, .commit 5, .get]) ([0, 0, 2, 1] ++ [2, 2, 2, 3])).threads[3]? = some (.getDone 9) ∧
    (run (init 100 3 3 [.commit 9, .get, .commit 5, .get]) ([0, 0, 2, 1] ++ [2, 2, 2, 3])).threads[2]? = some (.commitDone 5) := by
  decide +kernel

/-! ## 5. termination and the cost of contention -/

/-- From ANY point inside a `Commit r` call — whatever the other threads did before — the thread scheduled
alone finishes within five steps. -/
theorem commit_terminates_when_alone (s : State) {t r : Nat} {pc : Pc}
    (ht : s.threads[t]? = some pc) (hc : pc.inCommit r = true) :
    (run s (List.replicate 5 t)).threads[t]? = some (.commitDone r) := by
  rw [(run_solo 5 ht).2.2, solo_commit_five hc]

/-- From the entry of the call, four: load, compare-and-swap, load, compare-and-swap. -/
theorem commit_call_alone_takes_four (s : State) {t r : Nat} (ht : s.threads[t]? = some (.loadC r)) :
    (run s (List.replicate 4 t)).threads[t]? = some (.commitDone r) := by
  rw [(run_solo 4 ht).2.2, solo_loadC s.window 0]

/-- "Four from any state" is false: a thread parked at its first compare-and-swap with a stale value needs a fifth. -/
theorem four_steps_not_enough_midway :
    (run { window := 100, committed := 2, deal := 0, threads := [.casC 5 1] } (List.replicate 4 0)).threads[0]? = some (.casD 5 0) ∧
    (run { window := 100, committed := 2, deal := 0, threads := [.casC 5 1] } (List.replicate 5 0)).threads[0]? = some (.commitDone 5) := by
  decide +kernel

example : (run (init 100 0 0 [.commit 5, .commit 2]) [0, 1, 1]).threads[0]? = some (.casC 5 0) ∧
    (run (init 100 0 0 [.commit 5, .commit 2]) [0, 1, 1]).committed = 2 := by decide +kernel

/-- A compare-and-swap on `committed` fails (the thread goes back to its load) exactly when the value it
loaded is below `r` and is no longer the register's value: someone else wrote in between. -/
theorem failed_cas_means_progress (s : State) {t r cur : Nat} (ht : s.threads[t]? = some (.casC r cur)) :
    (step s t).threads[t]? = some (.loadC r) ↔ (cur < r ∧ s.committed ≠ cur) := by
  rw [step_threads_self ht]
  rcases ite_outcomes (stepPc s.window s.committed s.deal (.casC r cur)) rfl with ⟨h, e⟩ | ⟨h, h', e⟩ | ⟨h, h', e⟩ <;> rw [e]
  · exact ⟨nofun, fun ⟨h1, _⟩ => absurd h (Nat.not_le_of_lt h1)⟩
  · exact ⟨nofun, fun ⟨_, h2⟩ => absurd h' h2⟩
  · exact ⟨fun _ => ⟨Nat.lt_of_not_le h, h'⟩, fun _ => rfl⟩

/-- … and under the invariant "differs" means "was raised since this thread loaded it". -/
theorem failed_cas_register_was_raised {s : State} (h : WF s) {t r cur : Nat} (ht : s.threads[t]? = some (.casC r cur))
    (hf : (step s t).threads[t]? = some (.loadC r)) : cur < s.committed ∧ cur < r := by
  have h1 := (failed_cas_means_progress s ht).mp hf
  have h2 : cur ≤ s.committed := h.loc t _ ht
  omega

theorem failed_cas_means_progress_deal (s : State) {t r cur : Nat} (ht : s.threads[t]? = some (.casD r cur)) :
    (step s t).threads[t]? = some (.loadD r) ↔ (cur < r ∧ s.deal ≠ cur) := by
  rw [step_threads_self ht]
  rcases ite_outcomes (stepPc s.window s.committed s.deal (.casD r cur)) rfl with ⟨h, e⟩ | ⟨h, h', e⟩ | ⟨h, h', e⟩ <;> rw [e]
  · exact ⟨nofun, fun ⟨h1, _⟩ => absurd h (Nat.not_le_of_lt h1)⟩
  · exact ⟨nofun, fun ⟨_, h2⟩ => absurd h' h2⟩
  · exact ⟨fun _ => ⟨Nat.lt_of_not_le h, h'⟩, fun _ => rfl⟩

example : (run (init 100 0 0 [.commit 5, .commit 2]) [0, 1, 1]).threads[0]? = some (.casC 5 0) ∧
    (step (run (init 100 0 0 [.commit 5, .commit 2]) [0, 1, 1]) 0).threads[0]? = some (.loadC 5) := by decide +kernel

/-- With the current routines a change of `committed` is a raise. -/
theorem change_below_is_a_raise {s : State} (h : NoPlainStore s) (i : Nat)
    (hc : (step s i).committed ≠ s.committed) : s.committed < (step s i).committed :=
  Nat.lt_of_le_of_ne (step_committed_mono h i) (Ne.symm hc)

/-- Along ANY schedule, the failed compare-and-swaps of a `Commit r` on `committed` (counted from the entry
of the call) are at most the steps of OTHER threads that change `committed` while it is below `r`. -/
theorem commit_failures_bounded (s : State) (p : List Nat) {t r : Nat} (ht : s.threads[t]? = some (.loadC r)) :
    failsC t r s p ≤ changesBelowC t r s p :=
  Nat.le_trans (failsC_le t r s p) (by simp [pendingFailC, ht])

/-- The same for the second loop (`deal` is changed by Deals as well as by Commits). -/
theorem commit_failures_bounded_deal (s : State) (p : List Nat) {t r : Nat} (ht : s.threads[t]? = some (.loadD r)) :
    failsD t r s p ≤ changesBelowD t r s p :=
  Nat.le_trans (failsD_le t r s p) (by simp [pendingFailD, ht])

/-- The bound is attained: one failure, one raise by the other thread. -/
example : failsC 0 5 (init 100 0 0 [.commit 5, .commit 2]) [0, 1, 1, 0, 0, 0, 0, 0] = 1 ∧
    changesBelowC 0 5 (init 100 0 0 [.commit 5, .commit 2]) [0, 1, 1, 0, 0, 0, 0, 0] = 1 := by decide +kernel

example : failsD 0 5 (init 100 0 0 [.commit 5, .deal, .deal]) [0, 0, 0, 1, 1, 1, 0, 0, 2, 2, 2, 0, 0, 0] = 2 ∧
    changesBelowD 0 5 (init 100 0 0 [.commit 5, .deal, .deal]) [0, 0, 0, 1, 1, 1, 0, 0, 2, 2, 2, 0, 0, 0] = 2 := by decide +kernel

/-- Deal's compare-and-swap fails (the thread goes back to its first load) exactly when the window check passed and
the cursor is no longer the value loaded. -/
theorem failed_deal_cas_means_progress (s : State) {t dealt c0 : Nat} (ht : s.threads[t]? = some (.dealCas dealt c0)) :
    (step s t).threads[t]? = some .dealLoadD ↔ (¬ (c0 ≤ dealt ∧ s.window ≤ dealt + 1 - c0) ∧ s.deal ≠ dealt) := by
  rw [step_threads_self ht]
  rcases ite_outcomes (stepPc s.window s.committed s.deal (.dealCas dealt c0)) rfl with ⟨hf, e⟩ | ⟨hf, hd, e⟩ | ⟨hf, hd, e⟩ <;> rw [e]
  · exact ⟨nofun, fun h => absurd hf h.1⟩
  · exact ⟨nofun, fun h => absurd hd h.2⟩
  · exact ⟨fun _ => ⟨hf, hd⟩, fun _ => rfl⟩

/-- … and under the invariant "no longer the value loaded" means RAISED: another Deal's add, or a Commit. -/
theorem failed_deal_cas_register_was_raised {s : State} (h : WF s) {t dealt c0 : Nat}
    (ht : s.threads[t]? = some (.dealCas dealt c0)) (hf : (step s t).threads[t]? = some .dealLoadD) : dealt < s.deal := by
  have h1 := (failed_deal_cas_means_progress s ht).mp hf
  have h2 : dealt ≤ s.deal := (h.loc t _ ht).1
  omega

/-- Every change of `deal`, by any routine, is a raise. -/
theorem deal_change_is_a_raise (s : State) (i : Nat) (hc : (step s i).deal ≠ s.deal) : s.deal < (step s i).deal :=
  Nat.lt_of_le_of_ne (step_deal_mono s i) (Ne.symm hc)

/-- Along ANY schedule, the failed compare-and-swaps of thread `t`'s Deal (counted from the entry of the call) are at
most the steps of OTHER threads that change `deal` (successful adds of other Deals, successful raises of Commits). -/
theorem deal_failures_bounded (s : State) (p : List Nat) {t : Nat} (ht : s.threads[t]? = some .dealLoadD) :
    failsDeal t s p ≤ changesD t s p :=
  Nat.le_trans (failsDeal_le t s p) (by simp [staleDeal, ht])

example : failsDeal 0 (init 100 0 0 [.deal, .deal, .commit 7]) [0, 0, 1, 1, 1, 0, 0, 0, 2, 2, 2, 2, 0, 0, 0, 0] = 2 ∧
    changesD 0 (init 100 0 0 [.deal, .deal, .commit 7]) [0, 0, 1, 1, 1, 0, 0, 0, 2, 2, 2, 2, 0, 0, 0, 0] = 2 ∧
    (run (init 100 0 0 [.deal, .deal, .commit 7]) [0, 0, 1, 1, 1, 0, 0, 0, 2, 2, 2, 2, 0, 0, 0, 0]).threads[0]? = some (.dealDone 8) := by
  decide +kernel

/-- From ANY point inside a Deal call the thread scheduled alone finishes within five steps (three from the entry),
with a revision or a refusal. -/
theorem deal_terminates_when_alone (s : State) {t : Nat} {pc : Pc} (ht : s.threads[t]? = some pc) (hd : pc.inDeal = true) :
    (∃ v, (run s (List.replicate 5 t)).threads[t]? = some (.dealDone v)) ∨
    (∃ a b, (run s (List.replicate 5 t)).threads[t]? = some (.dealRefused a b)) :=
  (solo_deal_five hd).of_some (run_solo 5 ht).2.2

theorem deal_call_alone_takes_three (s : State) {t : Nat} (ht : s.threads[t]? = some .dealLoadD) :
    (∃ v, (run s (List.replicate 3 t)).threads[t]? = some (.dealDone v)) ∨
    (∃ a b, (run s (List.replicate 3 t)).threads[t]? = some (.dealRefused a b)) :=
  (solo_dealLoadD s.window 0 s.committed s.deal).of_some (run_solo 3 ht).2.2

/-! ## 6. the routines before the repairs -/

/-- Two calls Commit 5 (thread 0) and Commit 3 (thread 1), the first to completion, then the second. -/
def lateLowSchedule : List Nat := [0, 0, 0, 0, 1, 1, 1, 1]

/-- Before db7d4ff (plain store): the later Commit 3 puts `committed` back below 5 although Commit 5 is done —
`commit_postcondition` and `committed_monotone` fail. -/
theorem old_commit_lowers :
    let s := run { window := 100, committed := 0, deal := 0, threads := [.oldStoreC 5, .oldStoreC 3] } lateLowSchedule
    s.threads[0]? = some (.oldDone 5) ∧ s.threads[1]? = some (.oldDone 3) ∧ s.committed = 3 ∧ s.committed < 5 := by
  decide +kernel

/-- The same schedule, current routine: both done, nothing lowered. -/
theorem current_commit_keeps :
    let s := run (init 100 0 0 [.commit 5, .commit 3]) lateLowSchedule
    s.threads[0]? = some (.commitDone 5) ∧ s.threads[1]? = some (.commitDone 3) ∧ s.committed = 5 ∧ s.deal = 5 := by
  decide +kernel

/-- Commit 7 (thread 0) loads `deal`, Commit 5 (thread 1) runs to completion, thread 0 goes on. -/
def lostCasSchedule : List Nat := [0, 0, 0, 1, 1, 1, 1, 0, 0, 0]

/-- Before 55a7cb8 (single compare-and-swap on `deal`, result ignored): Commit 7 finishes with `deal = 5 < 7`. -/
theorem old_deal_cas_lost :
    let s := run { window := 100, committed := 0, deal := 0, threads := [.midLoadC 7, .midLoadC 5] } lostCasSchedule
    s.threads[0]? = some (.oldDone 7) ∧ s.threads[1]? = some (.oldDone 5) ∧ s.committed = 7 ∧ s.deal = 5 ∧ s.deal < 7 := by
  decide +kernel

/-- … and so does the routine before db7d4ff, which has the same tail. -/
theorem oldest_deal_cas_lost :
    let s := run { window := 100, committed := 0, deal := 0, threads := [.oldStoreC 7, .oldStoreC 5] } [0, 0, 1, 1, 1, 0]
    s.threads[0]? = some (.oldDone 7) ∧ s.threads[1]? = some (.oldDone 5) ∧ s.deal = 5 ∧ s.deal < 7 := by
  decide +kernel

/-- The same schedule, current routine: the failed compare-and-swap is retried; done with `deal = 7`. -/
theorem current_deal_cas_retried :
    let s := run (init 100 0 0 [.commit 7, .commit 5]) lostCasSchedule
    s.threads[0]? = some (.commitDone 7) ∧ s.threads[1]? = some (.commitDone 5) ∧ s.committed = 7 ∧ s.deal = 7 := by
  decide +kernel

/-- Commit 7 (thread 0: the started-leading callback installing the start revision 7) loads `deal`, a Deal
(thread 1) moves the cursor, thread 0 goes on to completion, then a Deal (thread 2: the new leader's first write). -/
def lostToDealSchedule : List Nat := [0, 0, 0, 1, 1, 1, 0, 0, 0, 2, 2, 2]

/-- Before 55a7cb8 (Deal was the one-instruction add then): the Deal issued AFTER Commit 7 finished returns 2, not above 7 (`deal_after_commit_is_above` fails). -/
theorem old_deal_cas_lost_to_deal :
    let s := run { window := 100, committed := 0, deal := 0, threads := [.midLoadC 7, .dealAddOld, .dealAddOld] } lostToDealSchedule
    s.threads[0]? = some (.oldDone 7) ∧ s.threads[2]? = some (.dealDone 2) ∧ s.deal = 2 ∧ s.deal < 7 := by
  decide +kernel

/-- The same schedule, current routine: the Deal after Commit 7 returns 8. -/
theorem current_deal_after_commit :
    let s := run (init 100 0 0 [.commit 7, .deal, .deal]) lostToDealSchedule
    s.threads[0]? = some (.commitDone 7) ∧ s.threads[2]? = some (.dealDone 8) ∧ s.deal = 8 := by
  decide +kernel

/-! ## 7. the source is the routine the LTS models -/

/-- Regenerated from /repo/pkg/backend/tso/tso.go on every run (harness/cmd/kbextract/tsoshape.go): `Commit` is
exactly the two raise loops of `loadC/casC/loadD/casD`; `Deal` is exactly the loop load `dealRevision` / load
`committedRevision` / refuse when `dealt >= committed && dealt+1-committed >= MaxInFlight` / compare-and-swap
`dealRevision` from `dealt` to `dealt+1` and return it (`dealLoadD/dealLoadC/dealCas`); `MaxInFlight` is the backend's
slot ring `watchersChanCapacity` (pkg/backend/backend.go, KB/Generated/Consts.lean); `GetRevision` is one atomic load of
`committedRevision`; `Init` two plain stores that no non-test code calls; the two registers are touched nowhere
else; and the extractor recognised everything it saw. A rewrite of tso.go breaks this proof. -/
theorem source_matches_lts :
    tsoCommitShape = expectedShape ∧ tsoDealShape = expectedDealShape ∧ tsoMaxInFlight = watchersChanCapacity ∧
    0 < tsoMaxInFlight ∧ tsoGetIsAtomicLoad = true ∧
    tsoRegistersOnlyTouchedInTso = true ∧ tsoRegisterMentions = 12 ∧
    tsoInitShape = ["store:committedRevision", "store:dealRevision"] ∧ tsoInitCallSites = 0 ∧
    tsoShapeUnresolved = [] ∧ constsUnresolved = [] :=
  ⟨rfl, rfl, rfl, by decide, rfl, rfl, rfl, rfl, rfl, rfl, rfl⟩

/-- `dealt_stays_in_window` with the regenerated constants: on a node whose window is the source's `MaxInFlight`,
a dealt revision is less than the sequencer's ring length ahead of the committed revision, for ever. -/
theorem dealt_stays_in_ring {s : State} (h : WF s) (hW : s.window = tsoMaxInFlight) (p q : List Nat) {t v : Nat}
    (ht : (run s p).threads[t]? = some (.dealDone v)) :
    v - (run s (p ++ q)).committed < watchersChanCapacity := by
  have h1 := source_matches_lts
  have h2 := dealt_distance_below_window h (by rw [hW]; exact h1.2.2.2.1) p q ht
  rw [hW, h1.2.2.1] at h2
  exact h2

/-- The source is none of the routines refuted above. -/
theorem source_is_not_a_prefix_routine :
    tsoCommitShape ≠ oldShape ∧ tsoCommitShape ≠ midShape ∧ tsoDealShape ≠ oldDealShape := by decide +kernel

end KB.C18Cas
