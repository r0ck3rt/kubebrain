/-
  C07 (ranges) — "Keys outside the configured compaction ranges are not touched", for all prefix /
  skipped-prefix configurations.

  Model: `KB.compactRanges` / `KB.compactBorders` (KB.Backend) = `getCompactBorders` of
  /repo/pkg/backend/compact.go after fix 3b0f3bc: the directory of the key prefix `[p/, PrefixEnd(p/))`
  minus the union of the skipped directories (clipped to the prefix directory, sorted by start).

  The raw-key theorems need NO hypothesis on the bytes: a directory `p/` ends in `'/' = 47 < 0xff`, so
  `PrefixEnd(p/)` is `p` followed by `'0'` and the `noPrefixEnd` sentinel is unreachable — also for the
  empty prefix and for prefixes made of 0xff bytes (`KB.Ranges.dir_exact`, `prefixEnd_snoc47`).
  The internal-key (border) forms need what the coder order lemmas need: prefix, skipped prefixes and
  key over the alphabet (every byte above the split byte `'$'`) and revisions below 2^64.
-/
import KB.Lemmas.Ranges
import KB.Props.C10
import KB.Str
namespace KB.C07Ranges
open KB KB.Ranges Generated

/-! ### 1.–4. for every ordering by start of the clipped skipped directories -/

/-- The Go code sorts the clipped skipped directories with `sort.Slice`, which is not stable; the model
uses one particular (insertion) sort. Properties 1–4 hold for every ordering by start. -/
theorem any_sort_order (c : Cfg) {spans : List (Bytes × Bytes)} (hs : IsSpanSort c spans) :
    let rs := subtractSpans (dirOf c.pfx).1 (dirOf c.pfx).2 spans
    (∀ r ∈ rs, blt r.1 r.2 = true) ∧
    rs.Pairwise (fun a b => ble a.2 b.1 = true) ∧
    (∀ r ∈ rs, ble (dirOf c.pfx).1 r.1 = true ∧ ble r.2 (dirOf c.pfx).2 = true) ∧
    ∀ k, (∃ r ∈ rs, ble r.1 k = true ∧ blt k r.2 = true) ↔
      (hasPrefix k (withSlash c.pfx) = true ∧
        ∀ sp ∈ c.skipped, hasPrefix k (withSlash sp) = false) := by
  have hb := sub_bounds hs.wf (withSlash c.pfx)
  exact ⟨fun r hr => (hb r hr).2.1, sub_pairwise hs.wf _,
    fun r hr => ⟨(hb r hr).1, (hb r hr).2.2⟩, key_in_sub_iff hs⟩

/-! ### 1. the ranges are non-empty, ascending, pairwise disjoint and inside the prefix directory -/

theorem ranges_sorted_disjoint (c : Cfg) :
    (∀ r ∈ compactRanges c, blt r.1 r.2 = true) ∧
    (compactRanges c).Pairwise (fun a b => ble a.2 b.1 = true) ∧
    (∀ r ∈ compactRanges c,
      ble (dirOf c.pfx).1 r.1 = true ∧ ble r.2 (dirOf c.pfx).2 = true) :=
  have h := any_sort_order c (spansOf_isSpanSort c)
  ⟨h.1, h.2.1, h.2.2.1⟩

/-- consecutive ranges: `end_i ≤ start_{i+1}` -/
theorem ranges_ascending (c : Cfg) (i : Nat) (h : i + 1 < (compactRanges c).length) :
    ble ((compactRanges c)[i]).2 ((compactRanges c)[i + 1]).1 = true :=
  List.pairwise_iff_getElem.mp (ranges_sorted_disjoint c).2.1 i (i + 1) (by omega) h (by omega)

/-- two different ranges share no key -/
theorem ranges_pairwise_disjoint (c : Cfg) (i j : Nat) (hi : i < (compactRanges c).length)
    (hj : j < (compactRanges c).length) (hij : i ≠ j) (k : Bytes) :
    ¬ ((ble ((compactRanges c)[i]).1 k = true ∧ blt k ((compactRanges c)[i]).2 = true) ∧
       (ble ((compactRanges c)[j]).1 k = true ∧ blt k ((compactRanges c)[j]).2 = true)) := by
  have hp := List.pairwise_iff_getElem.mp (ranges_sorted_disjoint c).2.1
  rintro ⟨h1, h2⟩
  rcases Nat.lt_or_gt_of_ne hij with h | h
  · exact not_ble_of_blt h1.2 (ble_trans (hp i j hi hj h) h2.1)
  · exact not_ble_of_blt h2.2 (ble_trans (hp j i hj hi h) h1.1)

/-- 2–4 in one statement: the ranges hold exactly the keys under the prefix directory that are under
no skipped directory. -/
theorem key_in_some_range_iff (c : Cfg) (k : Bytes) :
    (∃ r ∈ compactRanges c, ble r.1 k = true ∧ blt k r.2 = true) ↔
      (hasPrefix k (withSlash c.pfx) = true ∧
        ∀ sp ∈ c.skipped, hasPrefix k (withSlash sp) = false) :=
  (any_sort_order c (spansOf_isSpanSort c)).2.2.2 k

/-- every key of a range is under the directory of the prefix -/
theorem range_keys_under_prefix (c : Cfg) {r : Bytes × Bytes} (hr : r ∈ compactRanges c) {k : Bytes}
    (hk : ble r.1 k = true ∧ blt k r.2 = true) : hasPrefix k (withSlash c.pfx) = true :=
  ((key_in_some_range_iff c k).mp ⟨r, hr, hk⟩).1

/-! ### 2. keys under a skipped directory are in no range -/

theorem skipped_key_in_no_range (c : Cfg) {k sp : Bytes} (hsp : sp ∈ c.skipped)
    (hk : hasPrefix k (withSlash sp) = true) :
    ∀ r ∈ compactRanges c, ¬ (ble r.1 k = true ∧ blt k r.2 = true) := by
  intro r hr hin
  have := ((key_in_some_range_iff c k).mp ⟨r, hr, hin⟩).2 sp hsp
  rw [hk] at this; cases this

/-! ### 3. keys outside the prefix directory are in no range -/

theorem foreign_key_in_no_range (c : Cfg) {k : Bytes} (hk : hasPrefix k (withSlash c.pfx) = false) :
    ∀ r ∈ compactRanges c, ¬ (ble r.1 k = true ∧ blt k r.2 = true) := by
  intro r hr hin
  have := range_keys_under_prefix c hr hin
  rw [hk] at this; cases this

/-! ### 4. completeness: every other key of the prefix directory is in exactly one range -/

theorem unskipped_key_in_exactly_one_range (c : Cfg) {k : Bytes}
    (hk : hasPrefix k (withSlash c.pfx) = true)
    (hns : ∀ sp ∈ c.skipped, hasPrefix k (withSlash sp) = false) :
    ((compactRanges c).filter (fun r => ble r.1 k && blt k r.2)).length = 1 ∧
    ∃ r ∈ compactRanges c, (ble r.1 k = true ∧ blt k r.2 = true) ∧
      ∀ r' ∈ compactRanges c, (ble r'.1 k = true ∧ blt k r'.2 = true) → r' = r := by
  obtain ⟨r, hr, hin⟩ := (key_in_some_range_iff c k).mpr ⟨hk, hns⟩
  have hf := holders_eq_singleton (ranges_sorted_disjoint c).2.1 hr hin
  refine ⟨by rw [hf]; rfl, r, hr, hin, fun r' hr' hin' => ?_⟩
  have : r' ∈ (compactRanges c).filter (fun r => ble r.1 k && blt k r.2) :=
    List.mem_filter.mpr ⟨hr', by simp [hin']⟩
  rw [hf] at this
  exact List.mem_singleton.mp this

/-! ### the same on internal keys: the border pairs consumed by `doCompact` -/

/-- A configuration over the documented alphabet. -/
def CfgAlphabet (c : Cfg) : Prop := Alphabet c.pfx ∧ ∀ sp ∈ c.skipped, Alphabet sp

instance (c : Cfg) : Decidable (CfgAlphabet c) := by unfold CfgAlphabet; infer_instance

/-- The record `encode k rev` lies between the borders of a range iff the raw key lies in the range. -/
theorem record_between_borders_iff {c : Cfg} (hc : CfgAlphabet c) {r : Bytes × Bytes}
    (hr : r ∈ compactRanges c) {k : Bytes} (hk : Alphabet k) {rev : Nat} (hrev : rev < 2 ^ 64) :
    (ble (encode r.1 0) (encode k rev) = true ∧ blt (encode k rev) (encode r.2 0) = true) ↔
      (ble r.1 k = true ∧ blt k r.2 = true) :=
  have ha := ranges_alphabet hc.1 hc.2 r hr
  C10.range_bounds_exact ha.1 ha.2 hk hrev

theorem mem_border_pairs {c : Cfg} {b : Bytes × Bytes} :
    b ∈ pairs (compactBorders c) ↔ ∃ r ∈ compactRanges c, b = (encode r.1 0, encode r.2 0) := by
  simp only [pairs_compactBorders, List.mem_map, eq_comm]

/-- 2, second form: no record (any revision) of a key under a skipped directory lies between a pair
of borders — the scan `[start, end)` that `scanner.Compact` runs for that pair never sees it. -/
theorem skipped_record_between_no_borders {c : Cfg} (hc : CfgAlphabet c) {k sp : Bytes}
    (hsp : sp ∈ c.skipped) (hk : hasPrefix k (withSlash sp) = true) (hka : Alphabet k)
    {rev : Nat} (hrev : rev < 2 ^ 64) :
    ∀ b ∈ pairs (compactBorders c),
      ¬ (ble b.1 (encode k rev) = true ∧ blt (encode k rev) b.2 = true) := by
  intro b hb hin
  obtain ⟨r, hr, rfl⟩ := mem_border_pairs.mp hb
  exact skipped_key_in_no_range c hsp hk r hr ((record_between_borders_iff hc hr hka hrev).mp hin)

/-- 3 on internal keys. -/
theorem foreign_record_between_no_borders {c : Cfg} (hc : CfgAlphabet c) {k : Bytes}
    (hk : hasPrefix k (withSlash c.pfx) = false) (hka : Alphabet k) {rev : Nat} (hrev : rev < 2 ^ 64) :
    ∀ b ∈ pairs (compactBorders c),
      ¬ (ble b.1 (encode k rev) = true ∧ blt (encode k rev) b.2 = true) := by
  intro b hb hin
  obtain ⟨r, hr, rfl⟩ := mem_border_pairs.mp hb
  exact foreign_key_in_no_range c hk r hr ((record_between_borders_iff hc hr hka hrev).mp hin)

/-- 4 on internal keys: every record of a key that is to be compacted lies between exactly one pair
of borders. -/
theorem unskipped_record_between_exactly_one_pair {c : Cfg} (hc : CfgAlphabet c) {k : Bytes}
    (hk : hasPrefix k (withSlash c.pfx) = true)
    (hns : ∀ sp ∈ c.skipped, hasPrefix k (withSlash sp) = false) (hka : Alphabet k)
    {rev : Nat} (hrev : rev < 2 ^ 64) :
    ((pairs (compactBorders c)).filter
      (fun b => ble b.1 (encode k rev) && blt (encode k rev) b.2)).length = 1 := by
  rw [pairs_compactBorders, List.filter_map, List.length_map,
    ← (unskipped_key_in_exactly_one_range c hk hns).1]
  refine congrArg _ (List.filter_congr fun r hr => ?_)
  have := record_between_borders_iff hc hr hka hrev
  rw [Bool.eq_iff_iff]
  simpa using this

/-! ### 5. the old algorithm compacted skipped directories

`getCompactBorders` before fix 3b0f3bc: the borders `encode p/ 0`, `encode PrefixEnd(p/) 0` of the
prefix and of every skipped prefix, sorted into ONE list, consumed pairwise. -/

def oldCompactBorders (c : Cfg) : List Bytes :=
  (((c.pfx :: c.skipped).map withSlash).flatMap
    (fun p => [encode p 0, encode (prefixEnd p) 0])).foldr insertBytes []

/-- the same on raw keys -/
def oldCompactRanges (c : Cfg) : List (Bytes × Bytes) :=
  pairs ((((c.pfx :: c.skipped).map withSlash).flatMap (fun p => [p, prefixEnd p])).foldr insertBytes [])

def cfgNested : Cfg := { pfx := b!"/r", skipped := [b!"/r/a", b!"/r/a/b"] }
def cfgDuplicate : Cfg := { pfx := b!"/r", skipped := [b!"/r/a", b!"/r/a"] }
def cfgForeign : Cfg := { pfx := b!"/r", skipped := [b!"/q"] }
def cfgParent : Cfg := { pfx := b!"/r/a", skipped := [b!"/r"] }

/-- some pair of `l` encloses `x` -/
def enclosed (l : List (Bytes × Bytes)) (x : Bytes) : Bool := l.any (fun b => ble b.1 x && blt x b.2)

theorem old_ranges_nested :
    oldCompactRanges cfgNested =
      [(b!"/r/", b!"/r/a/"), (b!"/r/a/b/", b!"/r/a/b0"), (b!"/r/a0", b!"/r0")] := by decide

theorem old_ranges_duplicate :
    oldCompactRanges cfgDuplicate =
      [(b!"/r/", b!"/r/a/"), (b!"/r/a/", b!"/r/a0"), (b!"/r/a0", b!"/r0")] := by decide

theorem old_ranges_foreign :
    oldCompactRanges cfgForeign = [(b!"/q/", b!"/q0"), (b!"/r/", b!"/r0")] := by decide

theorem old_ranges_parent :
    oldCompactRanges cfgParent = [(b!"/r/", b!"/r/a/"), (b!"/r/a0", b!"/r0")] := by decide

/-- Witness. Nested skipped prefixes `/r/a`, `/r/a/b`: the key `/r/a/b/k` (under both skipped
directories) lies inside an old range and its record inside an old border pair. Duplicate `/r/a`,
`/r/a`: the whole skipped directory `/r/a/` is an old range. Foreign `/q`: the old algorithm compacts
the directory `/q/` outside the prefix `/r`. Parent `/r` of the prefix `/r/a`: the old algorithm
compacts `/r/b/k` (outside the prefix) and leaves out the prefix directory itself. The ranges of
`compactRanges` enclose none of these keys. -/
theorem old_algorithm_compacts_skipped :
    -- nested
    (enclosed (oldCompactRanges cfgNested) b!"/r/a/b/k" = true ∧
     enclosed (pairs (oldCompactBorders cfgNested)) (encode b!"/r/a/b/k" 7) = true ∧
     enclosed (compactRanges cfgNested) b!"/r/a/b/k" = false ∧
     enclosed (pairs (compactBorders cfgNested)) (encode b!"/r/a/b/k" 7) = false) ∧
    -- duplicate
    (enclosed (oldCompactRanges cfgDuplicate) b!"/r/a/b/k" = true ∧
     enclosed (pairs (oldCompactBorders cfgDuplicate)) (encode b!"/r/a/b/k" 7) = true ∧
     enclosed (compactRanges cfgDuplicate) b!"/r/a/b/k" = false ∧
     enclosed (pairs (compactBorders cfgDuplicate)) (encode b!"/r/a/b/k" 7) = false) ∧
    -- foreign
    (enclosed (oldCompactRanges cfgForeign) b!"/q/k" = true ∧
     enclosed (pairs (oldCompactBorders cfgForeign)) (encode b!"/q/k" 7) = true ∧
     enclosed (compactRanges cfgForeign) b!"/q/k" = false ∧
     enclosed (pairs (compactBorders cfgForeign)) (encode b!"/q/k" 7) = false) ∧
    -- skipped parent of the prefix
    (enclosed (oldCompactRanges cfgParent) b!"/r/b/k" = true ∧
     enclosed (pairs (oldCompactBorders cfgParent)) (encode b!"/r/b/k" 7) = true ∧
     enclosed (oldCompactRanges cfgParent) b!"/r/a/k" = false ∧
     enclosed (compactRanges cfgParent) b!"/r/b/k" = false ∧
     enclosed (pairs (compactBorders cfgParent)) (encode b!"/r/b/k" 7) = false) := by
  decide

/-- The witnesses are instances of the general theorems (hypotheses satisfiable). -/
example : b!"/r/a/b" ∈ cfgNested.skipped ∧ hasPrefix b!"/r/a/b/k" (withSlash b!"/r/a/b") = true ∧
    CfgAlphabet cfgNested ∧ Alphabet b!"/r/a/b/k" := by decide
example : hasPrefix b!"/q/k" (withSlash cfgForeign.pfx) = false ∧ CfgAlphabet cfgForeign := by decide

/-- For every revision, not just the decided one: the records of `/r/a/b/k` are inside the second old
border pair. -/
theorem old_algorithm_compacts_skipped_all_revisions (rev : Nat) (hrev : rev < 2 ^ 64) :
    (encode b!"/r/a/b/" 0, encode b!"/r/a/b0" 0) ∈ pairs (oldCompactBorders cfgNested) ∧
    ble (encode b!"/r/a/b/" 0) (encode b!"/r/a/b/k" rev) = true ∧
    blt (encode b!"/r/a/b/k" rev) (encode b!"/r/a/b0" 0) = true := by
  refine ⟨by decide, ?_⟩
  exact (C10.range_bounds_exact (a := b!"/r/a/b/") (b := b!"/r/a/b0") (k := b!"/r/a/b/k")
    (by decide) (by decide) (by decide) hrev).mpr (by decide)

/-! ### 6. non-vacuity: concrete configurations -/

/-- no skipped prefix: the whole directory -/
example : compactRanges { pfx := b!"/r" } = [(b!"/r/", b!"/r0")] := by decide
/-- single -/
example : compactRanges { pfx := b!"/r", skipped := [b!"/r/a"] } =
    [(b!"/r/", b!"/r/a/"), (b!"/r/a0", b!"/r0")] := by decide
/-- trailing slashes change nothing -/
example : compactRanges { pfx := b!"/r/", skipped := [b!"/r/a/"] } =
    [(b!"/r/", b!"/r/a/"), (b!"/r/a0", b!"/r0")] := by decide
/-- nested, either order -/
example : compactRanges cfgNested = [(b!"/r/", b!"/r/a/"), (b!"/r/a0", b!"/r0")] := by decide
example : compactRanges { pfx := b!"/r", skipped := [b!"/r/a/b", b!"/r/a"] } =
    [(b!"/r/", b!"/r/a/"), (b!"/r/a0", b!"/r0")] := by decide
/-- duplicate -/
example : compactRanges cfgDuplicate = [(b!"/r/", b!"/r/a/"), (b!"/r/a0", b!"/r0")] := by decide
/-- siblings, unsorted in the configuration -/
example : compactRanges { pfx := b!"/r", skipped := [b!"/r/c", b!"/r/a"] } =
    [(b!"/r/", b!"/r/a/"), (b!"/r/a0", b!"/r/c/"), (b!"/r/c0", b!"/r0")] := by decide
/-- foreign, below and above the prefix, mixed with a real one -/
example : compactRanges cfgForeign = [(b!"/r/", b!"/r0")] := by decide
example : compactRanges { pfx := b!"/r", skipped := [b!"/s", b!"/r/a", b!"/q"] } =
    [(b!"/r/", b!"/r/a/"), (b!"/r/a0", b!"/r0")] := by decide
/-- a sibling whose name extends the prefix name is foreign (`/r` vs `/rr`) -/
example : compactRanges { pfx := b!"/r", skipped := [b!"/rr"] } = [(b!"/r/", b!"/r0")] := by decide
/-- the skipped prefix is the prefix itself, or a parent of it: nothing is compacted -/
example : compactRanges { pfx := b!"/r", skipped := [b!"/r"] } = [] := by decide
example : compactRanges cfgParent = [] := by decide
example : compactRanges { pfx := b!"/r/a", skipped := [b!""] } = [] := by decide
/-- the key `/r/a0` lies between the skipped directories `/r/a/` and `/r/a0/` and is compacted -/
example : compactRanges { pfx := b!"/r", skipped := [b!"/r/a", b!"/r/a0"] } =
    [(b!"/r/", b!"/r/a/"), (b!"/r/a0", b!"/r/a0/"), (b!"/r/a00", b!"/r0")] := by decide
/-- the empty prefix is the directory `/`; prefixes of 0xff bytes have a proper end -/
example : compactRanges { pfx := b!"" } = [(b!"/", b!"0")] := by decide
example : compactRanges { pfx := [255, 255], skipped := [[255, 255, 47, 255]] } =
    [([255, 255, 47], [255, 255, 47, 255, 47]), ([255, 255, 47, 255, 48], [255, 255, 48])] := by decide
/-- borders: two per range -/
example : compactBorders { pfx := b!"/r", skipped := [b!"/r/a", b!"/r/a/b"] } =
    [encode b!"/r/" 0, encode b!"/r/a/" 0, encode b!"/r/a0" 0, encode b!"/r0" 0] := by decide

/-- exactly-one on concrete keys: `/r/ab/x` is a sibling of the skipped `/r/a`, `/r/z` lies after every
skipped directory, `/r/a/x` is skipped -/
example :
    let c : Cfg := { pfx := b!"/r", skipped := [b!"/r/c", b!"/r/a", b!"/r/a/b", b!"/q"] }
    ((compactRanges c).filter (fun r => ble r.1 b!"/r/ab/x" && blt b!"/r/ab/x" r.2)).length = 1 ∧
    ((compactRanges c).filter (fun r => ble r.1 b!"/r/z" && blt b!"/r/z" r.2)).length = 1 ∧
    ((compactRanges c).filter (fun r => ble r.1 b!"/r/a/x" && blt b!"/r/a/x" r.2)).length = 0 ∧
    ((compactRanges c).filter (fun r => ble r.1 b!"/q/x" && blt b!"/q/x" r.2)).length = 0 := by
  decide

end KB.C07Ranges
