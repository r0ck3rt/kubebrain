/-
  C15 — Revisions keep increasing across leader changes and restarts.
  A node that becomes leader calls `SetCurrentRevision(ts)` with the engine timestamp `ts` of its last
  lock write (leader.go:93-108, election.go Describe). The theorems: IF `ts` is at or above every
  revision present in the store THEN the new leader's state is a well-formed initial state of KB.Sys —
  so every theorem of C01/C02/C04 applies to it — every revision it hands out is above every stored
  one, and reads at its revision see everything. Whether the hypothesis holds is a property of the
  engine's clock: assumed (and checked on every run) for memkv (wall-clock ns) and tikv (PD TSO);
  FALSE for Badger (ReadTs = number of committed update transactions): `badger_clock_can_lag`.
-/
import KB.Lemmas.Restart
import KB.Props.C02
namespace KB.C15

/-- The state of a freshly elected leader over an existing store. -/
def newLeader (cfg : Cfg) (store : Store) (ts : Nat) : G :=
  { cfg := cfg, store := store, dealt := ts, committed := ts }

/-- `ts` dominates everything in the store (the clock hypothesis), in the form C02.StoreOK needs. -/
def ClockOK (store : Store) (ts : Nat) : Prop :=
  ∃ recs : List Rec, store = encodeStore recs ∧ SortedRecs recs ∧
    (∀ r ∈ recs, Alphabet r.key ∧ r.rev ≤ ts ∧
      (r.rev = 0 → ∃ m t, parseRevision r.val = some (m, t) ∧ m ≤ ts)) ∧ ts < 2 ^ 64 - 2 ^ 32

/-- Under the clock hypothesis a new leader starts in a well-formed initial state: all of C01, C02, C04 apply. -/
theorem new_leader_init (cfg : Cfg) (store : Store) (ts : Nat) (h : ClockOK store ts) :
    C02.Init (newLeader cfg store ts) ∧ C02.StoreOK (newLeader cfg store ts) :=
  ⟨⟨⟨rfl, rfl, rfl, rfl, rfl⟩, rfl, rfl, rfl⟩, h⟩

/-- Why `new_revisions_above_store` asks for `hrb` (the stored revision fits 8 bytes): the store holding `(/a, 5)` is also the
encoding of the "decoding" `(/a, 2 ^ 64 + 5)`; the new leader (ts = 5) hands out revision 6. -/
theorem new_revisions_above_store_counterexample :
    let recs : List Rec := [{ key := [47, 97], rev := 5, val := [1], ik := [] }]
    let recs' : List Rec := [{ key := [47, 97], rev := 2 ^ 64 + 5, val := [1], ik := [] }]
    let g := run (newLeader {} (encodeStore recs) 5) [.begin 1 (.create [47, 98] [1]), .step 1 .none, .step 1 .none]
    encodeStore recs = encodeStore recs' ∧ g.done.map (·.rev) = [6] ∧
      (∀ r ∈ recs, Alphabet r.key ∧ r.rev ≤ 5 ∧ r.rev ≠ 0) ∧ SortedRecs recs := by
  decide

/-- Every revision the new leader hands out is greater than every (8-byte) revision already in the store. -/
theorem new_revisions_above_store (cfg : Cfg) (store : Store) (ts : Nat) (h : ClockOK store ts)
    {g : G} (hr : Reachable (newLeader cfg store ts) g) (d : Done) (hd : d ∈ g.done)
    (recs : List Rec) (hst : store = encodeStore recs) (r : Rec) (hrm : r ∈ recs) (hrb : r.rev < 2 ^ 64) :
    r.rev < d.rev := by
  obtain ⟨recs', hst', _, hall, hts⟩ := h
  have hb' : ∀ r' ∈ recs', r'.rev < 2 ^ 64 := fun r' hr' => by
    have := (hall r' hr').2.1
    omega
  obtain ⟨r', hr', _, e⟩ := rec_of_encodeStore_eq (hst.symm.trans hst') hrm hrb hb'
  have h1 : r.rev ≤ ts := e ▸ (hall r' hr').2.1
  have h0 := (new_leader_init cfg store ts ⟨recs', hst', ‹_›, hall, hts⟩).1
  have h2 := (C02.stamps_bracket h0 hr d hd).1
  have h3 : ts ≤ d.beginDealt :=
    (hr.closed (LowInv.closed ts) (LowInv.init (g := newLeader cfg store ts) rfl rfl)).dn d hd
  omega

/-- Why `reads_see_everything` asks for `hts`: without it nothing bounds `ts` (nor the stored revisions)
by `2 ^ 64 - 1`. -/
theorem reads_see_everything_counterexample :
    let recs : List Rec := [{ key := [47, 97], rev := 2 ^ 64, val := [1], ik := [] }]
    (∀ r ∈ recs, r.rev ≤ 2 ^ 64) ∧ readAt (2 ^ 64) recs [47, 97] ≠ readAt (2 ^ 64 - 1) recs [47, 97] := by
  decide

/-- Everything written before remains visible: a read at the new leader's revision is the read of
the latest state (`ts < 2 ^ 64` is part of the clock hypothesis `ClockOK`). -/
theorem reads_see_everything {recs : List Rec} (ts : Nat) (hall : ∀ r ∈ recs, r.rev ≤ ts)
    (hts : ts < 2 ^ 64) (k : Bytes) : readAt ts recs k = readAt (2 ^ 64 - 1) recs k := by
  unfold readAt
  rw [visible_eq_of_all_le (R' := 2 ^ 64 - 1) (fun r hr => ⟨hall r hr, by have := hall r hr; omega⟩) k]

/-! ### the Badger clock -/

/-- What a request does to the two counters: a successful write is one revision and one commit;
a failed one (condition failed, key not found) consumes a revision without a commit. -/
inductive ReqOutcome where
  | applied | failed
  deriving Repr, DecidableEq

structure Counters where
  dealt : Nat      -- revision counter of the old leader
  commits : Nat    -- Badger's ReadTs
  maxStored : Nat  -- largest revision written to the store
  deriving Repr, DecidableEq

def countStep (c : Counters) : ReqOutcome → Counters
  | .applied => { dealt := c.dealt + 1, commits := c.commits + 1, maxStored := c.dealt + 1 }
  | .failed => { c with dealt := c.dealt + 1 }

/-- As long as every request is applied the Badger clock keeps up... -/
theorem badger_clock_ok_without_failures (c : Counters) (h : c.maxStored ≤ c.commits) (hd : c.dealt ≤ c.commits)
    (l : List ReqOutcome) (hl : ∀ o ∈ l, o = .applied) :
    (l.foldl countStep c).maxStored ≤ (l.foldl countStep c).commits := by
  induction l generalizing c with
  | nil => exact h
  | cons o os ih =>
    have ho : o = .applied := hl o (List.mem_cons_self ..)
    subst ho
    simp only [List.foldl_cons]
    apply ih
    · simp only [countStep]; omega
    · simp only [countStep]; omega
    · intro o ho; exact hl o (List.mem_cons_of_mem _ ho)

/-- ... but one failed request followed by an applied one makes it lag behind the store for good:
the clock hypothesis is false for Badger (known finding). -/
theorem badger_clock_can_lag :
    let c := [ReqOutcome.failed, .applied].foldl countStep { dealt := 2, commits := 2, maxStored := 2 }
    c.commits < c.maxStored := by decide

/-- and then the property fails in the model: the new leader (ts = 2) over a store holding revision 4
rejects a correctly guarded update with "revision drift back". -/
theorem lagging_clock_breaks_guarded_write :
    let store := encodeStore [ { key := [47, 97], rev := 0, val := be64 4, ik := [] },
                               { key := [47, 97], rev := 4, val := [1], ik := [] } ]
    let g := run (newLeader {} store 2) [.begin 1 (.update [47, 97] [2] 4), .step 1 .none]
    g.done.map (·.res) = [.error .drift] := by
  decide

end KB.C15
