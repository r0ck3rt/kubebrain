/-
  C16 — The etcd-facing API answers Kubernetes' requests as etcd would.
  Property theorems only. Models: KB.EtcdShim (kv.go / backendshim.go over the sequential backend model
  KB.Backend), KB.EtcdRef (reference etcd Txn / Range over an MVCC state). Lemmas: KB.Lemmas.Etcd, EtcdShape,
  EtcdProbe, EtcdRange.

  How a backend state abstracts to the etcd state:
  * for transactions (`AbsAt c s m k`, at the key `k` the transaction works on): the revision counter of
    `m` is the dealt revision, `m.get k` is the live key-value of `k` (`curKv` = what `backend.get(k, 0)`
    answers: value and mod revision), keys are listed once;
  * for reads (`StoreAbs c s recs`, `histOf recs committed`): the engine holds the encoded records of a
    sorted decoded store; the state at revision R is the snapshot of C03 (`scanRecs R recs`).
  The write path is used through its index-record invariant `idxOK` (decidable per key; what C01
  establishes for reachable states), the engine contract of C11 (`casMissingNotFound = false`) and
  64-bit revisions: `WHyp`.

  The recognisers modelled are the REPAIRED ones (/repo commits 4c41c58, for the compaction probe 2870609, and for
  `prev_kv` on the delete op c09cadc: `delete_with_prev_kv_rejected`, `old_delete_prev_kv_executed`).
  The full statement for transactions is the theorem `shim_sound` — every structurally valid transaction other
  than the compactor's (EXACTLY kube-apiserver's probe, compare / put / plain Get all on `compact_rev_key`:
  `compact_probe_shape_exact`, `shim_sound_except_probe`; a near miss of it is refused: `near_probe_rejected`)
  is either refused with an error or answered with the projection etcd prescribes. A transaction of no supported
  shape is refused without anything being executed (`refused_unchanged`, `refused_or_canonical`); a well-shaped one
  whose expectation lies outside `0 .. dealt` is refused with the drift error AFTER a revision was dealt
  (`boundary_expectation_refused`; the revision is reported as invalid, the store is not touched). What used to be executed as something else is refused
  (`key_mismatch_rejected`, `ranged_delete_rejected`, `mod0_delete_rejected`, `update_put_flags_rejected`,
  `op_options_rejected`; in general `executed_only_if_canonical`), and the unguarded delete of a missing
  key now answers `Succeeded = true` like etcd (`unguarded_delete_missing_flag`). The scripts of these
  theorems are replayed on the real server by kbcheck/props/c16.py on every run.
  For reads the full statement is still false for `Count`: `range_matches_ref` is partial there and
  `limited_count_wrong`, `count_bounds_unchecked` are the witnesses (known findings).
-/
import KB.Lemmas.Etcd
import KB.Lemmas.EtcdRange
import KB.Lemmas.EtcdShape
import KB.Lemmas.EtcdProbe
namespace KB.C16
open KB.Etcd

/-! ### the four shapes Kubernetes issues -/

def k8sCreate (k v : Bytes) (lease : Int) : TxnReq :=
  { compare := [{ key := k }], success := [.put { key := k, val := v, lease := lease }], failure := [] }

def k8sUpdate (k v : Bytes) (exp : Nat) (lease : Int) : TxnReq :=
  { compare := [{ key := k, int := exp }], success := [.put { key := k, val := v, lease := lease }],
    failure := [.range { key := k }] }

def k8sDelete (k : Bytes) (exp : Nat) : TxnReq :=
  { compare := [{ key := k, int := exp }], success := [.del { key := k }], failure := [.range { key := k }] }

def k8sDeleteUnguarded (k : Bytes) : TxnReq :=
  { compare := [], success := [.range { key := k }, .del { key := k }], failure := [] }

theorem plainGet_of_key (k : Bytes) : PlainGet { key := k } k := ⟨rfl, rfl, rfl, rfl, rfl, rfl, rfl, rfl, rfl⟩

/-- The four shapes are recognised as the backend call they mean, for every key, value, lease and
expected revision (a guarded delete with a positive one). -/
theorem k8s_shapes_recognised (k v : Bytes) (lease : Int) (exp : Nat) :
    classify (k8sCreate k v lease) = .create { key := k, val := v, lease := lease } ∧
    classify (k8sUpdate k v exp lease) = .update exp k v lease ∧
    (0 < exp → classify (k8sDelete k exp) = .delete exp k true) ∧
    classify (k8sDeleteUnguarded k) = .delete 0 k false := by
  refine ⟨classify_create ⟨rfl, rfl, rfl, rfl, rfl⟩, ?_, ?_, classify_udelete rfl rfl (plainGet_of_key k)⟩
  · exact classify_update' (n := exp) (p := { key := k, val := v, lease := lease }) (g := { key := k })
      ⟨rfl, rfl, rfl, rfl, rfl⟩ rfl rfl rfl (plainGet_of_key k)
  · intro h0
    exact classify_gdelete (n := exp) ⟨rfl, rfl, rfl, rfl, rfl⟩ (by omega) rfl rfl (plainGet_of_key k)

/-- ... and on any backend state with a consistent index record for the key they are answered with
the projection etcd prescribes on the abstracted state: success flag, revision of the write, the
key-values of the reads — create and update WITH A VALUE (`v ≠ []`; without one: `empty_value_refused`); update and guarded delete with a correct / stale / zero expectation
(not above `dealt`, the revision of the abstracted etcd state: an expectation equal to the revision about to be dealt is refused as drift); the unguarded delete of an existing or a missing key. -/
theorem k8s_shapes_accepted (c : Cfg) (s : BState) (m : Mvcc) (k v : Bytes) (lease : Int) (exp : Nat)
    (hk : k ≠ []) (hv : v ≠ []) (hw : WHyp c s k) (ha : AbsAt c s m k) :
    Agree c s m (k8sCreate k v lease) ∧
    (exp ≤ s.dealt → Agree c s m (k8sUpdate k v exp lease)) ∧
    (0 < exp → exp ≤ s.dealt → Agree c s m (k8sDelete k exp)) ∧
    Agree c s m (k8sDeleteUnguarded k) := by
  have hc : ∀ n : Int, ModCmp { key := k, int := n } k n := fun _ => ⟨rfl, rfl, rfl, rfl, rfl⟩
  have hg := plainGet_of_key k
  have hp : ∀ v lease, PlainPut { key := k, val := v, lease := lease } := fun _ _ => ⟨hk, rfl, rfl, rfl⟩
  refine ⟨canonical_agree c s m _ (.create _ _ (hc 0) (hp v lease) hv) hw ha ?_,
    fun hle => canonical_agree c s m _ (.update _ _ _ exp (hc exp) (hp v lease) hv hg) hw ha ?_,
    fun h0 hle => canonical_agree c s m _ (.gdelete _ _ _ exp (hc exp) (by omega) hk rfl rfl hg) hw ha ?_,
    canonical_agree c s m _ (.udelete _ _ hk rfl rfl hg) hw ha (fun _ h => absurd h List.not_mem_nil)⟩
  all_goals
    intro cm hcm
    rw [List.mem_singleton.mp hcm]
  · exact ⟨Int.le_refl 0, Int.natCast_nonneg _⟩
  · exact ⟨Int.natCast_nonneg _, Int.ofNat_le.mpr hle⟩
  · exact ⟨Int.natCast_nonneg _, Int.ofNat_le.mpr hle⟩

/-- The bound `exp ≤ dealt` of `k8s_shapes_accepted` is tight: an expectation equal to the revision
about to be dealt (`dealt + 1`; backend.go `deal`: `rev <= prevRevision`) is refused with the drift error —
the write would overwrite the very version it names. (etcd fails such a compare: nobody has written that
revision; `shim_sound` allows the refusal.) A guarded delete so, when the key exists. -/
theorem boundary_expectation_refused (c : Cfg) (s : BState) (k v : Bytes) (lease : Int) (hv : v ≠ [])
    (h63 : s.dealt + 1 < 2 ^ 63) :
    (shimTxn c s (k8sUpdate k v (s.dealt + 1) lease)).1 = .error (.backend .drift) ∧
    (curKv c s k ≠ none → (shimTxn c s (k8sDelete k (s.dealt + 1))).1 = .error (.backend .drift)) := by
  have hfar : s.dealt + 1 ≤ toU64 (((s.dealt + 1 : Nat)) : Int) :=
    toU64_far (dealt := s.dealt) (by omega) (by omega) h63 (.inr (by omega))
  obtain ⟨-, hu, hd, -⟩ := k8s_shapes_recognised k v lease (s.dealt + 1)
  constructor
  · rw [shimTxn_fst_of_shape c s hu rfl (isEmpty_false_of_ne hv), callAns, doUpdate_drift c s k v _ hfar]
    rfl
  · intro hcur
    rw [shimTxn_fst_of_shape c s (hd (by omega)) rfl rfl]
    rw [callAns, doDelete_far c s k _ hfar]
    cases hk : curKv c s k with
    | none => exact absurd hk hcur
    | some _ => rfl

/-! ### the full statement for transactions -/

/-- A transaction that is not recognised, and one whose create shape carries put flags, is answered
with an error and NOTHING is executed: the state is unchanged. -/
theorem refused_unchanged (c : Cfg) (s : BState) (t : TxnReq) :
    (classify t = .unsupported → shimTxn c s t = (.error .unsupported, s)) ∧
    (∀ p, classify t = .create p → (p.ignoreLease = true ∨ p.ignoreValue = true ∨ p.prevKv = true) →
      shimTxn c s t = (.error .field, s)) :=
  ⟨shimTxn_unsupported c s, fun _ => shimTxn_flags c s⟩

/-- A WRITE WITHOUT A VALUE IS REFUSED (/repo f2a549c: `backend.Create` / `backend.Update` answer an error
before a revision is dealt, on every engine alike): a transaction of the create or update shape whose put
carries an empty value is answered with the backend's error and NOTHING is executed — no revision is
consumed, the state is unchanged. (etcd would store the empty value: a refusal, not a wrong answer.) -/
theorem empty_value_refused (c : Cfg) (s : BState) (t : TxnReq) (call : BCall)
    (h : backendCall (classify t) = some call) (he : call.emptyValue = true) :
    shimTxn c s t = (.error (.backend .other), s) :=
  shimTxn_empty_value c s t call h he

theorem empty_value_refused_k8s (c : Cfg) (s : BState) (k : Bytes) (lease : Int) (exp : Nat) :
    shimTxn c s (k8sCreate k [] lease) = (.error (.backend .other), s) ∧
    shimTxn c s (k8sUpdate k [] exp lease) = (.error (.backend .other), s) := by
  have hrec := k8s_shapes_recognised k [] lease exp
  constructor
  · exact shimTxn_empty_value c s _ (.create k [] lease) (by rw [hrec.1]; rfl) rfl
  · exact shimTxn_empty_value c s _ (.update k [] (toU64 exp) lease) (by rw [hrec.2.1]; rfl) rfl

/-- The compactor's transaction (`classify t = .compact` ↔ `CompactProbe t`, the exact probe of kube-apiserver:
`KB.Etcd.classify_compact_iff`, `compact_probe_shape_exact`) is answered with a canned "not your
turn" and nothing is executed — a deliberate emulation, excluded from `shim_sound`. -/
theorem compact_canned (c : Cfg) (s : BState) (t : TxnReq) (h : classify t = .compact) :
    shimTxn c s t = (.ok compactResp, s) := by
  rw [shimTxn_cases, h]

/-- Whatever is executed (answered without an error, other than the compactor's canned answer) is
well-shaped: compare key = op key, no `range_end`, plain Get, put without flags, delete without `prev_kv`
(/repo c09cadc), positive expectation on the guarded delete. "Never executed as something else." -/
theorem executed_only_if_canonical (c : Cfg) (s : BState) (t : TxnReq) (hreq : ReqOK t)
    (hnc : classify t ≠ .compact) (r : TxnResp) (hok : (shimTxn c s t).1 = .ok r) : Canonical t := by
  rcases refused_or_canonical c s t hreq hnc with ⟨e, he⟩ | h
  · rw [he] at hok
    cases hok
  · exact h

/-- FULL statement for transactions: on every state whose index records are consistent and which
abstracts to the etcd state `m`, every structurally valid transaction (keys given, int64 integers),
other than the compactor's, is either refused with an error or answered with the projection the
reference prescribes on `m` — for all compares, ops, keys, `range_end`s, flags, nested and empty ops,
and all expectations (correct, stale, zero, future, negative). -/
theorem shim_sound (c : Cfg) (s : BState) (m : Mvcc) (t : TxnReq) (hreq : ReqOK t)
    (hw : ∀ k, WHyp c s k) (ha : ∀ k, AbsAt c s m k) (h63 : s.dealt + 1 < 2 ^ 63)
    (hnc : classify t ≠ .compact) :
    (∃ e, (shimTxn c s t).1 = .error e) ∨ Agree c s m t := by
  rcases refused_or_canonical c s t hreq hnc with ⟨e, he⟩ | h
  · exact .inl ⟨e, by rw [he]⟩
  · exact canonical_sound c s m t h hreq.ints h63 (hw _) (ha _)

/-- The well-shaped transactions with an expectation in `0 .. dealt` are not merely "refused or
right": they are answered, and right (hypotheses only at the key of the transaction). -/
theorem shim_sound_canonical (c : Cfg) (s : BState) (m : Mvcc) (t : TxnReq) (hcan : Canonical t)
    (hw : WHyp c s (opKey t)) (ha : AbsAt c s m (opKey t))
    (hexp : ∀ cm ∈ t.compare, 0 ≤ cm.int ∧ cm.int ≤ s.dealt) :
    Agree c s m t :=
  canonical_agree c s m t hcan hw ha hexp

/-- The unguarded delete of a missing key (formerly answered `Succeeded = false`): the shim now
answers `Succeeded = true`, writes nothing, returns the empty read — the projection etcd prescribes.
(`hp`: the supported delete shape does not ask for `prev_kv` — /repo c09cadc; with it: `delete_with_prev_kv_rejected`.) -/
theorem unguarded_delete_missing_flag (c : Cfg) (s : BState) (m : Mvcc) (g : RangeReq) (d : DelReq)
    (hk : d.key ≠ []) (he : d.rangeEnd = []) (hp : d.prevKv = false) (hg : PlainGet g d.key) (hw : WHyp c s d.key)
    (ha : AbsAt c s m d.key) (hmiss : curKv c s d.key = none) :
    (shimTxn c s { compare := [], success := [.range g, .del d], failure := [] }).1 =
      .ok { ok := true, hdr := s.dealt + 1, resps := [.range (s.dealt + 1) [] 0 false], wrote := false } ∧
    Agree c s m { compare := [], success := [.range g, .del d], failure := [] } := by
  refine ⟨?_, canonical_agree c s m _ (.udelete g d hk he hp hg) hw ha (fun _ h => absurd h List.not_mem_nil)⟩
  rw [shimTxn_fst_of_shape c s (classify_udelete he hp hg) rfl rfl, callAns, doDelete_fst c s d.key _ hw, hmiss]
  rfl

/-! ### the shaping laws: the response as a function of the BACKEND'S ANSWER

`RPCServer.Txn` = recognise the shape, make the one backend call of the shape, shape its answer
(`shapeTxn`). The laws below hold for EVERY answer the backend can give — also the ones that only a race
produces (a delete / update / create that lost its compare-and-swap to a concurrent writer, a key that
vanished between the read and the commit) and that no sequential script reaches; the `etcd` suite pushes
the same scripted answers through the real `RPCServer.Txn` (`inject …` lines). -/

/-- the answer to a transaction IS the shaping of the backend's answer to the call of its shape; when
the shape has no call (put flags on a create, the compactor's, unsupported) no answer is looked at and
the state is unchanged -/
theorem txn_is_shaping_of_backend_answer (c : Cfg) (s : BState) (t : TxnReq) :
    (∀ call, backendCall (classify t) = some call →
      shimTxn c s t = (shapeTxn (classify t) (runCall c s call).1, (runCall c s call).2)) ∧
    (backendCall (classify t) = none → ∀ a, shimTxn c s t = (shapeTxn (classify t) a, s)) :=
  ⟨fun _ h => shimTxn_of_call h, fun h a => shimTxn_of_no_call h a⟩

theorem backend_error_passed_through (sh : Shape) (call : BCall) (h : backendCall sh = some call) (e : Err) :
    shapeTxn sh (.error e) = .error (.backend e) :=
  shapeTxn_error h e

/-- THE SUCCESS FLAG OF THE UNGUARDED DELETE `Then(Get k, Delete k)`: whatever the backend answers
(`Succeeded`, header, key-value), the response carries exactly that header and that key-value in its one
range response, and `Succeeded = true` IFF the backend deleted the key or found it missing (no key-value).
A delete the backend did not carry out although the key exists — it lost its compare-and-swap to a
concurrent writer, the backend answers `Succeeded = false` with the writer's key-value — is NOT answered
`Succeeded = true`. -/
theorem unguarded_delete_success_flag (rev : Int) (k : Bytes) (succeeded : Bool) (hdr : Nat) (kv : Option KV) :
    ∃ r, shapeTxn (.delete rev k false) (.resp succeeded hdr kv) = .ok r ∧
      (r.ok = true ↔ (succeeded = true ∨ kv = none)) ∧
      r.hdr = hdr ∧ r.resps = [.range hdr kv.toList 0 false] ∧ r.wrote = succeeded := by
  cases succeeded <;> cases kv <;> exact ⟨_, rfl, by simp [unguardedFlag], rfl, rfl, rfl⟩

/-- ... in particular the lost race: `Succeeded = false`, the writer's current key-value, the header
the backend gave (for every key, revision, key-value) -/
theorem unguarded_delete_lost_race (rev : Int) (k : Bytes) (hdr : Nat) (kv : KV) :
    shapeTxn (.delete rev k false) (.resp false hdr (some kv)) =
      .ok { ok := false, hdr := hdr, resps := [.range hdr [kv] 0 false], wrote := false } :=
  rfl

/-- The failure branches of the other shapes: `Succeeded = false`, the header the backend gave, and the
key-value the backend reports (update, guarded delete: in a range response — the current key-value, or
none when the key is gone; create: a put response, no key-value); the success branches: `Succeeded = true`
with the put response / the deleted key-value. -/
theorem failure_branch_carries_backend_kv (rev : Int) (k v : Bytes) (lease : Int) (p : PutReq) (hdr : Nat)
    (kv : Option KV) (hp : backendCall (.create p) ≠ none) :
    shapeTxn (.update rev k v lease) (.resp false hdr kv) =
      .ok { ok := false, hdr := hdr, resps := [.range hdr kv.toList 0 false], wrote := false } ∧
    shapeTxn (.delete rev k true) (.resp false hdr kv) =
      .ok { ok := false, hdr := hdr, resps := [.range hdr kv.toList 0 false], wrote := false } ∧
    shapeTxn (.create p) (.resp false hdr kv) = .ok { ok := false, hdr := hdr, resps := [.put hdr], wrote := false } ∧
    shapeTxn (.update rev k v lease) (.resp true hdr kv) = .ok { ok := true, hdr := hdr, resps := [.put hdr], wrote := true } ∧
    shapeTxn (.delete rev k true) (.resp true hdr kv) =
      .ok { ok := true, hdr := hdr, resps := [.range hdr kv.toList 0 false], wrote := true } ∧
    shapeTxn (.create p) (.resp true hdr kv) = .ok { ok := true, hdr := hdr, resps := [.put hdr], wrote := true } := by
  have hf : (p.ignoreLease || p.ignoreValue || p.prevKv) = false := by
    cases h : (p.ignoreLease || p.ignoreValue || p.prevKv)
    · rfl
    · simp [backendCall, h] at hp
  simp [shapeTxn, shapeUpdate, shapeDelete, shapeCreate, hf]

/-- Header ≥ key-value revision in every failed SHAPED answer, for EVERY answer of the backend (also one that only a
race produces) that itself reports no key-value newer than its header: `shapeTxn` puts the backend's header on every
range response and no key-value of its own into one, the compactor's canned one (revision 0) apart. -/
theorem shaped_failure_header_ge_kv {sh : Shape} {a : BAns} {r : TxnResp} (h : shapeTxn sh a = .ok r)
    (hf : r.ok = false) (ha : ∀ hdr kv, a = .resp false hdr (some kv) → kv.2.2 ≤ hdr) :
    ∀ hd kvs n mo, RespOp.range hd kvs n mo ∈ r.resps → hd = r.hdr ∧ ∀ kv ∈ kvs, kv.2.2 ≤ r.hdr := by
  intro hd kvs n mo hm
  rcases shapeTxn_ok_inv h with rfl | ⟨ok, hdr, kv, rfl, rfl, hok, hrs | hrs⟩
  · simp only [compactResp, List.mem_singleton, RespOp.range.injEq] at hm
    obtain ⟨rfl, rfl, _, _⟩ := hm
    exact ⟨rfl, fun kv hkv => by rw [List.mem_singleton.mp hkv]; exact Nat.le_refl 0⟩
  · rw [hrs] at hm
    simp at hm
  · rw [hrs] at hm
    simp only [List.mem_singleton, RespOp.range.injEq] at hm
    obtain ⟨rfl, rfl, _, _⟩ := hm
    rw [hok hf] at ha
    exact ⟨rfl, fun x hx => ha _ x (by rw [Option.mem_toList.mp hx])⟩

/-- Header ≥ key-value revision in every failed answer, on every backend state and for every
transaction: each range response of a `Succeeded = false` answer has the header of the answer, and no
key-value in it is newer than that header (txn.go: `maxUint64(header, modRevision)`). -/
theorem failure_header_ge_kv (c : Cfg) (s : BState) (t : TxnReq) (r : TxnResp)
    (h : (shimTxn c s t).1 = .ok r) (hf : r.ok = false) :
    ∀ hd kvs n mo, RespOp.range hd kvs n mo ∈ r.resps → hd = r.hdr ∧ ∀ kv ∈ kvs, kv.2.2 ≤ r.hdr := by
  obtain ⟨a, ha, hkv⟩ := shimTxn_answer c s t
  exact shaped_failure_header_ge_kv (ha ▸ h) hf hkv

/-- how the laws below compare a shaped answer with the reference: the reference's response (first component, as
`ref_create` … give it) has the same observable projection -/
theorem agrees_of_ref {m : Mvcc} {t : TxnReq} {sh : Shape} {a : BAns} {r x : TxnResp} (hs : shapeTxn sh a = .ok r)
    (href : (refTxn m t).map Prod.fst = .ok x) (hobs : r.obs t = x.obs t) :
    ∃ r r' m', shapeTxn sh a = .ok r ∧ refTxn m t = .ok (r', m') ∧ r.obs t = r'.obs t :=
  let ⟨m', hm'⟩ := exists_of_map_fst href
  ⟨r, x, m', hs, hm', hobs⟩

/-- THE LOST RACE AGREES WITH THE REFERENCE, linearised after the concurrent writer: let `m` be the etcd
state in which the writer has come first (so the expectation `exp` of the transaction no longer matches:
the key carries another revision, or is gone), and let the backend answer as it does then — `Succeeded =
false` with the current key-value of `m`. The shaped answers to the guarded update, the guarded delete
and the create are the ones etcd gives on `m` (same projection: flag, no write, the current key-value in
the failure branch). -/
theorem lost_race_matches_ref (m : Mvcc) (k v : Bytes) (lease : Int) (exp hdr : Nat) (hk : k ≠ [])
    (hn : m.kvs.Pairwise (fun a b => a.key ≠ b.key))
    (hlost : match m.get k with | none => exp ≠ 0 | some e => exp ≠ e.mod) :
    (∃ r r' m', shapeTxn (classify (k8sUpdate k v exp lease)) (.resp false hdr ((m.get k).map KVFull.proj)) = .ok r ∧
      refTxn m (k8sUpdate k v exp lease) = .ok (r', m') ∧
      r.obs (k8sUpdate k v exp lease) = r'.obs (k8sUpdate k v exp lease)) ∧
    (0 < exp → ∃ r r' m', shapeTxn (classify (k8sDelete k exp)) (.resp false hdr ((m.get k).map KVFull.proj)) = .ok r ∧
      refTxn m (k8sDelete k exp) = .ok (r', m') ∧ r.obs (k8sDelete k exp) = r'.obs (k8sDelete k exp)) ∧
    (∀ e, m.get k = some e → e.mod ≠ 0 → ∀ kv, ∃ r r' m',
      shapeTxn (classify (k8sCreate k v lease)) (.resp false hdr kv) = .ok r ∧
      refTxn m (k8sCreate k v lease) = .ok (r', m') ∧ r.obs (k8sCreate k v lease) = r'.obs (k8sCreate k v lease)) := by
  have hrec := k8s_shapes_recognised k v lease exp
  refine ⟨?_, fun h0 => ?_, fun e hg he0 kv => ?_⟩
  · have href := ref_update m { key := k, int := exp } { key := k, val := v, lease := lease } { key := k } exp
      ⟨rfl, rfl, rfl, rfl, rfl⟩ ⟨hk, rfl, rfl, rfl⟩ (plainGet_of_key k) hn
    rw [hrec.2.1]
    -- the compare fails on `m` whether the key is gone or carries another revision
    cases hg : m.get k
    all_goals
      rw [hg] at href hlost
      simp only at href hlost
      rw [if_neg (by simp; omega)] at href
      exact agrees_of_ref rfl href rfl
  · have href := ref_gdelete m { key := k, int := exp } { key := k } { key := k } exp
      ⟨rfl, rfl, rfl, rfl, rfl⟩ hk rfl (plainGet_of_key k) hn
    rw [hrec.2.2.1 h0]
    cases hg : m.get k
    all_goals
      rw [hg] at href hlost
      simp only at href hlost
      rw [if_neg (by omega)] at href
      exact agrees_of_ref rfl href rfl
  · have href := ref_create m { key := k } { key := k, val := v, lease := lease } ⟨rfl, rfl, rfl, rfl, rfl⟩
      ⟨hk, rfl, rfl, rfl⟩ hn (by intro e' he'; rw [hg] at he'; cases he'; exact he0)
    rw [hg] at href
    rw [hrec.1]
    exact agrees_of_ref rfl href rfl

/-- The unguarded delete on the reference: (1) the key is missing and the backend says so — `Succeeded =
true`, nothing written, the empty read: etcd's answer; (2) the backend deleted the key at the next
revision — etcd's answer; (3) THE LOST RACE, linearised after the concurrent writer (`m` holds the
writer's key-value `e`, the backend did not delete and reports `e`): the shim answers what etcd answers
to the delete GUARDED by the revision the backend had read (any `exp ≠ e.mod`) — failure branch, the
current key-value, and etcd leaves `m` unchanged, as the backend did; (4) whereas etcd's own answer to the
compare-less transaction on `m`, `Succeeded = true`, comes WITH the deletion (a write, the key gone): it
is not the answer to give for a delete that was not carried out. -/
theorem unguarded_delete_matches_ref (m : Mvcc) (k : Bytes) (hdr : Nat) (hk : k ≠ [])
    (hn : m.kvs.Pairwise (fun a b => a.key ≠ b.key)) :
    (m.get k = none → ∃ r r' m', shapeTxn (classify (k8sDeleteUnguarded k)) (.resp false hdr none) = .ok r ∧
      refTxn m (k8sDeleteUnguarded k) = .ok (r', m') ∧ r.obs (k8sDeleteUnguarded k) = r'.obs (k8sDeleteUnguarded k)) ∧
    (∀ e, m.get k = some e → ∃ r r' m',
      shapeTxn (classify (k8sDeleteUnguarded k)) (.resp true (m.rev + 1) (some e.proj)) = .ok r ∧
      refTxn m (k8sDeleteUnguarded k) = .ok (r', m') ∧ r.obs (k8sDeleteUnguarded k) = r'.obs (k8sDeleteUnguarded k)) ∧
    (∀ e exp, m.get k = some e → 0 < exp → exp ≠ e.mod → ∃ r r',
      shapeTxn (classify (k8sDeleteUnguarded k)) (.resp false hdr (some e.proj)) = .ok r ∧
      r = { ok := false, hdr := hdr, resps := [.range hdr [e.proj] 0 false], wrote := false } ∧
      refTxn m (k8sDelete k exp) = .ok (r', m) ∧ r.obs (k8sDelete k exp) = r'.obs (k8sDelete k exp)) ∧
    (∀ e, m.get k = some e → ∃ r'' m'', refTxn m (k8sDeleteUnguarded k) = .ok (r'', m'') ∧
      r''.ok = true ∧ r''.wrote = true ∧ r''.hdr = m.rev + 1 ∧ m''.get k = none) := by
  have href := ref_udelete m { key := k } { key := k } hk rfl (plainGet_of_key k) hn
  rw [(k8s_shapes_recognised k [] 0 0).2.2.2]
  refine ⟨fun hg => ?_, fun e hg => ?_, fun e exp hg h0 hne => ?_, fun e hg => ref_udelete_deletes m k e hk hn hg⟩
  · rw [hg] at href
    exact agrees_of_ref rfl href rfl
  · rw [hg] at href
    exact agrees_of_ref rfl href rfl
  · exact ⟨_, _, rfl, rfl, ref_gdelete_stale_state m k e exp hk hn hg hne, rfl⟩

/-! concrete states for the witnesses: memkv engine, three keys /r/a /r/b /r/c created at revisions
1001 1002 1003 (the scripts `witness_cases` of kbcheck/props/c16.py replay exactly these) -/
def cfg0 : Cfg := { q := Quirks.memkv }
def s0 : BState := { ring := Ring.new 4, dealt := 1000, committed := 1000 }
def kA : Bytes := [47, 114, 47, 97]
def kB : Bytes := [47, 114, 47, 98]
def kC : Bytes := [47, 114, 47, 99]
def kD : Bytes := [47, 114, 47, 100]
def v1 : Bytes := [118, 49]
def v2 : Bytes := [118, 50]
def v3 : Bytes := [118, 51]
def v9 : Bytes := [118, 57]
def s1 : BState := (shimTxn cfg0 s0 (k8sCreate kA v1 0)).2
def s2 : BState := (shimTxn cfg0 s1 (k8sCreate kB v2 0)).2
def s3 : BState := (shimTxn cfg0 s2 (k8sCreate kC v3 0)).2
def m3 : Mvcc :=
  { rev := 1003, kvs := [{ key := kA, val := v1, mod := 1001, create := 1001, version := 1 },
                         { key := kB, val := v2, mod := 1002, create := 1002, version := 1 },
                         { key := kC, val := v3, mod := 1003, create := 1003, version := 1 }] }
def pfxLo : Bytes := [47, 114, 47]     -- "/r/"
def pfxHi : Bytes := [47, 114, 48]     -- "/r0"

theorem s3_abstracts_to_m3 :
    (∀ k ∈ [kA, kB, kC, kD], (m3.get k).map KVFull.proj = curKv cfg0 s3 k ∧ idxOK cfg0 s3 k = true) ∧
    m3.rev = s3.dealt := by decide +kernel

/-! ### what used to be executed as something else is now refused (by `refused_unchanged`: an error
on EVERY state, nothing executed). One theorem per former finding; same transactions as the witness
scripts. -/

/-- compare key ≠ op key, in each shape: `If(mod(/r/a)=0) Then(Put /r/d)`,
`If(mod(/r/a)=1001) Then(Put /r/b) Else(Get /r/a)`, `If(mod(/r/a)=1001) Then(Put /r/a) Else(Get /r/b)`,
`If(mod(/r/a)=1001) Then(Delete /r/b) Else(Get /r/a)`, `Then(Get /r/b, Delete /r/a)`. -/
theorem key_mismatch_rejected :
    classify { compare := [{ key := kA }], success := [.put { key := kD, val := v9 }], failure := [] } = .unsupported ∧
    classify { compare := [{ key := kA, int := 1001 }], success := [.put { key := kB, val := v9 }],
               failure := [.range { key := kA }] } = .unsupported ∧
    classify { compare := [{ key := kA, int := 1001 }], success := [.put { key := kA, val := v9 }],
               failure := [.range { key := kB }] } = .unsupported ∧
    classify { compare := [{ key := kA, int := 1001 }], success := [.del { key := kB }],
               failure := [.range { key := kA }] } = .unsupported ∧
    classify { compare := [], success := [.range { key := kB }, .del { key := kA }], failure := [] } = .unsupported := by
  decide +kernel

/-- a delete with `range_end`, guarded and unguarded -/
theorem ranged_delete_rejected :
    classify { compare := [{ key := kB, int := 1002 }], success := [.del { key := kB, rangeEnd := pfxHi }],
               failure := [.range { key := kB }] } = .unsupported ∧
    classify { compare := [], success := [.range { key := kB }, .del { key := kB, rangeEnd := pfxHi }],
               failure := [] } = .unsupported := by decide +kernel

/-- a guarded delete with expectation 0 (formerly an unconditional delete), for every key -/
theorem mod0_delete_rejected (k : Bytes) : classify (k8sDelete k 0) = .unsupported := by
  simp [classify, isCreate, isDelete, isUpdate, isCompact, k8sDelete]

/-- an update whose put carries prev_kv / ignore_value / ignore_lease -/
theorem update_put_flags_rejected :
    classify { compare := [{ key := kA, int := 1001 }], success := [.put { key := kA, val := [], ignoreValue := true }],
               failure := [.range { key := kA }] } = .unsupported ∧
    classify { compare := [{ key := kA, int := 1001 }], success := [.put { key := kA, val := v9, prevKv := true }],
               failure := [.range { key := kA }] } = .unsupported ∧
    classify { compare := [{ key := kA, int := 1001 }], success := [.put { key := kA, val := v9, ignoreLease := true }],
               failure := [.range { key := kA }] } = .unsupported := by decide +kernel

/-- options on the compare or on the Get: compare over a range, failure Get count_only / at a
revision / over a range / keys_only -/
theorem op_options_rejected :
    classify { compare := [{ key := kA, int := 1001, rangeEnd := pfxHi }], success := [.put { key := kA, val := v9 }],
               failure := [.range { key := kA }] } = .unsupported ∧
    classify { compare := [{ key := kA, int := 1002 }], success := [.put { key := kA, val := v2 }],
               failure := [.range { key := kA, countOnly := true }] } = .unsupported ∧
    classify { compare := [{ key := kA, int := 1001 }], success := [.put { key := kA, val := v2 }],
               failure := [.range { key := kA, revision := 1003 }] } = .unsupported ∧
    classify { compare := [{ key := kA, int := 1002 }], success := [.del { key := kA }],
               failure := [.range { key := kA, rangeEnd := pfxHi }] } = .unsupported ∧
    classify { compare := [{ key := kA, int := 1002 }], success := [.del { key := kA }],
               failure := [.range { key := kA, keysOnly := true }] } = .unsupported := by decide +kernel

/-! ### a delete that asks for `prev_kv` (/repo c09cadc)

`pointDelete` (kv.go) looked only at `range_end`: `If(mod(k) = N).Then(DeleteRange{k, prev_kv}).Else(Get k)` and
`Then(Get k, DeleteRange{k, prev_kv})` were recognised as the two delete shapes, executed as the plain delete and answered
with kubebrain's range response — a client that sets `prev_kv` reads the deleted key-value from the `prev_kvs` of a DELETE
response, which was not there: neither rejected nor answered as etcd would (`old_delete_prev_kv_executed`).
Since c09cadc `DelReq.isPoint` (= `pointDelete`) requires `¬ prev_kv`; accordingly `Canonical.gdelete / udelete` require
`d.prevKv = false` (so `executed_only_if_canonical` and `shim_sound_canonical` exclude these shapes), and the two shapes
with `prev_kv` are refused like every other unsupported transaction (`delete_with_prev_kv_rejected`). -/

/-- Kubernetes' two delete shapes with `prev_kv` set on the delete op (no Kubernetes release sends them; an etcd client may) -/
def k8sDeletePrevKv (k : Bytes) (exp : Nat) : TxnReq :=
  { compare := [{ key := k, int := exp }], success := [.del { key := k, prevKv := true }], failure := [.range { key := k }] }

def k8sDeleteUnguardedPrevKv (k : Bytes) : TxnReq :=
  { compare := [], success := [.range { key := k }, .del { key := k, prevKv := true }], failure := [] }

/-- A DELETE SHAPE WHOSE DELETE OP ASKS FOR prev_kv IS REFUSED: on every state, for EVERY compare, Get and delete op
(right or wrong key, correct / stale / zero expectation, existing or missing key, with or without `range_end`): both
shapes — `If(cm).Then(DeleteRange d).Else(Range g)` and `Then(Range g, DeleteRange d)` — with `d.prev_kv` classify as
unsupported, are answered with the "unsupported transaction" error, and the state is unchanged (nothing is executed,
no revision is dealt). -/
theorem delete_with_prev_kv_rejected (c : Cfg) (s : BState) (cm : Compare) (g : RangeReq) (d : DelReq)
    (hp : d.prevKv = true) :
    (classify { compare := [cm], success := [.del d], failure := [.range g] } = .unsupported ∧
      shimTxn c s { compare := [cm], success := [.del d], failure := [.range g] } = (.error .unsupported, s)) ∧
    (classify { compare := [], success := [.range g, .del d], failure := [] } = .unsupported ∧
      shimTxn c s { compare := [], success := [.range g, .del d], failure := [] } = (.error .unsupported, s)) :=
  ⟨⟨classify_gdelete_prevKv hp, (refused_unchanged c s _).1 (classify_gdelete_prevKv hp)⟩,
   ⟨classify_udelete_prevKv hp, (refused_unchanged c s _).1 (classify_udelete_prevKv hp)⟩⟩

theorem delete_with_prev_kv_rejected_k8s (c : Cfg) (s : BState) (k : Bytes) (exp : Nat) :
    shimTxn c s (k8sDeletePrevKv k exp) = (.error .unsupported, s) ∧
    shimTxn c s (k8sDeleteUnguardedPrevKv k) = (.error .unsupported, s) :=
  ⟨(delete_with_prev_kv_rejected c s { key := k, int := exp } { key := k } { key := k, prevKv := true } rfl).1.2,
   (delete_with_prev_kv_rejected c s {} { key := k } { key := k, prevKv := true } rfl).2.2⟩

example : ({ key := kB, prevKv := true } : DelReq).prevKv = true ∧
    shimTxn cfg0 s3 (k8sDeletePrevKv kB 1002) = (.error .unsupported, s3) ∧
    shimTxn cfg0 s3 (k8sDeleteUnguardedPrevKv kD) = (.error .unsupported, s3) :=
  ⟨rfl, (delete_with_prev_kv_rejected_k8s cfg0 s3 kB 1002).1, (delete_with_prev_kv_rejected_k8s cfg0 s3 kD 0).2⟩

/-- neither is `Canonical`: what `executed_only_if_canonical` allows to be executed excludes them -/
theorem delete_with_prev_kv_not_canonical (cm : Compare) (g : RangeReq) (d : DelReq) (hp : d.prevKv = true) :
    ¬ Canonical { compare := [cm], success := [.del d], failure := [.range g] } ∧
    ¬ Canonical { compare := [], success := [.range g, .del d], failure := [] } := by
  constructor
  · intro h
    cases h with
    | gdelete _ _ _ n _ _ _ _ hpk _ => rw [hp] at hpk; cases hpk
  · intro h
    cases h with
    | udelete _ _ _ _ hpk _ => rw [hp] at hpk; cases hpk

/-- the delete shapes WITHOUT `prev_kv` are recognised exactly as before: for a delete op without `prev_kv` the old
and the repaired recogniser agree on every transaction of the two forms, and on a transaction of any other form both say no — the repair
changes nothing else -/
theorem old_and_new_delete_differ_only_at_prev_kv (t : TxnReq)
    (h : ∀ d ∈ t.success, ∀ x, d = .del x → x.prevKv = false) : isDeleteOld t = isDelete t := by
  unfold isDeleteOld isDelete
  split
  · rename_i g d h1 h2 h3
    have := h (.del d) (by rw [h3]; simp) d rfl
    simp [DelReq.isPoint, this]
  · rename_i cm g d h1 h2 h3
    have := h (.del d) (by rw [h3]; simp) d rfl
    simp [DelReq.isPoint, this]
  · rfl

example : ∀ d ∈ (k8sDelete kB 1002).success, ∀ x, d = .del x → x.prevKv = false := by
  intro d hd x hx
  simp [k8sDelete] at hd
  subst hd
  cases hx
  rfl

/-- the transactions of the refutation: the guarded delete of /r/b with its correct expectation and the unguarded
delete of /r/b, both with `prev_kv` on the delete op -/
def delPrevG : TxnReq := k8sDeletePrevKv kB 1002
def delPrevU : TxnReq := k8sDeleteUnguardedPrevKv kB

/-- REFUTATION of the recogniser as it was before /repo c09cadc (`isDeleteOld` / `shimTxnOld2`) on `s3` (/r/a@1001,
/r/b = v2 @1002, /r/c@1003): the guarded delete of /r/b with the correct expectation and `prev_kv`, and the unguarded one,
were RECOGNISED as the plain delete shapes and EXECUTED — `Succeeded = true`, revision 1004 consumed, /r/b gone — and
answered with a RANGE response holding the old key-value, no delete response. etcd (`refTxn m3`) executes the same delete
but answers the delete op with a DELETE response (`deleted = 1`) whose `prev_kvs` (`refDelPrevKvs`) hold (/r/b, v2, 1002):
the client that set `prev_kv` reads `Responses[i].ResponseDeleteRange.PrevKvs` — absent from kubebrain's answer. So the transaction was
neither rejected nor answered as etcd would; the projection `TxnObs` (success flag, write revision, answers of the READS)
is blind to it, both answers project alike — agreement on `TxnObs` (`Agree`, `shim_sound`) cannot exclude it; what
excludes it is `d.prevKv = false` in `Canonical`. With the repaired recogniser both are refused and `s3` is unchanged. -/
theorem old_delete_prev_kv_executed :
    -- recognised and executed as the plain delete
    isDeleteOld delPrevG = some (1002, kB, true) ∧ classifyOld2 delPrevG = .delete 1002 kB true ∧
    isDeleteOld delPrevU = some (0, kB, false) ∧ classifyOld2 delPrevU = .delete 0 kB false ∧
    classifyOld2 delPrevG = classify (k8sDelete kB 1002) ∧ classifyOld2 delPrevU = classify (k8sDeleteUnguarded kB) ∧
    (shimTxnOld2 cfg0 s3 delPrevG).1 =
      .ok { ok := true, hdr := 1004, resps := [.range 1004 [(kB, v2, 1002)] 0 false], wrote := true } ∧
    (shimTxnOld2 cfg0 s3 delPrevU).1 =
      .ok { ok := true, hdr := 1004, resps := [.range 1004 [(kB, v2, 1002)] 0 false], wrote := true } ∧
    (shimTxnOld2 cfg0 s3 delPrevG).1 = (shimTxn cfg0 s3 (k8sDelete kB 1002)).1 ∧
    (shimTxnOld2 cfg0 s3 delPrevU).1 = (shimTxn cfg0 s3 (k8sDeleteUnguarded kB)).1 ∧
    (shimTxnOld2 cfg0 s3 delPrevG).2.store = (shimTxn cfg0 s3 (k8sDelete kB 1002)).2.store ∧
    (shimTxnOld2 cfg0 s3 delPrevU).2.store = (shimTxn cfg0 s3 (k8sDeleteUnguarded kB)).2.store ∧
    -- the state changed: /r/b is gone, a revision was dealt
    curKv cfg0 s3 kB = some (kB, v2, 1002) ∧ curKv cfg0 (shimTxnOld2 cfg0 s3 delPrevG).2 kB = none ∧
    curKv cfg0 (shimTxnOld2 cfg0 s3 delPrevU).2 kB = none ∧
    s3.dealt = 1003 ∧ (shimTxnOld2 cfg0 s3 delPrevG).2.dealt = 1004 ∧ (shimTxnOld2 cfg0 s3 delPrevU).2.dealt = 1004 ∧
    -- etcd: a DELETE response, and the prev_kvs the client asked for
    (refTxn m3 delPrevG).map (fun x => (x.1.ok, x.1.wrote, x.1.hdr, x.1.resps)) = .ok (true, true, 1004, [.del 1004 1]) ∧
    (refTxn m3 delPrevU).map (fun x => (x.1.ok, x.1.wrote, x.1.hdr, x.1.resps)) =
      .ok (true, true, 1004, [.range 1003 [(kB, v2, 1002)] 1 false, .del 1004 1]) ∧
    refDelPrevKvs m3 { key := kB, prevKv := true } = [(kB, v2, 1002)] ∧
    refDelPrevKvs m3 { key := kB } = [] ∧
    -- the observable projection does not see the difference
    ((shimTxnOld2 cfg0 s3 delPrevG).1.toOption.map (TxnResp.obs delPrevG) = (refTxn m3 delPrevG).toOption.map (fun x => x.1.obs delPrevG)) ∧
    ((shimTxnOld2 cfg0 s3 delPrevU).1.toOption.map (TxnResp.obs delPrevU) = (refTxn m3 delPrevU).toOption.map (fun x => x.1.obs delPrevU)) ∧
    -- repaired: recognised by nothing, refused, nothing executed
    isDelete delPrevG = none ∧ isDelete delPrevU = none ∧ classify delPrevG = .unsupported ∧ classify delPrevU = .unsupported ∧
    (shimTxn cfg0 s3 delPrevG).1 = .error .unsupported ∧ (shimTxn cfg0 s3 delPrevU).1 = .error .unsupported ∧
    (shimTxn cfg0 s3 delPrevG).2.store = s3.store ∧ (shimTxn cfg0 s3 delPrevU).2.store = s3.store ∧
    (shimTxn cfg0 s3 delPrevG).2.dealt = 1003 ∧ (shimTxn cfg0 s3 delPrevU).2.dealt = 1003 := by
  and_intros <;> decide

/-- the near misses of the correspondence check (kbcheck/props/c16.py `delete_prev_kv_misses`, witness script
`delete_with_prev_kv_rejected`): guarded with the correct / a stale expectation on an existing key, guarded on a missing
key, unguarded on an existing and on a missing key — all with `prev_kv` — classify as unsupported -/
theorem delete_with_prev_kv_rejected_witness :
    classify (k8sDeletePrevKv kB 1002) = .unsupported ∧ classify (k8sDeletePrevKv kB 1001) = .unsupported ∧
    classify (k8sDeletePrevKv kD 1002) = .unsupported ∧ classify (k8sDeleteUnguardedPrevKv kB) = .unsupported ∧
    classify (k8sDeleteUnguardedPrevKv kD) = .unsupported ∧
    (shimTxn cfg0 s3 (k8sDeletePrevKv kB 1002)).1 = .error .unsupported ∧
    (shimTxn cfg0 s3 (k8sDeletePrevKv kB 1002)).2.store = s3.store ∧
    (shimTxn cfg0 s3 (k8sDeletePrevKv kB 1002)).2.dealt = s3.dealt := by decide +kernel

/-- the unguarded delete of the missing /r/d on `s3`: `Succeeded = true`, as the reference answers -/
theorem unguarded_delete_missing_witness :
    (shimTxn cfg0 s3 (k8sDeleteUnguarded kD)).1 =
      .ok { ok := true, hdr := 1004, resps := [.range 1004 [] 0 false], wrote := false } ∧
    (refTxn m3 (k8sDeleteUnguarded kD)).map (fun x => (x.1.ok, x.1.wrote, x.1.resps)) =
      .ok (true, false, [.range 1003 [] 0 false, .del 1004 0]) := by decide +kernel

/-- Observation on the hypothesis `ReqOK` of `shim_sound`: a transaction of a supported shape on the
EMPTY key is executed (etcd's request validation refuses it: "key is not provided"). -/
theorem empty_key_executed :
    (shimTxn cfg0 s3 (k8sCreate [] v1 0)).1 = .ok { ok := true, hdr := 1004, resps := [.put 1004], wrote := true } ∧
    (refTxn m3 (k8sCreate [] v1 0)).map (fun x => x.1.ok) = .error .invalid := by decide +kernel

/-- the lost race of the witness script `race_udelete_lost_to_update` (kbcheck/props/c16.py): /r/a was
rewritten to v9 at 1003 by the concurrent writer, the unguarded delete was dealt 1004 and lost its
compare-and-swap — the backend is called with revision 0 and its answer is presented as `Succeeded = false`
with the writer's key-value -/
theorem unguarded_delete_lost_race_witness :
    backendCall (classify (k8sDeleteUnguarded kA)) = some (.delete kA 0) ∧
    shapeTxn (classify (k8sDeleteUnguarded kA)) (.resp false 1004 (some (kA, v9, 1003))) =
      .ok { ok := false, hdr := 1004, resps := [.range 1004 [(kA, v9, 1003)] 0 false], wrote := false } := by decide +kernel

/-! ### the compaction probe (/repo 2870609)

kube-apiserver's compactor probes with `If(Version(compact_rev_key) = n).Then(Put compact_rev_key).Else(Get
compact_rev_key)`; kubebrain answers it with a canned "not your turn" and executes nothing (`compact_canned`; it
compacts on its own). The recogniser of that probe used to look only at the compare and at the KIND of the two
operations: `If(Version(compact_rev_key) = n).Then(Put <any key>).Else(Range <any key or range>)` was answered with the
canned answer — neither rejected nor executed, the put silently dropped, an invented key-value as the answer of the
read (`old_probe_recogniser_swallowed_put`). It is now as strict as the other recognisers (`KB.Etcd.isCompact`,
`CompactProbe`): the canned answer is given to the probe and to nothing else (`compact_probe_shape_exact`), every
near miss is refused like any other unsupported transaction (`near_probe_rejected`). So the exception
`classify t ≠ .compact` of `shim_sound` / `executed_only_if_canonical` is exactly "`t` is not the probe"
(`answered_only_if_canonical_or_probe`, `shim_sound_except_probe`): nothing else hides behind it. -/

/-- the probe as kube-apiserver sends it (compact.go: the compared version `n`, the new compact revision as the value) -/
def k8sCompactProbe (n : Int) (v : Bytes) : TxnReq :=
  { compare := [{ target := .version, key := compactRevKey, int := n }],
    success := [.put { key := compactRevKey, val := v }],
    failure := [.range { key := compactRevKey }] }

/-- THE PROBE IS RECOGNISED: kube-apiserver's probe — for every compared version and value; in general every
transaction of the shape `CompactProbe` (compare, put and plain Get on `compact_rev_key`; lease, limit / sort order
of the Get free) — takes the compactor's branch, is answered with the canned answer (`Succeeded = false`, header 0,
one range response holding one empty key-value, Count 1) and the state is unchanged: nothing is executed. -/
theorem compact_probe_recognised (c : Cfg) (s : BState) :
    (∀ n v, CompactProbe (k8sCompactProbe n v)) ∧
    (∀ t, CompactProbe t → classify t = .compact ∧
      shimTxn c s t =
        (.ok { ok := false, hdr := 0, resps := [.range 0 [([], [], 0)] 1 false], wrote := false }, s)) := by
  refine ⟨fun n v => .mk _ _ _ ⟨rfl, rfl, rfl, rfl⟩ rfl rfl rfl rfl (plainGet_of_key compactRevKey), ?_⟩
  intro t h
  have hcl := classify_compact_iff.mpr h
  exact ⟨hcl, compact_canned c s t hcl⟩

example : CompactProbe (k8sCompactProbe 3 v9) ∧
    (shimTxn cfg0 s3 (k8sCompactProbe 3 v9)).1 = .ok compactResp := ⟨(compact_probe_recognised cfg0 s3).1 3 v9, by decide +kernel⟩

/-- THE PROBE'S SHAPE IS EXACT: a transaction that is answered as the probe — it takes the compactor's branch, or
merely: its answer IS the canned answer, on any state — has ONE compare, `Version(compact_rev_key) = n` without
`range_end`, ONE success op, a put on `compact_rev_key` without prev_kv / ignore_value / ignore_lease, and ONE
failure op, a plain Get of `compact_rev_key` (no `range_end`, revision, count_only, keys_only, filters). -/
theorem compact_probe_shape_exact (c : Cfg) (s : BState) (t : TxnReq)
    (h : classify t = .compact ∨ (shimTxn c s t).1 = .ok compactResp) :
    ∃ cm p g, t = { compare := [cm], success := [.put p], failure := [.range g] } ∧
      cm.target = .version ∧ cm.result = .equal ∧ cm.key = compactRevKey ∧ cm.rangeEnd = [] ∧
      p.key = compactRevKey ∧ p.prevKv = false ∧ p.ignoreValue = false ∧ p.ignoreLease = false ∧
      g.key = compactRevKey ∧ PlainGet g compactRevKey := by
  have hcl : classify t = .compact := by
    rcases h with h | h
    · exact h
    · obtain ⟨a, ha, _⟩ := shimTxn_answer c s t
      rw [ha] at h
      exact shapeTxn_eq_compactResp h
  obtain ⟨cm, p, g, ⟨h1, h2, h3, h4⟩, hp, f1, f2, f3, hg⟩ := classify_compact_iff.mp hcl
  exact ⟨cm, p, g, rfl, h1, h2, h3, h4, hp, f1, f2, f3, hg.1, hg⟩

example : classify (k8sCompactProbe 0 v1) = .compact ∧ (shimTxn cfg0 s3 (k8sCompactProbe 0 v1)).1 = .ok compactResp := by
  decide +kernel

/-- A NEAR MISS OF THE PROBE IS REFUSED: a transaction guarded by a VERSION compare with one put and one read —
the probe's compare, `Version(compact_rev_key) = n`, in particular — in which the put or the read is on another
key, the read is ranged / at a revision / count_only / keys_only / filtered (`¬ PlainGet`), the put carries
prev_kv / ignore_value / ignore_lease, or the compare has a `range_end` (or another key or result), is answered with the
"unsupported transaction" error and the state is unchanged: nothing is executed, nothing is answered as the probe. -/
theorem near_probe_rejected (c : Cfg) (s : BState) (cm : Compare) (p : PutReq) (g : RangeReq)
    (hver : cm.target = .version)
    (hnear : p.key ≠ compactRevKey ∨ ¬ PlainGet g compactRevKey ∨
      p.prevKv = true ∨ p.ignoreValue = true ∨ p.ignoreLease = true ∨
      cm.rangeEnd ≠ [] ∨ cm.key ≠ compactRevKey ∨ cm.result ≠ .equal) :
    classify { compare := [cm], success := [.put p], failure := [.range g] } = .unsupported ∧
    shimTxn c s { compare := [cm], success := [.put p], failure := [.range g] } = (.error .unsupported, s) := by
  have hcl : classify { compare := [cm], success := [.put p], failure := [.range g] } = .unsupported := by
    apply classify_version_not_probe
    · intro x hx
      simp at hx
      rw [hx]
      exact hver
    · simp
    · intro hp
      cases hp with
      | mk _ _ _ hc hpk f1 f2 f3 hg =>
        rcases hnear with h | h | h | h | h | h | h | h
        · exact h hpk
        · exact h hg
        · rw [f1] at h; cases h
        · rw [f2] at h; cases h
        · rw [f3] at h; cases h
        · exact h hc.2.2.2
        · exact h hc.2.2.1
        · exact h hc.2.1
  exact ⟨hcl, (refused_unchanged c s _).1 hcl⟩

/-- ... and so is every other transaction guarded by VERSION compares that is not the probe: two puts, no failure
branch, a failure branch with several ops, a delete, several compares … -/
theorem near_probe_rejected_general (c : Cfg) (s : BState) (t : TxnReq)
    (hver : ∀ cm ∈ t.compare, cm.target = .version) (hne : t.compare ≠ []) (hnp : ¬ CompactProbe t) :
    shimTxn c s t = (.error .unsupported, s) :=
  (refused_unchanged c s t).1 (classify_version_not_probe hver hne hnp)

/-- the near misses of the correspondence check (kbcheck/props/c16.py `near_probe_misses`, witness script
`near_probe_rejected`) classify as unsupported: put on another key; read of another key; ranged read; read
count_only / keys_only / at a revision; put with prev_kv / ignore_value / ignore_lease; compare with `range_end`;
two puts; no failure branch -/
theorem near_probe_rejected_witness :
    let cmp : Compare := { target := .version, key := compactRevKey }
    let K := compactRevKey
    classify { compare := [cmp], success := [.put { key := kA, val := v9 }], failure := [.range { key := K }] } = .unsupported ∧
    classify { compare := [cmp], success := [.put { key := K, val := v9 }], failure := [.range { key := kB }] } = .unsupported ∧
    classify { compare := [cmp], success := [.put { key := kA, val := v9 }], failure := [.range { key := kB }] } = .unsupported ∧
    classify { compare := [cmp], success := [.put { key := K, val := v9 }], failure := [.range { key := K, rangeEnd := pfxHi }] } = .unsupported ∧
    classify { compare := [cmp], success := [.put { key := K, val := v9 }], failure := [.range { key := K, countOnly := true }] } = .unsupported ∧
    classify { compare := [cmp], success := [.put { key := K, val := v9 }], failure := [.range { key := K, keysOnly := true }] } = .unsupported ∧
    classify { compare := [cmp], success := [.put { key := K, val := v9 }], failure := [.range { key := K, revision := 1003 }] } = .unsupported ∧
    classify { compare := [cmp], success := [.put { key := K, val := v9, prevKv := true }], failure := [.range { key := K }] } = .unsupported ∧
    classify { compare := [cmp], success := [.put { key := K, val := v9, ignoreValue := true }], failure := [.range { key := K }] } = .unsupported ∧
    classify { compare := [cmp], success := [.put { key := K, val := v9, ignoreLease := true }], failure := [.range { key := K }] } = .unsupported ∧
    classify { compare := [{ cmp with rangeEnd := pfxHi }], success := [.put { key := K, val := v9 }], failure := [.range { key := K }] } = .unsupported ∧
    classify { compare := [cmp], success := [.put { key := K, val := v9 }, .put { key := kA, val := v9 }], failure := [.range { key := K }] } = .unsupported ∧
    classify { compare := [cmp], success := [.put { key := K, val := v9 }], failure := [] } = .unsupported := by decide +kernel

example : ({ target := .version, key := compactRevKey } : Compare).target = .version ∧ kA ≠ compactRevKey ∧
    ¬ PlainGet { key := kB } compactRevKey := ⟨rfl, by decide, fun h => absurd h.1 (by decide)⟩
example : (∀ cm ∈ ({ compare := [{ target := .version, key := compactRevKey }], success := [.put { key := compactRevKey }] } : TxnReq).compare,
      cm.target = .version) ∧
    ¬ CompactProbe { compare := [{ target := .version, key := compactRevKey }], success := [.put { key := compactRevKey }] } :=
  ⟨by simp, fun h => by obtain ⟨_, _, _, heq, _⟩ := h.inv; simp at heq⟩

/-- the transaction of the refutation: the probe's compare, a put on /r/a, a read of /r/b -/
def nearProbe : TxnReq :=
  { compare := [{ target := .version, key := compactRevKey }], success := [.put { key := kA, val := v9 }],
    failure := [.range { key := kB }] }

/-- REFUTATION of the recogniser as it was before /repo 2870609 (`isCompactOld` / `shimTxnOld`): on `s3`
(/r/a, /r/b, /r/c), `If(Version(compact_rev_key) = 0).Then(Put /r/a v9).Else(Get /r/b)` was taken for the probe and
answered with the canned answer — NOT REJECTED (no error), NOT EXECUTED (store and revision counter unchanged; etcd
takes the success branch — `compact_rev_key` does not exist, its version is 0 — and writes /r/a = v9 at 1004), and
the answer is etcd's in neither branch (the failure branch would read /r/b, not an empty key-value). None of the
supported recognisers accepts it and it is not `Canonical` (`nearProbe_not_canonical`). With the repaired recogniser
the same transaction is refused. -/
theorem old_probe_recogniser_swallowed_put :
    isCompactOld nearProbe = true ∧ classifyOld nearProbe = .compact ∧
    (shimTxnOld cfg0 s3 nearProbe).1 =
      .ok { ok := false, hdr := 0, resps := [.range 0 [([], [], 0)] 1 false], wrote := false } ∧
    (shimTxnOld cfg0 s3 nearProbe).2.store = s3.store ∧ (shimTxnOld cfg0 s3 nearProbe).2.dealt = s3.dealt ∧
    (refTxn m3 nearProbe).map (fun x => (x.1.ok, x.1.wrote, x.1.hdr)) = .ok (true, true, 1004) ∧
    (refTxn m3 nearProbe).map (fun x => (x.2.get kA).map KVFull.proj) = .ok (some (kA, v9, 1004)) ∧
    isCreate nearProbe = none ∧ isDelete nearProbe = none ∧ isUpdate nearProbe = none ∧
    isCompact nearProbe = false ∧ classify nearProbe = .unsupported ∧
    (shimTxn cfg0 s3 nearProbe).1 = .error .unsupported := by decide +kernel

theorem nearProbe_not_canonical : ¬ Canonical nearProbe := by
  intro h
  unfold nearProbe at h
  cases h with
  | update cm p g n hc _ _ _ => exact absurd hc.1 (by decide)

/-- Whatever is answered without an error — NO exception — is `Canonical` or is the compaction probe answered with
its canned answer: `executed_only_if_canonical` with its exception spelled out structurally. -/
theorem answered_only_if_canonical_or_probe (c : Cfg) (s : BState) (t : TxnReq) (hreq : ReqOK t) (r : TxnResp)
    (hok : (shimTxn c s t).1 = .ok r) : Canonical t ∨ (CompactProbe t ∧ r = compactResp) := by
  by_cases hc : classify t = .compact
  · right
    rw [compact_canned c s t hc] at hok
    cases hok
    exact ⟨classify_compact_iff.mp hc, rfl⟩
  · exact .inl (executed_only_if_canonical c s t hreq hc r hok)

/-- `shim_sound` with its exception spelled out structurally: every structurally valid transaction that is not
kube-apiserver's compaction probe (`CompactProbe`: compare, put and plain Get all on `compact_rev_key`) is refused
with an error or answered as etcd prescribes — a transaction that merely LOOKS like the probe is covered. -/
theorem shim_sound_except_probe (c : Cfg) (s : BState) (m : Mvcc) (t : TxnReq) (hreq : ReqOK t)
    (hw : ∀ k, WHyp c s k) (ha : ∀ k, AbsAt c s m k) (h63 : s.dealt + 1 < 2 ^ 63) (hnp : ¬ CompactProbe t) :
    (∃ e, (shimTxn c s t).1 = .error e) ∨ Agree c s m t :=
  shim_sound c s m t hreq hw ha h63 (fun h => hnp (classify_compact_iff.mp h))

example : ReqOK nearProbe ∧ ¬ CompactProbe nearProbe :=
  ⟨⟨by decide, fun o ho => by rw [List.mem_singleton.mp ho]; exact (by decide : kA ≠ []),
    fun o ho => by rw [List.mem_singleton.mp ho]; exact (by decide : kB ≠ []), by decide⟩,
   fun h => absurd (classify_compact_iff.mpr h) (by decide)⟩

/-! ### reads -/

/-- `range_matches_ref` for ARBITRARY bounds — keys over the alphabet, successors `K ++ [0]` of such keys (the
continue key of a paginated list `lastKey ++ "\0"`, the end of a single-key range `[k, k ++ "\0")`), and since
/repo 23c8b93 every other byte string (`K ++ "\x01"`, `K ++ "#"`, `K ++ "\0\0"`, `K ++ "\0b"`, a bound starting
with a low byte): same header, same key-values in the same order, same more-flag as etcd on the RAW keys. The
only hypotheses on the bounds are those of a proper interval above a non-empty key. -/
theorem range_succ_bounds_match_ref (c : Cfg) (s : BState) (recs : List Rec) (hst : StoreAbs c s recs) (r : RangeReq)
    (hp : PlainRange r) (hco : r.countOnly = false) (hk : r.key ≠ []) (hlt : cmp r.key r.rangeEnd = .lt)
    (hr0 : 0 ≤ r.revision) (hrc : r.revision ≤ s.committed)
    (hmagic : r.revision = getPartitionMagic → r.limit ≠ 0 ∨ r.countOnly = true)
    (hcb : s.committed < 2 ^ 64) :
    ∃ a b, shimRange c s r = .ok a ∧ refRangeH (histOf recs s.committed) r = .ok b ∧
      a.hdr = b.hdr ∧ a.kvs = b.kvs ∧ a.more = b.more ∧ a.count ≤ b.count ∧ (a.more = false → a.count = b.count) := by
  have hlist := doList_bounds c hst.single s hst.store hst.keys hlt (toU64 r.revision) r.limit.toNat rfl
  have href := refRangeH_interval hst r hp hk hlt hr0 hrc (by omega) rfl
  -- the header: the page is part of the scan
  rw [hdrOf_scan hst _ _ (fun e he => by
    split at he
    · exact he
    · exact List.mem_of_mem_take he)] at hlist
  rw [hco] at href
  generalize scanRecs _ (recs.filter (inRange r.key r.rangeEnd)) = full at hlist href
  have hshim : shimRange c s r = .ok ⟨s.committed, if r.limit.toNat = 0 then full else full.take r.limit.toNat,
      (if r.limit.toNat = 0 then full else full.take r.limit.toNat).length +
        (if decide (0 < r.limit.toNat ∧ r.limit.toNat < full.length) then 1 else 0),
      decide (0 < r.limit.toNat ∧ r.limit.toNat < full.length)⟩ := by
    simp only [shimRange, isEmpty_false_of_ne (ne_nil_of_lt hlt), magicGuard_false_of hmagic, hco, hlist, liftScan,
      Bool.false_eq_true, if_false]
  refine ⟨_, _, hshim, href, rfl, ?_⟩
  by_cases hn : r.limit.toNat = 0
  · simp [hn]
  · have hpos : r.limit.toNat > 0 := Nat.pos_of_ne_zero hn
    simp only [hn, hpos, if_false, if_true, Bool.false_eq_true, Bool.not_false, Bool.true_and, gt_iff_lt, true_and,
      List.length_take, decide_eq_false_iff_not, decide_eq_true_eq]
    by_cases hc : r.limit.toNat < full.length
    · rw [if_pos hc, Nat.min_eq_left (Nat.le_of_lt hc)]
      exact ⟨hc, fun h => absurd hc h⟩
    · rw [if_neg hc, Nat.min_eq_right (Nat.le_of_not_lt hc)]
      exact ⟨Nat.le_refl _, fun _ => rfl⟩

/-- Range over a proper interval `[key, range_end)`, any limit, at revision 0 or any revision up to the
committed one, no option the shim ignores: same header,
same key-values in the same order, same more-flag; Count never exceeds etcd's and is equal whenever
there is no more (`range_count_partial` part; for the other case see `limited_count_wrong`).
The magic revision 1888 (/repo e617587): the only request left outside is the UNLIMITED plain range at revision
exactly 1888 — `hmagic` asks for a limit (or `count_only`) THERE and nothing anywhere else; a page of a
paginated list at revision 1888 is covered (`paginated_list_at_magic_revision_matches_ref`). Before e617587 EVERY
request with a `range_end` at revision 1888 was answered with the borders (`old_magic_swallowed_page_two`). -/
theorem range_matches_ref (c : Cfg) (s : BState) (recs : List Rec) (hst : StoreAbs c s recs) (r : RangeReq)
    (hp : PlainRange r) (hco : r.countOnly = false) (hk : r.key ≠ []) (hka : Alphabet r.key)
    (hea : Alphabet r.rangeEnd) (hlt : cmp r.key r.rangeEnd = .lt) (hr0 : 0 ≤ r.revision)
    (hrc : r.revision ≤ s.committed)
    (hmagic : r.revision = getPartitionMagic → r.limit ≠ 0 ∨ r.countOnly = true) (hcb : s.committed < 2 ^ 64) :
    ∃ a b, shimRange c s r = .ok a ∧ refRangeH (histOf recs s.committed) r = .ok b ∧
      a.hdr = b.hdr ∧ a.kvs = b.kvs ∧ a.more = b.more ∧ a.count ≤ b.count ∧ (a.more = false → a.count = b.count) :=
  range_succ_bounds_match_ref c s recs hst r hp hco hk hlt hr0 hrc hmagic hcb

/-- Count of a limited range: exactly the page length plus one when there is more — equal to etcd's
count iff the range holds at most `limit + 1` keys. -/
theorem range_count_partial (c : Cfg) (s : BState) (recs : List Rec) (hst : StoreAbs c s recs) (r : RangeReq)
    (hp : PlainRange r) (hco : r.countOnly = false) (hk : r.key ≠ []) (hka : Alphabet r.key)
    (hea : Alphabet r.rangeEnd) (hlt : cmp r.key r.rangeEnd = .lt) (hr0 : 0 ≤ r.revision)
    (hrc : r.revision ≤ s.committed)
    (hmagic : r.revision = getPartitionMagic → r.limit ≠ 0 ∨ r.countOnly = true) (hcb : s.committed < 2 ^ 64) :
    ∃ a, shimRange c s r = .ok a ∧ a.count = a.kvs.length + (if a.more then 1 else 0) := by
  have hee := isEmpty_false_of_ne (ne_nil_of_lt hlt)
  obtain ⟨res, hres, _⟩ := C03.list_spec c hst.single s hst.store hst.sorted hst.keys
    r.key r.rangeEnd hka hea hlt (toU64 r.revision) r.limit.toNat
  have hm : magicGuard r = false := magicGuard_false_of hmagic
  exact ⟨⟨res.hdr, res.kvs, res.kvs.length + (if res.more then 1 else 0), res.more⟩,
    by simp [shimRange, hee, hm, hco, hres, liftScan], rfl⟩

/-- Point read (empty `range_end`) at revision 0 or any revision up to the committed one: the whole
response equals etcd's. -/
theorem range_get_matches_ref (c : Cfg) (s : BState) (recs : List Rec) (hst : StoreAbs c s recs) (r : RangeReq)
    (hp : PlainRange r) (hco : r.countOnly = false) (hlim : r.limit = 0) (hend : r.rangeEnd = [])
    (hk : r.key ≠ []) (hka : Alphabet r.key) (hr0 : 0 ≤ r.revision) (hrc : r.revision ≤ s.committed)
    (hcb : s.committed < 2 ^ 64) :
    ∃ a, shimRange c s r = .ok a ∧ refRangeH (histOf recs s.committed) r = .ok a := by
  obtain ⟨hp1, hp2, hp3, hp4, hp5, hp6⟩ := hp
  have hrl : r.revision < 2 ^ 64 := by omega
  have hRlt : toU64 r.revision < 2 ^ 64 := by rw [toU64_of_nonneg hr0 hrl]; omega
  have hin : inInterval r.key [] = fun k => k == r.key := by funext k; simp [inInterval]
  have hshim : shimRange c s r = .ok (match readAt (C03.readRev (toU64 r.revision) s.committed) recs r.key with
      | none => ⟨s.committed, [], 0, false⟩
      | some (v, m) => ⟨s.committed, [(r.key, v, m)], 1, false⟩) := by
    simp only [shimRange, hend, List.isEmpty_nil, if_true, doGet_abs hst r.key hka _ hRlt]
    cases readAt (C03.readRev (toU64 r.revision) s.committed) recs r.key <;> rfl
  refine ⟨_, hshim, ?_⟩
  · rw [refRangeH_ok recs s.committed r hk hr0 hrc hrl, refRangeOn_unfiltered _ r hp1 hp3 hp4 hp5 hp6]
    simp only [hp2, hco, hlim, hend, Bool.false_eq_true, if_false, Int.toNat_zero, Nat.lt_irrefl, false_and,
      decide_false, Bool.and_false, ← List.length_map (f := KVFull.proj), mvccAt_range, hin,
      scan_point hst.sorted]
    cases readAt (C03.readRev (toU64 r.revision) s.committed) recs r.key <;> rfl

/-- `count_only` AT AN EXPLICIT REVISION (/repo 5f2847c; before it `backendShim.Count` dropped the revision and
counted the current keys): over a proper interval with ARBITRARY bounds (any byte strings — since /repo 23c8b93),
at EVERY revision `0 < R ≤ committed` — the magic 1888 included since /repo e617587 (before it a count at revision
1888 answered the number of partition borders) —, the whole response —
header, no kvs, Count = the number of keys of the range AT `R`, no more — equals etcd's. (A `range_end` of `"\0"`,
etcd's "from key" marker, cannot be the end of a proper interval above a non-empty key: `end_ne_zero_of_lt`.) -/
theorem count_only_at_revision_matches_ref (c : Cfg) (s : BState) (recs : List Rec) (hst : StoreAbs c s recs)
    (r : RangeReq) (hp : PlainRange r) (hco : r.countOnly = true) (hk : r.key ≠ []) (hlt : cmp r.key r.rangeEnd = .lt)
    (hr0 : 0 < r.revision) (hrc : r.revision ≤ s.committed)
    (hcb : s.committed < 2 ^ 64) :
    ∃ a, shimRange c s r = .ok a ∧ refRangeH (histOf recs s.committed) r = .ok a := by
  have hlist := doList_bounds c hst.single s hst.store hst.keys hlt (toU64 r.revision) 0 rfl
  have href := refRangeH_interval hst r hp hk hlt (by omega) hrc (by omega) rfl
  rw [if_pos rfl, hdrOf_scan hst _ _ (fun e he => he)] at hlist
  refine ⟨_, ?_, href⟩
  simp [shimRange, isEmpty_false_of_ne (ne_nil_of_lt hlt), magicGuard_false_of_count hco, hco, hr0, hlist, liftScan]

/-- ... and at the CURRENT revision (`range_count_only_matches_ref` for arbitrary bounds). -/
theorem count_only_any_bounds_matches_ref (c : Cfg) (s : BState) (recs : List Rec) (hst : StoreAbs c s recs)
    (r : RangeReq) (hp : PlainRange r) (hco : r.countOnly = true) (hk : r.key ≠ []) (hlt : cmp r.key r.rangeEnd = .lt)
    (hr0 : r.revision = 0) :
    ∃ a, shimRange c s r = .ok a ∧ refRangeH (histOf recs s.committed) r = .ok a := by
  have hcnt := doCount_bounds c hst.single hst.compat s hst.store hst.keys hlt
  have href := refRangeH_interval hst r hp hk hlt (by omega) (by omega) (by omega) rfl
  refine ⟨_, ?_, href⟩
  simp [shimRange, isEmpty_false_of_ne (ne_nil_of_lt hlt), magicGuard_false_of_count hco, hco, hr0, hcnt, liftScan,
    C03.readRev, toU64]

/-- `count_only` over a proper interval at the current revision (as Kubernetes issues it): the whole
response equals etcd's. -/
theorem range_count_only_matches_ref (c : Cfg) (s : BState) (recs : List Rec) (hst : StoreAbs c s recs)
    (r : RangeReq) (hp : PlainRange r) (hco : r.countOnly = true) (hk : r.key ≠ []) (hka : Alphabet r.key)
    (hea : Alphabet r.rangeEnd) (hlt : cmp r.key r.rangeEnd = .lt) (hr0 : r.revision = 0) :
    ∃ a, shimRange c s r = .ok a ∧ refRangeH (histOf recs s.committed) r = .ok a :=
  count_only_any_bounds_matches_ref c s recs hst r hp hco hk hlt hr0

def recs3 : List Rec :=
  [ { key := kA, rev := 0, val := be64 1001, ik := encode kA 0 }, { key := kA, rev := 1001, val := v1, ik := encode kA 1001 },
    { key := kB, rev := 0, val := be64 1002, ik := encode kB 0 }, { key := kB, rev := 1002, val := v2, ik := encode kB 1002 },
    { key := kC, rev := 0, val := be64 1003, ik := encode kC 0 }, { key := kC, rev := 1003, val := v3, ik := encode kC 1003 } ]

theorem s3_store_abs : StoreAbs cfg0 s3 recs3 :=
  ⟨by decide +kernel, by decide +kernel, by decide +kernel, by decide +kernel, rfl, rfl⟩

/-- Three keys, limit 1: the shim answers Count = 2, etcd 3. (With limit 2 it answers 3.) -/
theorem limited_count_wrong :
    shimRange cfg0 s3 { key := pfxLo, rangeEnd := pfxHi, limit := 1 } =
      .ok { hdr := 1003, kvs := [(kA, v1, 1001)], count := 2, more := true } ∧
    refRangeH (histOf recs3 1003) { key := pfxLo, rangeEnd := pfxHi, limit := 1 } =
      .ok { hdr := 1003, kvs := [(kA, v1, 1001)], count := 3, more := true } ∧
    (shimRange cfg0 s3 { key := pfxLo, rangeEnd := pfxHi, limit := 2 }).map (·.count) = .ok 3 := by decide +kernel

/-- `count_only` does not validate its bounds: `range_end = "\0"` (all keys ≥ key) counts 0, inverted
bounds count keys of the reversed interval; the same bounds are refused by List. -/
theorem count_bounds_unchecked :
    (shimRange cfg0 s3 { key := pfxLo, rangeEnd := [0], countOnly := true }).map (·.count) = .ok 0 ∧
    (refRangeH (histOf recs3 1003) { key := pfxLo, rangeEnd := [0], countOnly := true }).map (·.count) = .ok 3 ∧
    (shimRange cfg0 s3 { key := kC, rangeEnd := kA, countOnly := true }).map (·.count) = .ok 1 ∧
    (refRangeH (histOf recs3 1003) { key := kC, rangeEnd := kA, countOnly := true }).map (·.count) = .ok 0 ∧
    shimRange cfg0 s3 { key := pfxLo, rangeEnd := [0] } = .error (.backend .invalid) ∧
    shimRange cfg0 s3 { key := kC, rangeEnd := kA } = .error (.backend .invalid) := by decide +kernel

/-! ### the partition-listing magic revision 1888 (/repo e617587)

`RPCServer.Range` answers a request with a `range_end` at revision `GetPartitionMagic` (1888) with the engine's
partition borders (kubebrain-client's in-band partition protocol). 1888 is an ORDINARY revision on engines whose
revisions count commits (Badger, the in-memory engine) and in every store initialised near 1000: before /repo
e617587 the test was the revision ALONE, so page 2 of a paginated list whose first page carried header revision
1888 (kube-apiserver's continue request: `limit > 0`, `revision = 1888`) and a count at revision 1888 were answered
with border keys (`old_magic_swallowed_page_two`). Now the guard is `revision = 1888 ∧ limit = 0 ∧ ¬count_only`. -/

/-- The guard of the partition-listing branch and the whole dispatch chain of `RPCServer.Range` AS THE EXTRACTOR
FINDS THEM IN kv.go on this run (`KB/Generated/Consts.lean`, harness/cmd/kbextract/rangedispatch.go): dropping a
conjunct of the guard (e.g. reverting /repo e617587: `["Revision==GetPartitionMagic"]`), adding one, reordering the
chain or changing the magic's value makes this `decide` fail. -/
theorem magic_guard_as_in_source :
    Generated.partitionMagicGuard = ["Revision==GetPartitionMagic", "Limit==0", "!CountOnly"] ∧
    Generated.rangeDispatch =
      [(["len(RangeEnd)==0"], "Get"), (["Revision==GetPartitionMagic", "Limit==0", "!CountOnly"], "GetPartitions"),
       (["CountOnly"], "Count"), ([], "List")] ∧
    Generated.partitionMagic = 1888 ∧ getPartitionMagic = 1888 ∧ Generated.constsUnresolved = [] := by decide +kernel

/-- ... and READ AS A PROGRAM (`dispatchBy`, `guardHolds`: every conjunct interpreted on the request, an unknown
conjunct = no answer) the regenerated chain selects, for EVERY request, the branch the model's `shimRange` takes,
and the regenerated guard is the model's `magicGuard`. -/
theorem range_dispatch_as_in_source (r : RangeReq) :
    dispatchBy Generated.rangeDispatch r = some (rangeBranch r).method ∧
    guardHolds Generated.partitionMagicGuard r = some (magicGuard r) := by
  obtain ⟨hg, hd, -, -, -⟩ := magic_guard_as_in_source
  rw [hg, hd]
  -- each guard of the table evaluates to the condition the model tests at that place of its `if` chain
  have g1 : guardHolds ["len(RangeEnd)==0"] r = some r.rangeEnd.isEmpty := by simp [guardHolds, atomHolds]
  have g2 : guardHolds ["Revision==GetPartitionMagic", "Limit==0", "!CountOnly"] r = some (magicGuard r) := by
    simp [guardHolds, atomHolds, magicGuard, Bool.and_assoc]
  have g3 : guardHolds ["CountOnly"] r = some r.countOnly := by simp [guardHolds, atomHolds]
  have g4 : guardHolds [] r = some true := rfl
  refine ⟨?_, g2⟩
  simp only [dispatchBy, g1, g2, g3, g4, rangeBranch]
  cases r.rangeEnd.isEmpty <;> cases magicGuard r <;> cases r.countOnly <;> rfl

theorem shimRange_by_branch (c : Cfg) (s : BState) (r : RangeReq) :
    (rangeBranch r = .partitions → shimRange c s r = .ok (partitionListing c s r)) ∧
    (rangeBranch r ≠ .partitions → shimRange c s r = shimRangePlain c s r) := by
  unfold rangeBranch shimRange shimRangePlain
  cases r.rangeEnd.isEmpty with
  | true => exact ⟨nofun, fun _ => rfl⟩
  | false =>
    cases magicGuard r with
    | true => exact ⟨fun _ => rfl, fun h => absurd rfl h⟩
    | false => exact ⟨by cases r.countOnly <;> nofun, fun _ => rfl⟩

/-- THE PARTITION LISTING IS ONLY FOR THE PLAIN UNLIMITED REQUEST: the partition-listing branch is taken iff
`revision = 1888 ∧ limit = 0 ∧ ¬count_only ∧ range_end ≠ []`; there the answer is `partitionListing` (borders); and
EVERYWHERE ELSE `RPCServer.Range` is the dispatcher without any magic (`shimRangePlain`: Get / Count / List by
`range_end` and `count_only` alone). -/
theorem partition_listing_only_for_plain_unlimited (c : Cfg) (s : BState) (r : RangeReq) :
    (rangeBranch r = .partitions ↔ r.revision = 1888 ∧ r.limit = 0 ∧ r.countOnly = false ∧ r.rangeEnd ≠ []) ∧
    (r.revision = 1888 ∧ r.limit = 0 ∧ r.countOnly = false ∧ r.rangeEnd ≠ [] →
      shimRange c s r = .ok (partitionListing c s r)) ∧
    (¬ (r.revision = 1888 ∧ r.limit = 0 ∧ r.countOnly = false ∧ r.rangeEnd ≠ []) →
      shimRange c s r = shimRangePlain c s r) := by
  have hiff : rangeBranch r = .partitions ↔
      r.revision = 1888 ∧ r.limit = 0 ∧ r.countOnly = false ∧ r.rangeEnd ≠ [] := by
    have hb : rangeBranch r = .partitions ↔ r.rangeEnd.isEmpty = false ∧ magicGuard r = true := by
      unfold rangeBranch
      cases r.rangeEnd.isEmpty <;> cases magicGuard r <;> cases r.countOnly <;> decide
    have h1888 : getPartitionMagic = 1888 := by decide
    rw [hb, magicGuard_iff r, h1888, List.isEmpty_eq_false_iff]
    exact ⟨fun ⟨a, b, c, d⟩ => ⟨b, c, d, a⟩, fun ⟨b, c, d, a⟩ => ⟨a, b, c, d⟩⟩
  obtain ⟨h1, h2⟩ := shimRange_by_branch c s r
  exact ⟨hiff, fun h => h1 (hiff.mpr h), fun h => h2 (fun hb => h (hiff.mp hb))⟩

/-- THE REMAINING AMBIGUITY, kept visible: an UNLIMITED, non-count range (`range_end` given) at revision EXACTLY
1888 is still answered with the partition borders — internal keys, empty values, mod revision 0, `more = false`,
on every state, whatever the history is. This is the protocol's own in-band signalling (a kubebrain-aware client
asks for the partitions with exactly this request; nothing in it distinguishes it from a reader's). On an engine
whose revisions are TSO timestamps no store revision equals 1888; where store revisions CAN equal 1888 (Badger,
the in-memory engine: revisions count commits) an unpaginated list at the explicit revision 1888
(`resourceVersionMatch=Exact` without a limit) is a residual deviation from etcd (`magic_revision_hijacked` gives the
numbers). Removing it needs a protocol decision (a discriminator no etcd client sends), not a guard. The check
records it as an OBSERVATION (`range-unlimited-at-magic-revision-is-partition-listing`), not as a violation. -/
theorem unlimited_plain_range_at_magic_is_partition_listing (c : Cfg) (s : BState) (r : RangeReq)
    (hend : r.rangeEnd ≠ []) (hrev : r.revision = 1888) (hlim : r.limit = 0) (hco : r.countOnly = false) :
    shimRange c s r = .ok (partitionListing c s r) ∧
    (partitionListing c s r).hdr = s.committed ∧ (partitionListing c s r).more = false ∧
    ∀ kv ∈ (partitionListing c s r).kvs, kv.2.1 = [] ∧ kv.2.2 = 0 := by
  refine ⟨(partition_listing_only_for_plain_unlimited c s r).2.1 ⟨hrev, hlim, hco, hend⟩, rfl, rfl, ?_⟩
  intro kv hkv
  simp only [partitionListing, List.mem_map] at hkv
  obtain ⟨k, _, rfl⟩ := hkv
  exact ⟨rfl, rfl⟩

/-- the state of the magic-revision witnesses: `sm3` = three creates from revision 1885 (/r/a@1886, /r/b@1887,
/r/c@1888): the committed revision IS the magic -/
def sm0 : BState := { ring := Ring.new 4, dealt := 1885, committed := 1885 }
def sm3 : BState :=
  (shimTxn cfg0 (shimTxn cfg0 (shimTxn cfg0 sm0 (k8sCreate kA v1 0)).2 (k8sCreate kB v2 0)).2 (k8sCreate kC v3 0)).2

def recsM : List Rec :=
  [ { key := kA, rev := 0, val := be64 1886, ik := encode kA 0 }, { key := kA, rev := 1886, val := v1, ik := encode kA 1886 },
    { key := kB, rev := 0, val := be64 1887, ik := encode kB 0 }, { key := kB, rev := 1887, val := v2, ik := encode kB 1887 },
    { key := kC, rev := 0, val := be64 1888, ik := encode kC 0 }, { key := kC, rev := 1888, val := v3, ik := encode kC 1888 } ]

theorem sm3_store_abs : StoreAbs cfg0 sm3 recsM ∧ sm3.committed = 1888 :=
  ⟨⟨by decide +kernel, by decide +kernel, by decide +kernel, by decide +kernel, rfl, rfl⟩, by decide +kernel⟩

/-- The numbers of the remaining ambiguity on `sm3`: the unlimited plain range at revision 1888 is answered with the
two borders of the single partition (etcd: the three keys), at revision 1887 with the two keys of that revision; a
point read at 1888 is a point read. -/
theorem magic_revision_hijacked :
    sm3.committed = 1888 ∧
    shimRange cfg0 sm3 { key := pfxLo, rangeEnd := pfxHi, revision := 1888 } =
      .ok { hdr := 1888, kvs := [(encode pfxLo 0, [], 0), (encode pfxHi 0, [], 0)], count := 2, more := false } ∧
    refRangeH (histOf recsM 1888) { key := pfxLo, rangeEnd := pfxHi, revision := 1888 } =
      .ok { hdr := 1888, kvs := [(kA, v1, 1886), (kB, v2, 1887), (kC, v3, 1888)], count := 3, more := false } ∧
    (shimRange cfg0 sm3 { key := pfxLo, rangeEnd := pfxHi, revision := 1887 }).map (·.kvs) =
      .ok [(kA, v1, 1886), (kB, v2, 1887)] ∧
    shimRange cfg0 sm3 { key := kC, revision := 1888 } =
      .ok { hdr := 1888, kvs := [(kC, v3, 1888)], count := 1, more := false } := by decide +kernel

/-- A PAGE OF A PAGINATED LIST AT THE MAGIC REVISION (`limit > 0`, `revision = 1888` — kube-apiserver's continue
request after a first page with header revision 1888) is answered like a page at any other revision: the
reference's answer (`range_succ_bounds_match_ref` at the magic; ARBITRARY bounds, so the continue key
`lastKey ++ "\0"` is covered). -/
theorem paginated_list_at_magic_revision_matches_ref (c : Cfg) (s : BState) (recs : List Rec)
    (hst : StoreAbs c s recs) (r : RangeReq) (hp : PlainRange r) (hco : r.countOnly = false) (hk : r.key ≠ [])
    (hlt : cmp r.key r.rangeEnd = .lt) (hrev : r.revision = getPartitionMagic) (hlim : 0 < r.limit)
    (hrc : getPartitionMagic ≤ s.committed) (hcb : s.committed < 2 ^ 64) :
    ∃ a b, shimRange c s r = .ok a ∧ refRangeH (histOf recs s.committed) r = .ok b ∧
      a.hdr = b.hdr ∧ a.kvs = b.kvs ∧ a.more = b.more ∧ a.count ≤ b.count ∧ (a.more = false → a.count = b.count) := by
  have h0 : (0 : Int) ≤ getPartitionMagic := by decide
  exact range_succ_bounds_match_ref c s recs hst r hp hco hk hlt (by rw [hrev]; exact h0) (by rw [hrev]; exact hrc)
    (fun _ => .inl (by omega)) hcb

/-- A COUNT AT THE MAGIC REVISION (`count_only`, `revision = 1888`) is the count of THAT revision — etcd's whole
response (before /repo e617587: the number of partition borders, with the borders as key-values). -/
theorem count_at_magic_revision_matches_ref (c : Cfg) (s : BState) (recs : List Rec) (hst : StoreAbs c s recs)
    (r : RangeReq) (hp : PlainRange r) (hco : r.countOnly = true) (hk : r.key ≠ []) (hlt : cmp r.key r.rangeEnd = .lt)
    (hrev : r.revision = getPartitionMagic) (hrc : getPartitionMagic ≤ s.committed) (hcb : s.committed < 2 ^ 64) :
    ∃ a, shimRange c s r = .ok a ∧ refRangeH (histOf recs s.committed) r = .ok a := by
  have h0 : (0 : Int) < getPartitionMagic := by decide
  exact count_only_at_revision_matches_ref c s recs hst r hp hco hk hlt (by rw [hrev]; exact h0) (by rw [hrev]; exact hrc) hcb

/-- REFUTATION of `RPCServer.Range` as it was before /repo e617587 (`shimRangeOld`: the magic revision tested before
limit and `count_only`), on `sm3` (/r/a@1886, /r/b@1887, /r/c@1888; committed revision 1888): the first page of a
paginated list at "latest" carries header revision 1888 and `more`; the CONTINUE REQUEST kube-apiserver then sends
— `key = /r/a\0`, `limit = 1`, `revision = 1888` — was answered with two internal border keys (empty values, mod
revision 0) and `more = false`: the list ended there, /r/b and /r/c were never returned; a count at revision 1888
answered 2 (the number of borders, and carried them as key-values). The repaired `shimRange` answers both as the
reference does (page: /r/b@1887, more; count: 3). `sm3` and the two requests satisfy the hypotheses
of the range theorems (`sm3_store_abs`; `hmagic` by the limit / `count_only`): those theorems are false of `shimRangeOld`. -/
theorem old_magic_swallowed_page_two :
    sm3.committed = 1888 ∧
    shimRangeOld cfg0 sm3 { key := pfxLo, rangeEnd := pfxHi, limit := 1 } =
      .ok { hdr := 1888, kvs := [(kA, v1, 1886)], count := 2, more := true } ∧
    shimRangeOld cfg0 sm3 { key := kA ++ [0], rangeEnd := pfxHi, limit := 1, revision := 1888 } =
      .ok { hdr := 1888, kvs := [(encode kA (2 ^ 64 - 1) ++ [0], [], 0), (encode pfxHi 0, [], 0)], count := 2,
            more := false } ∧
    shimRange cfg0 sm3 { key := kA ++ [0], rangeEnd := pfxHi, limit := 1, revision := 1888 } =
      .ok { hdr := 1888, kvs := [(kB, v2, 1887)], count := 2, more := true } ∧
    refRangeH (histOf recsM 1888) { key := kA ++ [0], rangeEnd := pfxHi, limit := 1, revision := 1888 } =
      .ok { hdr := 1888, kvs := [(kB, v2, 1887)], count := 2, more := true } ∧
    shimRangeOld cfg0 sm3 { key := pfxLo, rangeEnd := pfxHi, countOnly := true, revision := 1888 } =
      .ok { hdr := 1888, kvs := [(encode pfxLo 0, [], 0), (encode pfxHi 0, [], 0)], count := 2, more := false } ∧
    shimRange cfg0 sm3 { key := pfxLo, rangeEnd := pfxHi, countOnly := true, revision := 1888 } =
      .ok { hdr := 1888, kvs := [], count := 3, more := false } ∧
    refRangeH (histOf recsM 1888) { key := pfxLo, rangeEnd := pfxHi, countOnly := true, revision := 1888 } =
      .ok { hdr := 1888, kvs := [], count := 3, more := false } := by decide +kernel

/-- ... and the repaired dispatcher differs from the old one ONLY on requests at the magic revision that carry a
limit or `count_only`: everywhere else (every other revision, and the plain unlimited request at 1888) the two
answer alike — the repair changes nothing else. -/
theorem old_and_new_differ_only_at_magic (c : Cfg) (s : BState) (r : RangeReq)
    (h : ¬ (r.revision = 1888 ∧ (r.limit ≠ 0 ∨ r.countOnly = true))) :
    shimRangeOld c s r = shimRange c s r := by
  have hg : magicGuardOld r = magicGuard r := by
    rw [Bool.eq_iff_iff, magicGuard_iff, magicGuardOld, beq_iff_eq, show getPartitionMagic = 1888 by decide]
    refine ⟨fun hr => ⟨hr, Decidable.byContradiction fun hl => h ⟨hr, .inl hl⟩, ?_⟩, And.left⟩
    cases hc : r.countOnly
    · rfl
    · exact absurd ⟨hr, .inr hc⟩ h
  unfold shimRangeOld shimRange
  rw [hg]

/-- ... and BELOW THE COMPACTION FLOOR it is refused (on every state, any bounds of a proper interval), like
the same range without `count_only` (C08 `list_refused_below_floor`); etcd answers `ErrCompacted`. (No exception
for the magic revision any more: a count at revision 1888 below the floor is refused too — /repo e617587.) -/
theorem count_only_below_floor_refused (c : Cfg) (s : BState) (r : RangeReq) (hco : r.countOnly = true)
    (hlt : cmp r.key r.rangeEnd = .lt) (hr0 : 0 < r.revision) (hr63 : r.revision < 2 ^ 63)
    (hfl : toU64 r.revision < floorOf c s.store) :
    shimRange c s r = .error (.backend .belowFloor) := by
  have hee := isEmpty_false_of_ne (ne_nil_of_lt hlt)
  have hm : magicGuard r = false := magicGuard_false_of_count hco
  have hz : (toU64 r.revision == 0) = false := by
    have : toU64 r.revision ≠ 0 := by
      rw [toU64_of_nonneg (by omega) (by omega)]
      omega
    simpa using this
  have hbf : belowFloor c s.store (toU64 r.revision) = true := by simp [belowFloor, hfl]
  simp [shimRange, hee, hm, hco, hr0, doList, hlt, hz, scanParts, hbf, liftScan]

/-- The numbers (before /repo 5f2847c: Count 2 at revision 1003, the current count): after the delete of /r/a at
1004, `count_only` at revision 1003 counts the three keys of THAT revision (= the length of the range read
there), at revision 0 the two current ones; after a compaction at 1004 the count at 1003 is refused like the
range read, the current one is still answered. -/
theorem count_only_counts_revision :
    let s4 := (shimTxn cfg0 s3 (k8sDelete kA 1001)).2
    let s5 := (doCompact cfg0 s4 1004 (fun _ => .ok)).2
    (shimRange cfg0 s4 { key := pfxLo, rangeEnd := pfxHi, revision := 1003, countOnly := true }) =
      .ok { hdr := 1004, kvs := [], count := 3, more := false } ∧
    (shimRange cfg0 s4 { key := pfxLo, rangeEnd := pfxHi, revision := 1003 }).map (·.kvs.length) = .ok 3 ∧
    (shimRange cfg0 s4 { key := pfxLo, rangeEnd := pfxHi, countOnly := true }).map (·.count) = .ok 2 ∧
    shimRange cfg0 s5 { key := pfxLo, rangeEnd := pfxHi, revision := 1003, countOnly := true } =
      .error (.backend .belowFloor) ∧
    shimRange cfg0 s5 { key := pfxLo, rangeEnd := pfxHi, revision := 1003 } = .error (.backend .belowFloor) ∧
    (shimRange cfg0 s5 { key := pfxLo, rangeEnd := pfxHi, countOnly := true }).map (·.count) = .ok 2 := by decide +kernel

/-! ### range bounds with bytes at or below the split byte (/repo 146f0bb: `K ++ [0]`; /repo 23c8b93: ANY bound):
pagination, single-key ranges, bounds outside the key alphabet -/

/-- The numbers on `s3` (keys /r/a, /r/b, /r/c): the page after /r/a starts at /r/b (before the fix: at /r/a
again — with page size 1 the listing never advanced), `[/r/a, /r/a\0)` is exactly /r/a (before: empty),
the counts over such bounds are etcd's (before: off by one), at the current and at an old revision. -/
theorem pagination_witness :
    shimRange cfg0 s3 { key := pfxLo, rangeEnd := pfxHi, limit := 1 } =
      .ok { hdr := 1003, kvs := [(kA, v1, 1001)], count := 2, more := true } ∧
    shimRange cfg0 s3 { key := kA ++ [0], rangeEnd := pfxHi, limit := 1 } =
      .ok { hdr := 1003, kvs := [(kB, v2, 1002)], count := 2, more := true } ∧
    shimRange cfg0 s3 { key := kB ++ [0], rangeEnd := pfxHi, limit := 1 } =
      .ok { hdr := 1003, kvs := [(kC, v3, 1003)], count := 1, more := false } ∧
    shimRange cfg0 s3 { key := kA, rangeEnd := kA ++ [0] } =
      .ok { hdr := 1003, kvs := [(kA, v1, 1001)], count := 1, more := false } ∧
    refRangeH (histOf recs3 1003) { key := kA, rangeEnd := kA ++ [0] } =
      .ok { hdr := 1003, kvs := [(kA, v1, 1001)], count := 1, more := false } ∧
    (shimRange cfg0 s3 { key := kA ++ [0], rangeEnd := pfxHi, countOnly := true }).map (·.count) = .ok 2 ∧
    (shimRange cfg0 s3 { key := pfxLo, rangeEnd := kB ++ [0], countOnly := true }).map (·.count) = .ok 2 ∧
    (shimRange cfg0 s3 { key := kA ++ [0], rangeEnd := pfxHi, countOnly := true, revision := 1002 }).map (·.count) = .ok 1 := by
  decide +kernel

/-- The numbers on `s3` (keys /r/a, /r/b, /r/c) for bounds with OTHER low bytes (/repo 23c8b93; before, the bound
`/r/a\x01` was encoded before the records of /r/a: `[/r/a, /r/a\x01)` was empty and a range from `/r/a\x01`
answered /r/a): `[/r/a, /r/a\x01)` and `[/r/a, /r/a#)` are exactly /r/a, a range from `/r/a\x01`, `/r/a\0\0`,
`/r/a\0b` starts at /r/b, `[/r/a\x01, /r/a\x02)` (encoded alike) is empty — everywhere the answer of the
reference on raw keys. -/
theorem low_byte_bounds_witness :
    shimRange cfg0 s3 { key := kA, rangeEnd := kA ++ [1] } =
      .ok { hdr := 1003, kvs := [(kA, v1, 1001)], count := 1, more := false } ∧
    refRangeH (histOf recs3 1003) { key := kA, rangeEnd := kA ++ [1] } =
      .ok { hdr := 1003, kvs := [(kA, v1, 1001)], count := 1, more := false } ∧
    shimRange cfg0 s3 { key := kA, rangeEnd := kA ++ [35] } =
      .ok { hdr := 1003, kvs := [(kA, v1, 1001)], count := 1, more := false } ∧
    (shimRange cfg0 s3 { key := kA ++ [1], rangeEnd := pfxHi, limit := 1 }).map (·.kvs) = .ok [(kB, v2, 1002)] ∧
    refRangeH (histOf recs3 1003) { key := kA ++ [1], rangeEnd := pfxHi, limit := 1 } =
      .ok { hdr := 1003, kvs := [(kB, v2, 1002)], count := 2, more := true } := by
  decide +kernel

theorem low_byte_bounds_witness' :
    (shimRange cfg0 s3 { key := kA ++ [0, 0], rangeEnd := pfxHi, limit := 1 }).map (·.kvs) = .ok [(kB, v2, 1002)] ∧
    (shimRange cfg0 s3 { key := kA ++ [0, 98], rangeEnd := pfxHi, limit := 1 }).map (·.kvs) = .ok [(kB, v2, 1002)] ∧
    (shimRange cfg0 s3 { key := kA ++ [1], rangeEnd := kA ++ [2] }).map (·.kvs) = .ok [] ∧
    refRangeH (histOf recs3 1003) { key := kA ++ [1], rangeEnd := kA ++ [2] } =
      .ok { hdr := 1003, kvs := [], count := 0, more := false } ∧
    (shimRange cfg0 s3 { key := kA ++ [1], rangeEnd := pfxHi, countOnly := true }).map (·.count) = .ok 2 ∧
    (shimRange cfg0 s3 { key := pfxLo, rangeEnd := kB ++ [36], countOnly := true }).map (·.count) = .ok 2 := by
  decide +kernel

/-! ### watch-create: the range-stream shape needs both borders (/repo 5b8c053) -/

/-- A watch-create with a NEGATIVE start revision (the range-stream shape) and an empty key or an empty
`range_end` is refused — cancelled at once, `backend.ListByStream` is not called (before the fix the
request reached it; on a multi-region TiKV engine that crashed the process). -/
theorem range_stream_needs_borders (key stop : Bytes) (rev : Int) (hneg : rev < 0) (he : key = [] ∨ stop = []) :
    watchCreate key stop rev = .refused := by
  rcases he with rfl | rfl <;> simp [watchCreate, hneg]

/-- ... and with both borders it is the streamed range at the revision `-rev`; a non-negative start revision
is a watch (of a key starting with "/"), whatever `range_end` is. -/
theorem watch_create_shapes (key stop : Bytes) (rev : Int) :
    (rev < 0 → key ≠ [] → stop ≠ [] → watchCreate key stop rev = .rangeStream key stop (toU64 (-rev))) ∧
    (0 ≤ rev → watchCreate key stop rev = if isPureWatch key then .watch key (toU64 rev) else .refused) := by
  constructor
  · intro hneg hk hs
    have h1 := isEmpty_false_of_ne hk
    have h2 := isEmpty_false_of_ne hs
    simp [watchCreate, hneg, h1, h2]
  · intro h0
    have : ¬ rev < 0 := by omega
    cases hp : isPureWatch key <;> simp [watchCreate, this, hp]

/-! ### watch events -/

/-- A committed write's event as the watch stream carries it: creates and updates are PUT with the new
key-value and its mod revision; a delete is DELETE with the key and the deletion revision, and the
previous key-value (value and mod revision before the delete). -/
theorem watch_event_shape (w : WEvent) :
    shimEvent (mkEvent w) =
      (if w.verb = .delete then { isDelete := true, kv := (w.key, [], w.rev), prev := some (w.key, w.val, w.prevRev) }
       else { isDelete := false, kv := (w.key, w.val, w.rev), prev := none }) := by
  cases hv : w.verb <;> simp [shimEvent, mkEvent, hv]

/-- ... which is the event etcd emits for the same state change. -/
theorem watch_event_matches_ref (m m' : Mvcc) (w : WEvent) (old : KVFull)
    (hold : m.get w.key = some old) (hproj : old.proj = (w.key, w.val, w.prevRev))
    (hgone : m'.get w.key = none) (hv : w.verb = .delete) :
    refEvent m m' w.key w.rev = some (shimEvent (mkEvent w)) := by
  simp [refEvent, hold, hgone, shimEvent, mkEvent, hv, hproj]

theorem watch_put_matches_ref (m m' : Mvcc) (w : WEvent) (e : KVFull)
    (hnew : m'.get w.key = some e) (hproj : e.proj = (w.key, w.val, w.rev)) (hmod : e.mod = w.rev)
    (hv : w.verb ≠ .delete) :
    refEvent m m' w.key w.rev = some (shimEvent (mkEvent w)) := by
  cases hverb : w.verb with
  | delete => exact absurd hverb hv
  | _ => cases hm : m.get w.key <;> simp [refEvent, hm, hnew, shimEvent, mkEvent, hverb, hproj, hmod]

/-! ### non-vacuity: the hypotheses of the implications above are satisfiable -/

/-- the hypotheses of `shim_sound` hold on the empty store (for every key) -/
example : (∀ k, WHyp cfg0 s0 k) ∧ (∀ k, AbsAt cfg0 s0 { rev := 1000 } k) ∧ s0.dealt + 1 < 2 ^ 63 :=
  ⟨fun k => ⟨rfl, by decide, by simp [idxOK, getInternal_empty, s0, Store.get]⟩,
   fun k => ⟨rfl, by simp [Mvcc.get, curKv_eq, getInternal_empty, s0], by simp⟩, by decide⟩
example : ReqOK (k8sUpdate kA v1 1001 0) ∧ classify (k8sUpdate kA v1 1001 0) ≠ .compact :=
  ⟨⟨by decide, fun o ho => by rw [List.mem_singleton.mp ho]; exact (by decide : kA ≠ []),
    fun o ho => by rw [List.mem_singleton.mp ho]; exact (by decide : kA ≠ []), by decide⟩, by decide⟩
example : Canonical (k8sCreate kA v1 0) := .create _ _ ⟨rfl, rfl, rfl, rfl, rfl⟩ ⟨by decide, rfl, rfl, rfl⟩ (by decide)
example : WHyp cfg0 s3 kA ∧ WHyp cfg0 s3 kD :=
  have h := s3_abstracts_to_m3
  have hb : s3.dealt + 1 < 2 ^ 64 := h.2 ▸ (by decide : m3.rev + 1 < 2 ^ 64)
  ⟨⟨rfl, hb, (h.1 kA (by decide)).2⟩, ⟨rfl, hb, (h.1 kD (by decide)).2⟩⟩
example : AbsAt cfg0 s3 m3 kA ∧ AbsAt cfg0 s3 m3 kD :=
  have h := s3_abstracts_to_m3
  have hn : m3.kvs.Pairwise (fun a b => a.key ≠ b.key) := by decide
  ⟨⟨h.2, (h.1 kA (by decide)).1, hn⟩, ⟨h.2, (h.1 kD (by decide)).1, hn⟩⟩
example : curKv cfg0 s3 kD = none ∧ curKv cfg0 s3 kA ≠ none := by decide +kernel
-- the delete op of Kubernetes' delete shapes: no `range_end`, no `prev_kv` (hypotheses `he`, `hp` of `unguarded_delete_missing_flag`, `Canonical.gdelete / udelete`)
example : ({ key := kD } : DelReq).key ≠ [] ∧ ({ key := kD } : DelReq).rangeEnd = [] ∧ ({ key := kD } : DelReq).prevKv = false ∧
    PlainGet { key := kD } ({ key := kD } : DelReq).key ∧
    Canonical (k8sDeleteUnguarded kD) ∧ Canonical (k8sDelete kB 1002) :=
  ⟨by decide, rfl, rfl, plainGet_of_key kD, .udelete _ _ (by decide) rfl rfl (plainGet_of_key kD),
   .gdelete _ _ _ 1002 ⟨rfl, rfl, rfl, rfl, rfl⟩ (by decide) (by decide) rfl rfl (plainGet_of_key kB)⟩
example : classify { compare := [{ key := kA, target := .version }], success := [.put { key := kA }] } = .unsupported := by
  decide +kernel
example : ∃ (m m' : Mvcc) (w : WEvent) (old : KVFull), m.get w.key = some old ∧
    old.proj = (w.key, w.val, w.prevRev) ∧ m'.get w.key = none ∧ w.verb = .delete :=
  ⟨m3, { m3 with kvs := m3.kvs.drop 1 },
   { rev := 1004, prevRev := 1001, valid := true, verb := .delete, key := kA, val := v1 },
   { key := kA, val := v1, mod := 1001, create := 1001, version := 1 }, by decide, by decide, by decide, rfl⟩
example : PlainRange { key := pfxLo, rangeEnd := pfxHi, limit := 1 } ∧ Alphabet pfxLo ∧ Alphabet pfxHi ∧
    cmp pfxLo pfxHi = .lt := ⟨⟨rfl, rfl, rfl, rfl, rfl, rfl⟩, by decide, by decide, by decide⟩

-- paginated_list_at_magic_revision_matches_ref / count_at_magic_revision_matches_ref: on `sm3` (`sm3_store_abs`) the
-- continue request of a paginated list and a count at revision 1888 satisfy every hypothesis
example : StoreAbs cfg0 sm3 recsM ∧
    PlainRange { key := kA ++ [0], rangeEnd := pfxHi, limit := 1, revision := 1888 } ∧ kA ++ [0] ≠ [] ∧
    cmp (kA ++ [0]) pfxHi = .lt ∧ (1888 : Int) = getPartitionMagic ∧ (0 : Int) < 1 ∧
    getPartitionMagic ≤ (sm3.committed : Int) ∧ sm3.committed < 2 ^ 64 :=
  ⟨sm3_store_abs.1, ⟨rfl, rfl, rfl, rfl, rfl, rfl⟩, by decide, by decide, by decide, by decide,
   by rw [sm3_store_abs.2]; decide, by rw [sm3_store_abs.2]; decide⟩
-- range_matches_ref's `hmagic`: satisfied AT the magic revision by a limited request, and vacuously anywhere else
example : ((({ limit := 2, revision := 1888 } : RangeReq).revision = getPartitionMagic →
      ({ limit := 2, revision := 1888 } : RangeReq).limit ≠ 0 ∨ ({ limit := 2, revision := 1888 } : RangeReq).countOnly = true)) ∧
    (({ revision := 1887 } : RangeReq).revision = getPartitionMagic →
      ({ revision := 1887 } : RangeReq).limit ≠ 0 ∨ ({ revision := 1887 } : RangeReq).countOnly = true) :=
  ⟨fun _ => .inl (by decide), fun h => absurd h (by decide)⟩
-- old_and_new_differ_only_at_magic / unlimited_plain_range_at_magic_is_partition_listing
example : ¬ (({ rangeEnd := pfxHi, revision := 1888 } : RangeReq).revision = 1888 ∧
    (({ rangeEnd := pfxHi, revision := 1888 } : RangeReq).limit ≠ 0 ∨
     ({ rangeEnd := pfxHi, revision := 1888 } : RangeReq).countOnly = true)) := by decide

-- range_succ_bounds_match_ref / count_only_*: a proper interval with low-byte bounds above a non-empty key
example : PlainRange { key := kA ++ [1], rangeEnd := kA ++ [36, 98] } ∧ kA ++ [1] ≠ [] ∧
    cmp (kA ++ [1]) (kA ++ [36, 98]) = .lt ∧ ¬ Alphabet (kA ++ [1]) ∧ ¬ Alphabet (kA ++ [36, 98]) :=
  ⟨⟨rfl, rfl, rfl, rfl, rfl, rfl⟩, by decide, by decide, by decide, by decide⟩

example : kA ≠ [] ∧ m3.kvs.Pairwise (fun a b => a.key ≠ b.key) := by decide
example : (match m3.get kA with | none => (1000 : Nat) ≠ 0 | some e => 1000 ≠ e.mod) := by
  show (1000 : Nat) ≠ 1001
  decide
example : (match m3.get kD with | none => (1000 : Nat) ≠ 0 | some e => 1000 ≠ e.mod) := by
  show (1000 : Nat) ≠ 0
  decide
example : ∃ e, m3.get kA = some e ∧ e.mod ≠ 0 ∧ (0 : Nat) < 1000 ∧ 1000 ≠ e.mod := ⟨_, rfl, by decide, by decide, by decide⟩
example : m3.get kD = none := by decide
example : ∃ r, (shimTxn cfg0 s0 (k8sDelete kA 5)).1 = .ok r ∧ r.ok = false :=
  ⟨{ ok := false, hdr := 1001, resps := [.range 1001 [] 0 false], wrote := false }, by decide +kernel, rfl⟩
example : backendCall (.create { key := kA, val := v1 }) ≠ none ∧
    backendCall (classify (k8sUpdate kA v9 1001 0)) = some (.update kA v9 1001 0) := by decide +kernel

end KB.C16
