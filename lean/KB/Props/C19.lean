/-
  C19 — "Concurrent requests are free of data races" (level: PARTIAL).

  GENERIC (KB.Locks, proved for ALL traces): `lock_discipline_race_free` — in the abstract trace model
  (threads; acquire / release of mutexes and RW-mutexes; sync/atomic operations; plain reads / writes;
  happens-before = program order + write-release → acquire + read-release → write-acquire + atomic → later
  atomic on the same location; lock semantics = mutual exclusion, `WellFormed`, itself derived from an
  operational lock machine, `accepted_wellFormed`), a location whose accesses obey the static discipline
    (A) only sync/atomic accesses, or (B) one common lock held at every access, exclusively at every write,
    or (C) read-only once shared, — each up to thread-confined / pre-publication accesses —
  has no data race in any trace that conforms to the table.
  INSTANCE (finite quantifier: all syntactic accesses to the tracked fields, regenerated from /repo by
  harness/cmd/kbextract/locks.go on every run): **`lock_table_disciplined`** by `decide` — EVERY tracked
  location obeys the discipline — hence `tracked_locations_race_free` for every tracked location.
  History: until the fixes 697fb5c (mutex in the scanner's compaction history), 94d3c25 (atomic leader flag),
  d3cd8cd (mutex around resourceLock.record / tso) and 24436ee (etcd watcher: no `len(w.watches)` after Unlock)
  the instance held only outside five offending locations, each of which the race detector reproduced;
  `lock_table_no_offenders` (`undisciplined lockTable = []`) is the regression guard: reverting any of
  those fixes makes it (and `lock_table_disciplined`) fail, and harness/racetest then reports the race.
  TRUSTED (this is why the level is partial): the extractor's lexical lock analysis and its `Conforms`
  reading (the listed locks really are held, on the same owner object, whenever the access executes);
  the memkv batch protocol's client obligations; thread-confinement / pre-publication claims; the
  abstract memory model (channel, WaitGroup, Once and goroutine-start edges are not modelled: fewer
  happens-before edges than Go, so the model errs towards reporting races); only the tracked fields
  are covered; third-party engines (badger, tikv client) and third-party data structures' internals are
  out of scope (the skip list and container/list are treated as single locations).
-/
import KB.Locks
import KB.Generated.LockTable
namespace KB.C19
open KB.Locks KB.Generated

/-! ### the generic theorem -/

/-- If every non-confined access to a location is atomic, or every such access holds one common lock
(exclusively when writing), or every such access is a read, then no well-formed trace conforming to the
table has a data race on that location. -/
theorem lock_discipline_race_free (tbl : List Access) (tr : Trace)
    (hwf : WellFormed tr) (hc : Conforms tbl tr)
    (x : Loc) (hd : locDisciplined tbl x.field = true) : RaceFreeOn tr x :=
  disciplined_no_race tbl tr hwf hc x hd

/-- whole-table form, with an exception list -/
theorem lock_discipline_race_free_table (tbl : List Access) (except : List Name)
    (hd : tableDisciplinedExcept tbl except = true)
    (tr : Trace) (hwf : WellFormed tr) (hc : Conforms tbl tr)
    (x : Loc) (hx : x.field ∉ except) : RaceFreeOn tr x :=
  table_disciplined_no_race tbl except hd tr hwf hc x hx

/-- the same for traces accepted by the operational lock machine (mutual exclusion is then a theorem,
not a hypothesis) -/
theorem lock_discipline_race_free_operational (tbl : List Access) (except : List Name)
    (hd : tableDisciplinedExcept tbl except = true)
    (tr : Trace) (hacc : Accepted tr) (hc : Conforms tbl tr)
    (x : Loc) (hx : x.field ∉ except) : RaceFreeOn tr x :=
  table_disciplined_no_race tbl except hd tr (accepted_wellFormed tr hacc) hc x hx

/-! ### the instance: the lock table of the current tree -/

/-- every access to a tracked field was classified, every lock expression typed -/
theorem lock_table_resolved : lockTableUnresolved = [] := by decide

/-- every tracked location occurs in the table -/
theorem lock_table_covers : (lockTableLocations.all fun x => (fieldsOf lockTable).contains x) = true := by
  decide +kernel

/-- THE FULL INSTANCE (statement): every tracked location obeys the discipline. -/
def LockTableDisciplined : Prop := tableDisciplined lockTable = true

/-- THE FULL INSTANCE (finite quantifier: all syntactic accesses of the regenerated table): every tracked
location obeys the lock discipline. -/
theorem lock_table_disciplined : LockTableDisciplined := by
  unfold LockTableDisciplined
  decide +kernel

/-- no location violates the discipline: the regression guard for the four fixes named in the header -/
theorem lock_table_no_offenders : undisciplined lockTable = [] :=
  undisciplined_eq_nil_iff.mpr lock_table_disciplined

/-- the discipline holds for each tracked location individually -/
theorem lock_table_each_location : ∀ x ∈ lockTableLocations, locDisciplined lockTable x = true :=
  fun x _ => locDisciplined_of_tableExcept lock_table_disciplined x List.not_mem_nil

/-- C19 for the tracked locations: in every execution (trace accepted by the lock machine) that conforms to
the extracted table, NO location has a data race. -/
theorem tracked_locations_race_free (tr : Trace) (hacc : Accepted tr) (hc : Conforms lockTable tr)
    (x : Loc) : RaceFreeOn tr x :=
  lock_discipline_race_free_operational lockTable [] lock_table_disciplined tr hacc hc x (by simp)

/-! ### satisfiability of the hypotheses, non-vacuity of the conclusion (details in KB.Locks) -/

example : locDisciplined exTbl b!"f" = true ∧ Accepted exTrace ∧ WellFormed exTrace ∧ Conforms exTbl exTrace :=
  ⟨exTbl_disciplined, exTrace_accepted, exTrace_wf, exTrace_conforms⟩
example : RaceFreeOn exTrace exLoc := lock_discipline_race_free exTbl exTrace exTrace_wf exTrace_conforms exLoc exTbl_disciplined
/-- two unlocked plain writes by different threads ARE a race in the model -/
example : RaceOn exBad exLoc 0 1 := exBad_race

end KB.C19
