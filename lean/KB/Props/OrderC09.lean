/-
  Order facts for C09 — statement-order / call-count facts regenerated from the source
  (harness/cmd/kbextract/order.go → KB/Generated/OrderFacts.lean). The models are atomic where the code is
  sequential; these evaluated theorems are the tie for exactly those places: a reordering in the source
  stops them from checking.
-/
import KB.Generated.OrderFacts
namespace KB.OrderC09
open KB.Generated

/-- C09 / C06: the sequencer queues an unknown-outcome write BEFORE it commits that revision (and commits
it exactly once in that branch, never earlier): compaction, which is clamped to the committed revision
and below the oldest queued one, can therefore never pass an unresolved write. -/
theorem sequencer_enqueues_before_commit :
    seqAppendBeforeCommit = true ∧ seqCommitsInInvalidBranch = 1 := by decide

/-- C09: the retry step has its four early `return true` exits (not due / read failed / repair outcome
unknown / repair failed with a storage error) before the head is popped. -/
theorem retry_keeps_head_unless_resolved : retryEarlyReturnsBeforePop = 4 := by decide

/-- C09: the repair waits `RetryInterval` for EVERY entry it examines (the age test sits inside `retry()`, which takes one head
per call, in front of the read): an unknown-outcome commit that lands late - after the answer, within the interval - is found
landed when its entry is looked at, also when an older entry ahead of it has just become due. (The fault oracle of the models
decides "applied / not applied" at the answer; this fact is what makes that a faithful abstraction of an engine whose commit may
still land shortly afterwards.) -/
theorem retry_waits_for_every_entry : retryWaitsForEveryEntry = true := by decide

/-- C09: `Compact` samples the read revision before it asks the retry queue for its oldest unresolved revision.
Together with `seqAppendBeforeCommit` (the sequencer queues an unknown-outcome write before it advances the read
revision) this is why the cap is never missed: a revision the compactor sees as readable has its unresolved
writes already queued when the compactor looks at the queue (the model's compaction step reads both atomically). -/
theorem compact_samples_revision_before_queue : compactSamplesRevisionBeforeQueue = true := by decide

/-- C09: the TiKV adapter classifies as "outcome unknown" (→ reported uncertain, queued for repair) the commit whose
answer was lost (`ErrResultUndetermined`), timeouts and cancellations; the model's fault oracle `uncApplied` /
`uncNotApplied` is what these errors are mapped to. -/
theorem tikv_unknown_outcomes_classified :
    "ErrResultUndetermined" ∈ tikvUncertainErrors ∧ "DeadlineExceeded" ∈ tikvUncertainErrors ∧
    "Canceled" ∈ tikvUncertainErrors ∧ "ErrTiKVServerTimeout" ∈ tikvUncertainErrors := by
  -- the regenerated list is unfolded and its string literals compared by `simp` (the kernel's `String` equality is slow)
  simp [tikvUncertainErrors]

end KB.OrderC09
