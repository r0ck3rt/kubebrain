/-
  C06 — List-then-watch reconstructs the store.
  (1) the pure specification lemma over histories; (2) the sequential backend model refines the
  history: after any sequence of requests the store read at R is the snapshot of the acknowledged
  writes at R and the events handed to watchers are exactly those writes in revision order; hence
  (3) a range read served at R plus the events (R, R'] gives the range read at R'.
  Concurrency is covered by C04 (the header revision is the committed revision, which only advances
  when all smaller revisions are resolved), C01/C02 (per-key chain) and C05 (delivery).
-/
import KB.Lemmas.Hist
namespace KB.C06
open KB Generated

/-- A history as the spec sees it: strictly increasing revisions. -/
def HistSorted (h : List HWrite) : Prop := h.Pairwise (fun a b => a.rev < b.rev)

/-- Specification lemma: applying the events (R, R'] to the snapshot at R yields the snapshot at R'. -/
theorem apply_events_snapshot (h : List HWrite) (hs : HistSorted h) (R R' : Nat) (hR : R ≤ R') :
    (eventsBetween h (R + 1) R').foldl Snap.apply (snapshotAt h R) = snapshotAt h R' := by
  unfold snapshotAt eventsBetween
  rw [filter_rev_split h hs R R' hR, List.foldl_append]

/-- Restricting to a key range commutes with applying events: a client that lists `[a, b)` and
watches the same range reconstructs exactly the range at R'. -/
theorem apply_events_range (h : List HWrite) (hs : HistSorted h) (R R' : Nat) (hR : R ≤ R') (p : Bytes → Bool) :
    ((eventsBetween h (R + 1) R').filter (fun w => p w.key)).foldl Snap.apply
        ((snapshotAt h R).filter (fun e => p e.1)) =
      (snapshotAt h R').filter (fun e => p e.1) := by
  rw [foldl_apply_filter, apply_events_snapshot h hs R R' hR]

/-- Sequential client requests (no storage faults). -/
inductive Op where
  | create (k v : Bytes)
  | update (k v : Bytes) (exp : Nat)
  | delete (k : Bytes) (exp : Nat)
  deriving Repr, DecidableEq

def Op.key : Op → Bytes
  | .create k _ => k
  | .update k _ _ => k
  | .delete k _ => k

/-- Run one request; record the write in the history iff it was acknowledged as successful. -/
def runOp (c : Cfg) (sh : BState × List HWrite) (op : Op) : BState × List HWrite :=
  match op with
  | .create k v =>
    match doCreate c sh.1 k v [] with
    | (.ok rev, s') => (s', sh.2 ++ [{ key := k, rev := rev, val := some v }])
    | (_, s') => (s', sh.2)
  | .update k v e =>
    match doUpdate c sh.1 k v e [] with
    | (.ok rev, s') => (s', sh.2 ++ [{ key := k, rev := rev, val := some v }])
    | (_, s') => (s', sh.2)
  | .delete k e =>
    match doDelete c sh.1 k e [] with
    | (.ok rev, s') => (s', sh.2 ++ [{ key := k, rev := rev, val := none }])
    | (_, s') => (s', sh.2)

def runOps (c : Cfg) (s0 : BState) (ops : List Op) : BState × List HWrite := ops.foldl (runOp c) (s0, [])

/-- Well-formed requests: keys over the alphabet, values that are not the reserved deletion marker. -/
def OpsOK (ops : List Op) : Prop :=
  ∀ op ∈ ops, Alphabet op.key ∧ (∀ k v, op = .create k v → v ≠ tombstone) ∧ (∀ k v e, op = .update k v e → v ≠ tombstone)

/-- An empty backend whose revision counter starts at `init`. -/
def fresh (init cache : Nat) : BState := { ring := Ring.new cache, dealt := init, committed := init }

/-! Bridge to `KB.Lemmas.Hist`: every request is one `HStep`, so a request sequence is a `Run`. -/

/-- the value a request writes (`none` = deletion) -/
def Op.val : Op → Option Bytes
  | .create _ v => some v
  | .update _ v _ => some v
  | .delete _ _ => none

theorem runOp_step (c : Cfg) (sh : BState × List HWrite) (op : Op) :
    HStep sh (runOp c sh op) op.key op.val := by
  cases op with
  | create k v => exact doCreate_step c sh.1 sh.2 k v
  | update k v e => exact doUpdate_step c sh.1 sh.2 k v e
  | delete k e => exact doDelete_step c sh.1 sh.2 k e

theorem run_foldl (c : Cfg) (init cache : Nat) (ops : List Op) (hok : OpsOK ops) (n : Nat)
    (sh : BState × List HWrite) (hr : Run init cache n sh) :
    Run init cache (n + ops.length) (ops.foldl (runOp c) sh) := by
  induction ops generalizing n sh with
  | nil => exact hr
  | cons op ops ih =>
    have hop := hok op (List.mem_cons_self ..)
    have hv : op.val ≠ some tombstone := by
      cases op with
      | create k v => intro h; cases h; exact hop.2.1 k _ rfl rfl
      | update k v e => intro h; cases h; exact hop.2.2 k _ e rfl rfl
      | delete k e => intro h; cases h
    have := ih (fun o ho => hok o (List.mem_cons_of_mem _ ho)) (n + 1) (runOp c sh op)
      (.step hr (runOp_step c sh op) hop.1 hv)
    simp only [List.foldl_cons, List.length_cons]
    rw [show n + (ops.length + 1) = n + 1 + ops.length by omega]
    exact this

theorem run_runOps (c : Cfg) (init cache : Nat) (ops : List Op) (hok : OpsOK ops) :
    Run init cache ops.length (runOps c (fresh init cache) ops) := by
  have := run_foldl c init cache ops hok 0 (fresh init cache, []) .zero
  simpa [runOps] using this

/-- The history of acknowledged writes is sorted by revision, and the committed revision has caught up. -/
theorem hist_sorted (c : Cfg) (init cache : Nat) (ops : List Op) (hok : OpsOK ops)
    (hb : init + ops.length < 2 ^ 64) :
    HistSorted (runOps c (fresh init cache) ops).2 ∧
    (runOps c (fresh init cache) ops).1.committed = init + ops.length := by
  have _ := hb
  have hr := (run_runOps c init cache ops hok).basic
  exact ⟨hr.2.2.1, hr.2.1⟩

/-- Store refines history: a point read at any revision R (init ≤ R) returns exactly what the
snapshot of the acknowledged writes at R holds for that key. -/
theorem store_refines_history (c : Cfg) (init cache : Nat) (ops : List Op) (hok : OpsOK ops)
    (hb : init + ops.length < 2 ^ 64) (k : Bytes) (hk : Alphabet k) (R : Nat) (hR : 0 < R) (hR2 : R < 2 ^ 64) :
    let sh := runOps c (fresh init cache) ops
    (match bget c sh.1.store k R with
     | .found v m => some (v, m)
     | .notFound _ => none) = (snapshotAt sh.2 R).get k := by
  intro sh
  exact (run_runOps c init cache ops hok).read hb c k hk R hR hR2

/-- One event per acknowledged write, same revision as the stored version, in revision order:
the events handed to the watch cache are exactly the history. -/
theorem events_are_history (c : Cfg) (init cache : Nat) (hcache : 0 < cache) (ops : List Op) (hok : OpsOK ops)
    (hb : init + ops.length < 2 ^ 64) (hfit : ops.length ≤ cache) :
    let sh := runOps c (fresh init cache) ops
    sh.1.ring.window.map (fun e => (e.rev, e.key)) = sh.2.map (fun w => (w.rev, w.key)) ∧
    (∀ e ∈ sh.1.ring.window, ∀ w ∈ sh.2, e.rev = w.rev →
        (w.val = none ↔ e.verb = .delete) ∧ (∀ v, w.val = some v → e.val = v)) := by
  have _ := hb; have _ := hcache
  exact (run_runOps c init cache ops hok).events hfit

end KB.C06
