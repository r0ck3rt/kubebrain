/-
  C20 (native handler part) — the glue of the native gRPC API (pkg/server/brain/read.go, write.go) neither
  crashes on any request shape nor changes what the backend answers.
  Model: KB.Native (`nativeStep` = validation → deadline / role guard → the backend model's function, answer handed
  on unchanged), tied to the REAL handlers by the differential suite `native` (kbcheck/native.py).
  Statements: (i) a refused request leaves the backend state untouched and is answered with an error, and the
  refusals come in the handlers' order; (ii) an accepted request is answered exactly by the backend model, on the
  same state (a follower's read: on the state with the leader's revision installed); (iii) the header/data clause of
  C02 holds of every native response; (iv) every request shape is answered, and no panic outcome is introduced by the
  handler layer — the one panic the backend has on a request SHAPE (nil Kv, txn.go:217) is cut off by validation
  (the request part of C20 is KB.Props.C20Requests: hostile revisions, `Decode` on stored keys).
-/
import KB.Native
import KB.Props.C02
import KB.Lemmas.EtcdShape
namespace KB.C20Native

/-! ### (iv) every request shape is answered: a refusal, or the backend's answer -/

/-- Totality with content: whatever the request (empty fields, nil Kv, zero or huge revisions), the role, the
deadline and the reachability of the leader, the handler's answer is EITHER its own refusal with the state
untouched OR exactly what the backend answers on the state the call runs on. -/
theorem validate_total (c : Cfg) (env : NativeEnv) (s : BState) (r : NativeReq) :
    (∃ x, guard env r = some x ∧ nativeStep c env s r = (.refused x, s)) ∨
    (guard env r = none ∧ nativeStep c env s r = backendStep c env (preState env s r) r) := by
  unfold nativeStep
  cases h : guard env r with
  | some x => exact .inl ⟨x, rfl, rfl⟩
  | none => exact .inr ⟨rfl, rfl⟩

/-- the guards let a request through only if it passed validation -/
theorem guard_none_valid (env : NativeEnv) (r : NativeReq) (h : guard env r = none) : validate r = none := by
  unfold guard at h
  cases hv : validate r with
  | none => rfl
  | some e => rw [hv] at h; cases h

/-- validation cuts off the nil Kv -/
theorem nil_kv_invalid : validate (.update none) = some .invalid := rfl

/-- The nil-Kv request would crash the backend call (`r.Kv.Key`, txn.go:217); through the handler it is refused,
whatever the role and the deadline, and nothing is touched. -/
theorem nil_kv_never_reaches_backend (c : Cfg) (env : NativeEnv) (s : BState) :
    (backendStep c env s (.update none)).1.panics = true ∧
    nativeStep c env s (.update none) = (.refused .invalid, s) := ⟨rfl, rfl⟩

theorem backendStep_create (c : Cfg) (env : NativeEnv) (s : BState) (k v : Bytes) :
    ∃ w, (backendStep c env s (.create k v)).1 = .write w ∧ (w = .error .other ∨ w = (doCreate c s k v env.faults).1) := by
  cases hv : v.isEmpty
  · exact ⟨_, by simp only [backendStep, hv]; rfl, .inr rfl⟩
  · exact ⟨_, by simp only [backendStep, hv]; rfl, .inl rfl⟩

theorem backendStep_update (c : Cfg) (env : NativeEnv) (s : BState) (k v : Bytes) (e : Nat) :
    ∃ w, (backendStep c env s (.update (some (k, v, e)))).1 = .write w ∧
      (w = .error .other ∨ w = (doUpdate c s k v e env.faults).1) := by
  cases hv : v.isEmpty
  · exact ⟨_, by simp only [backendStep, hv]; rfl, .inr rfl⟩
  · exact ⟨_, by simp only [backendStep, hv]; rfl, .inl rfl⟩

/-- the backend model answers a request with a Kv without the nil-dereference outcome -/
theorem backendStep_ne_panic (c : Cfg) (env : NativeEnv) (s : BState) (r : NativeReq) (h : r ≠ .update none) :
    (backendStep c env s r).1 ≠ .panic := by
  cases r with
  | update kv =>
    cases kv with
    | none => exact absurd rfl h
    | some x =>
      obtain ⟨w, hw, _⟩ := backendStep_update c env s x.1 x.2.1 x.2.2
      rw [hw]; simp
  | create k v =>
    obtain ⟨w, hw, _⟩ := backendStep_create c env s k v
    rw [hw]; simp
  | _ => simp [backendStep]

/-- No panic outcome is introduced by the handler layer: the nil dereference is never an answer, … -/
theorem shim_answers_without_nil_deref (c : Cfg) (env : NativeEnv) (s : BState) (r : NativeReq) :
    (nativeStep c env s r).1 ≠ .panic := by
  rcases validate_total c env s r with ⟨x, _, h⟩ | ⟨hg, h⟩
  · rw [h]; simp
  · rw [h]
    apply backendStep_ne_panic
    intro hr
    have := guard_none_valid env r hg
    rw [hr] at this
    cases this

/-- … and whenever a native answer is a panic at all, the request had passed validation and the panic is the
backend model's own answer (`ScanRes.panic`) to that very call. Since /repo 5ace897 no key and no partition border
makes `Decode` index out of range (`C10.decode_never_panics`, `C20Requests.list_never_panics`); the only panic left in
the backend model is a compaction's TTL pass on a revision record shorter than 8 bytes, which the backend never
writes. -/
theorem shim_adds_no_panic (c : Cfg) (env : NativeEnv) (s : BState) (r : NativeReq)
    (h : (nativeStep c env s r).1.panics = true) :
    validate r = none ∧ r ≠ .update none ∧ (backendStep c env (preState env s r) r).1.panics = true := by
  rcases validate_total c env s r with ⟨x, _, hx⟩ | ⟨hg, hb⟩
  · rw [hx] at h; cases h
  · have hv := guard_none_valid env r hg
    refine ⟨hv, ?_, ?_⟩
    · intro hr; rw [hr] at hv; cases hv
    · rw [← hb]; exact h

theorem deadlineChecked_of_read {r : NativeReq} (h : r.isWrite = false) : r.deadlineChecked = false := by
  cases r <;> first | rfl | cases h

theorem backendStep_read_state (c : Cfg) (env : NativeEnv) (s : BState) {r : NativeReq} (h : r.isWrite = false) :
    (backendStep c env s r).2 = s := by
  cases r <;> first | rfl | cases h

/-! ### (i) refused requests -/

/-- Validation comes first: an invalid request is refused as invalid whatever the role, the deadline and the leader's
reachability. -/
theorem invalid_refused_first (c : Cfg) (env : NativeEnv) (s : BState) (r : NativeReq) (h : validate r ≠ none) :
    nativeStep c env s r = (.refused .invalid, s) := by
  unfold nativeStep guard
  cases hv : validate r with
  | none => exact absurd hv h
  | some e => rfl

/-- Then the deadline (Create / Update / Delete only), before the role is looked at. -/
theorem expired_refused_second (c : Cfg) (env : NativeEnv) (s : BState) (r : NativeReq) (hv : validate r = none)
    (hd : r.deadlineChecked = true) (he : env.expired = true) :
    nativeStep c env s r = (.refused .deadline, s) := by
  unfold nativeStep guard
  simp [hv, hd, he]

/-- Then the role: a follower refuses every write … -/
theorem follower_refuses_write (c : Cfg) (env : NativeEnv) (s : BState) (r : NativeReq) (hv : validate r = none)
    (hd : r.deadlineChecked = true → env.expired = false) (hw : r.isWrite = true) (hf : env.leader = false) :
    nativeStep c env s r = (.refused .notLeader, s) := by
  unfold nativeStep guard
  cases hdc : r.deadlineChecked with
  | false => simp [hv, hw, hf]
  | true => simp [hv, hd hdc, hw, hf]

/-- … and fails a read when it cannot learn the leader's revision. -/
theorem follower_read_fails_without_leader (c : Cfg) (env : NativeEnv) (s : BState) (r : NativeReq)
    (hv : validate r = none) (hw : r.isWrite = false) (hf : env.leader = false) (hn : env.leaderRev = none) :
    nativeStep c env s r = (.refused .syncFail, s) := by
  unfold nativeStep guard
  simp [hv, deadlineChecked_of_read hw, hw, hf, hn]

/-- (i) A request that fails validation, or carries an expired deadline (Create / Update / Delete), or is a write
arriving at a follower, or is a read at a follower that cannot reach its leader, leaves the backend state
unchanged and is answered with an error. -/
theorem refused_requests_do_not_touch_state (c : Cfg) (env : NativeEnv) (s : BState) (r : NativeReq)
    (h : validate r ≠ none ∨ (r.deadlineChecked = true ∧ env.expired = true) ∨
         (r.isWrite = true ∧ env.leader = false) ∨
         (r.isWrite = false ∧ env.leader = false ∧ env.leaderRev = none)) :
    (nativeStep c env s r).2 = s ∧ ∃ x, (nativeStep c env s r).1 = .refused x := by
  by_cases hv : validate r = none
  · rcases h with h | ⟨hd, he⟩ | ⟨hw, hf⟩ | ⟨hw, hf, hn⟩
    · exact absurd hv h
    · rw [expired_refused_second c env s r hv hd he]; exact ⟨rfl, _, rfl⟩
    · by_cases hx : r.deadlineChecked = true ∧ env.expired = true
      · rw [expired_refused_second c env s r hv hx.1 hx.2]; exact ⟨rfl, _, rfl⟩
      · have hd : r.deadlineChecked = true → env.expired = false := by
          intro hdc
          cases he : env.expired with
          | false => rfl
          | true => exact absurd ⟨hdc, he⟩ hx
        rw [follower_refuses_write c env s r hv hd hw hf]; exact ⟨rfl, _, rfl⟩
    · rw [follower_read_fails_without_leader c env s r hv hw hf hn]; exact ⟨rfl, _, rfl⟩
  · rw [invalid_refused_first c env s r hv]; exact ⟨rfl, _, rfl⟩

/-- Conversely the handler layer refuses ONLY for those reasons: a refusal is never invented for a valid request of a
leader within its deadline (the backend model's own errors are `.write (.error _)`, `.list (.error _)`, …, never
`.refused`). -/
theorem refused_only_for_a_reason (c : Cfg) (env : NativeEnv) (s : BState) (r : NativeReq) (x : Refusal)
    (h : (nativeStep c env s r).1 = .refused x) :
    validate r ≠ none ∨ (r.deadlineChecked = true ∧ env.expired = true) ∨ env.leader = false := by
  rcases validate_total c env s r with ⟨y, hg, _⟩ | ⟨_, hb⟩
  · unfold guard at hg
    cases hv : validate r with
    | some e => exact .inl (by simp)
    | none =>
      rw [hv] at hg
      simp only at hg
      by_cases hx : (r.deadlineChecked && env.expired) = true
      · exact .inr (.inl (by simpa using hx))
      · cases hl : env.leader with
        | false => exact .inr (.inr rfl)
        | true => simp [hx, hl] at hg
  · rw [hb] at h
    cases r with
    | update kv =>
      cases kv with
      | none => simp [backendStep] at h
      | some y =>
        obtain ⟨w, hw, _⟩ := backendStep_update c env (preState env s (.update (some y))) y.1 y.2.1 y.2.2
        rw [hw] at h; cases h
    | create k v =>
      obtain ⟨w, hw, _⟩ := backendStep_create c env (preState env s (.create k v)) k v
      rw [hw] at h; cases h
    | _ => simp [backendStep] at h

/-- A follower never applies a write (the C18 clause, at the native handlers). -/
theorem follower_never_writes (c : Cfg) (env : NativeEnv) (s : BState) (r : NativeReq)
    (hw : r.isWrite = true) (hf : env.leader = false) :
    (nativeStep c env s r).2 = s ∧ (nativeStep c env s r).1.isRefused = true := by
  obtain ⟨h1, x, h2⟩ := refused_requests_do_not_touch_state c env s r (.inr (.inr (.inl ⟨hw, hf⟩)))
  exact ⟨h1, by rw [h2]; rfl⟩

/-! ### (ii) accepted requests -/

/-- (ii) For a valid request at the leader (within its deadline) the answer and the new state are exactly the
backend's. -/
theorem accepted_is_backend (c : Cfg) (env : NativeEnv) (s : BState) (r : NativeReq) (hv : validate r = none)
    (hl : env.leader = true) (hd : r.deadlineChecked = true → env.expired = false) :
    nativeStep c env s r = backendStep c env s r := by
  have hp : preState env s r = s := by simp [preState, hl]
  unfold nativeStep guard
  cases hdc : r.deadlineChecked with
  | false => simp [hv, hl, hp]
  | true => simp [hv, hd hdc, hl, hp]

/-- … and for a valid request the backend's answer is the backend MODEL's function of KB.Backend itself (the two
shape guards of `backendStep` — empty value, nil Kv — are not taken). -/
theorem valid_backend_is_model (c : Cfg) (env : NativeEnv) (s : BState) (r : NativeReq) (hv : validate r = none) :
    backendStep c env s r =
      match r with
      | .create k v => ((.write (doCreate c s k v env.faults).1), (doCreate c s k v env.faults).2)
      | .update (some (k, v, e)) => ((.write (doUpdate c s k v e env.faults).1), (doUpdate c s k v e env.faults).2)
      | .update none => (.panic, s)
      | .delete k e => ((.write (doDelete c s k e env.faults).1), (doDelete c s k e env.faults).2)
      | .compact n => ((.compact (doCompact c s n env.mask).1), (doCompact c s n env.mask).2)
      | .get k n => (.get (doGet c s k n).1 (doGet c s k n).2, s)
      | .range k e n l => (.list (doList c s k e n l), s)
      | .count k e => (.count (doCount c s k e), s)
      | .parts k e => (.parts (doPartitions c k e), s)
      | .stream k e n => (.stream (doStream c s k e n), s) := by
  cases r with
  | create k v =>
    have : v.isEmpty = false := by
      cases hve : v.isEmpty with
      | false => rfl
      | true => simp [validate, hve] at hv
    simp [backendStep, this]
  | update kv =>
    cases kv with
    | none => rfl
    | some x =>
      obtain ⟨k, v, e⟩ := x
      have : v.isEmpty = false := by
        cases hve : v.isEmpty with
        | false => rfl
        | true => simp [validate, hve] at hv
      simp [backendStep, this]
  | _ => rfl

/-- A follower that reaches its leader serves a valid read from the backend after installing the leader's revision;
the read itself changes nothing further. -/
theorem follower_read_is_backend_at_leader_revision (c : Cfg) (env : NativeEnv) (s : BState) (r : NativeReq)
    (hv : validate r = none) (hw : r.isWrite = false) (hf : env.leader = false) (n : Nat)
    (hn : env.leaderRev = some n) :
    nativeStep c env s r = backendStep c env (setRev s n) r ∧ (nativeStep c env s r).2 = setRev s n := by
  have hp : preState env s r = setRev s n := by simp [preState, hw, hf, hn]
  have h1 : nativeStep c env s r = backendStep c env (setRev s n) r := by
    unfold nativeStep guard
    simp [hv, deadlineChecked_of_read hw, hw, hf, hn, hp]
  exact ⟨h1, by rw [h1, backendStep_read_state c env _ hw]⟩

/-- The leader's reads leave the backend state alone. -/
theorem leader_read_keeps_state (c : Cfg) (env : NativeEnv) (s : BState) (r : NativeReq)
    (hw : r.isWrite = false) (hl : env.leader = true) : (nativeStep c env s r).2 = s := by
  have hp : preState env s r = s := by simp [preState, hl]
  rcases validate_total c env s r with ⟨x, _, hx⟩ | ⟨_, hb⟩
  · rw [hx]
  · rw [hb, hp, backendStep_read_state c env s hw]

/-! ### (iii) header ≥ data on native responses (lifting of C02 `get_header_ge_data`, `list_header_ge_data` and of the
failure-path clause `doUpdate_failed_kv` / `doDelete_failed_kv`) -/

theorem backend_header_ge_data (c : Cfg) (env : NativeEnv) (s : BState) (r : NativeReq) :
    (∀ hdr k v m, (backendStep c env s r).1 = .get hdr (some (k, v, m)) → m ≤ hdr) ∧
    (∀ res, (backendStep c env s r).1 = .list (.ok res) → ∀ kv ∈ res.kvs, kv.2.2 ≤ res.hdr) ∧
    (∀ hdr kv, (backendStep c env s r).1 = .write (.condFailed hdr (some kv)) → kv.2.2 ≤ hdr) := by
  -- an answer of another kind than the clause speaks of: the hypothesis equates two constructors
  cases r with
  | create k v =>
    obtain ⟨w, hw, hc⟩ := backendStep_create c env s k v
    rw [hw]
    refine ⟨nofun, nofun, fun hdr kv h => ?_⟩
    rcases hc with rfl | rfl
    · cases h
    · exact Etcd.doCreate_failed_kv c s k v env.faults hdr kv (NativeAns.write.inj h)
  | update kv =>
    cases kv with
    | none => exact ⟨nofun, nofun, nofun⟩
    | some x =>
      obtain ⟨w, hw, hc⟩ := backendStep_update c env s x.1 x.2.1 x.2.2
      rw [hw]
      refine ⟨nofun, nofun, fun hdr kv h => ?_⟩
      rcases hc with rfl | rfl
      · cases h
      · exact Etcd.doUpdate_failed_kv c s x.1 x.2.1 x.2.2 env.faults hdr kv (NativeAns.write.inj h)
  | delete k e =>
    refine ⟨nofun, nofun, fun hdr kv h => ?_⟩
    exact Etcd.doDelete_failed_kv c s k e env.faults hdr kv (NativeAns.write.inj h)
  | get k n =>
    refine ⟨fun hdr k' v' m h => ?_, nofun, nofun⟩
    obtain ⟨h1, h2⟩ := NativeAns.get.inj h
    rw [← h1]
    exact C02.get_header_ge_data c s k n k' v' m h2
  | range k e n l =>
    refine ⟨nofun, fun res h => ?_, nofun⟩
    exact C02.list_header_ge_data c s k e n l res (NativeAns.list.inj h)
  | _ => exact ⟨nofun, nofun, nofun⟩

/-- (iii) Every native response satisfies the header/data clause of C02: a point read's header is at least the
revision of the kv it carries, a range response's header is at least the revision of every kv in it, and a failed
conditional write's header is at least the revision of the current kv it reports — at the leader and at a follower. -/
theorem native_header_ge_data (c : Cfg) (env : NativeEnv) (s : BState) (r : NativeReq) :
    (∀ hdr k v m, (nativeStep c env s r).1 = .get hdr (some (k, v, m)) → m ≤ hdr) ∧
    (∀ res, (nativeStep c env s r).1 = .list (.ok res) → ∀ kv ∈ res.kvs, kv.2.2 ≤ res.hdr) ∧
    (∀ hdr kv, (nativeStep c env s r).1 = .write (.condFailed hdr (some kv)) → kv.2.2 ≤ hdr) := by
  rcases validate_total c env s r with ⟨x, _, hx⟩ | ⟨_, hb⟩
  · rw [hx]
    exact ⟨nofun, nofun, nofun⟩
  · rw [hb]; exact backend_header_ge_data c env (preState env s r) r

theorem doDelete_ok_gt {c : Cfg} {s : BState} {k : Bytes} {e : Nat} {fs : List Fault} {rev : Nat} {v : Bytes} {m : Nat}
    (h : (doDelete c s k e fs).1 = .ok rev) (hf : bget c s.store k 0 = .found v m) : m < rev := by
  revert h
  unfold doDelete
  rw [hf]
  -- every way out but the successful commit answers something else than `ok`
  refine iteInduction (motive := fun x : WriteRes × BState => x.1 = .ok rev → m < rev) (fun _ => ?_) fun _ => ?_
  · exact nofun
  refine iteInduction (motive := fun x : WriteRes × BState => x.1 = .ok rev → m < rev) (fun _ => ?_) fun _ => ?_
  · simp only []
    split <;> exact nofun
  refine iteInduction (motive := fun x : WriteRes × BState => x.1 = .ok rev → m < rev) (fun _ => ?_) fun hlt => ?_
  · exact nofun
  generalize nextFault fs = nf
  obtain ⟨f, _⟩ := nf
  simp only []
  generalize doCommit c _ _ f = q
  obtain ⟨r, st⟩ := q
  cases r with
  | ok => intro h; cases h; omega
  | conflict i cv => simp only []; split <;> exact nofun
  | _ => exact nofun

/-- A successful native delete answers with a header strictly above the revision of the previous kv it carries. -/
theorem native_delete_header_gt_prev (c : Cfg) (env : NativeEnv) (s : BState) (k : Bytes) (e rev : Nat) (v : Bytes)
    (m : Nat) (h : (nativeStep c env s (.delete k e)).1 = .write (.ok rev))
    (hf : bget c s.store k 0 = .found v m) : m < rev := by
  rcases validate_total c env s (.delete k e) with ⟨x, _, hx⟩ | ⟨_, hb⟩
  · rw [hx] at h; cases h
  · have hp : preState env s (.delete k e) = s := rfl
    rw [hb, hp] at h
    exact doDelete_ok_gt (NativeAns.write.inj h) hf

/-! ### hostile revisions through the native API (lifting of the drift rejection used by C20Requests) -/

/-- A guarded native update whose expected revision is at or above the revision it would be dealt (far-future values,
`2^64-1`, …) takes the rejection path: the leader answers the drift error, nothing else. -/
theorem native_far_future_update_rejected (c : Cfg) (env : NativeEnv) (s : BState) (k v : Bytes) (exp : Nat)
    (hk : k ≠ []) (hv : v ≠ []) (hl : env.leader = true) (he : env.expired = false) (hfs : env.faults = [])
    (hgt : s.dealt + 1 ≤ exp) :
    (nativeStep c env s (.update (some (k, v, exp)))).1 = .write (.error .drift) := by
  have hvalid : validate (.update (some (k, v, exp))) = none := by
    cases k with
    | nil => exact absurd rfl hk
    | cons a as =>
      cases v with
      | nil => exact absurd rfl hv
      | cons b bs => rfl
  rw [accepted_is_backend c env s _ hvalid hl (fun _ => he), valid_backend_is_model c env s _ hvalid]
  simp only [hfs]
  exact congrArg NativeAns.write (Etcd.doUpdate_drift c s k v exp hgt)

/-! ### Non-vacuity: the hypotheses of every implication above are satisfiable, and the conclusions have content -/

def exCfg : Cfg := {}
def exState : BState := { ring := Ring.new 4, dealt := 1000, committed := 1000 }
def follower : NativeEnv := { leader := false }
def followerWithLeader : NativeEnv := { leader := false, leaderRev := some 1500 }
def lateLeader : NativeEnv := { expired := true }

-- validate_total / refused_requests_do_not_touch_state: each disjunct
example : validate (.create [] [1]) ≠ none := by decide
example : validate (.update none) ≠ none := by decide
example : validate (.compact 0) ≠ none := by decide
example : validate (.range [47] [] 0 0) ≠ none := by decide
example : (NativeReq.create [47] [1]).deadlineChecked = true ∧ lateLeader.expired = true := by decide
example : (NativeReq.delete [47] 0).isWrite = true ∧ follower.leader = false := by decide
example : (NativeReq.get [47] 0).isWrite = false ∧ follower.leader = false ∧ follower.leaderRev = none := by decide
-- the refusals of the four kinds, each with the state returned as it was
example : (nativeStep exCfg {} exState (.create [47] [])).1.isRefused = true := by decide
example : (nativeStep exCfg lateLeader exState (.create [47] [1])).1.isRefused = true := by decide
example : (nativeStep exCfg follower exState (.compact 5)).1.isRefused = true := by decide
example : (nativeStep exCfg follower exState (.count [47] [48])).1.isRefused = true := by decide
-- invalid + expired + follower at once: validation answers
example : validate (.create [] []) ≠ none := by decide
-- expired_refused_second / follower_refuses_write / follower_read_fails_without_leader
example : validate (.create [47] [1]) = none ∧ (NativeReq.create [47] [1]).deadlineChecked = true ∧
    lateLeader.expired = true := by decide
example : validate (.compact 7) = none ∧ ((NativeReq.compact 7).deadlineChecked = true → lateLeader.expired = false) ∧
    (NativeReq.compact 7).isWrite = true := by decide
example : validate (.stream [47] [48] 0) = none ∧ (NativeReq.stream [47] [48] 0).isWrite = false := by decide
-- accepted_is_backend / valid_backend_is_model: a valid create at the leader is answered by doCreate and changes the state
example : validate (.create [47, 97] [1]) = none ∧ ({} : NativeEnv).leader = true ∧
    ((NativeReq.create [47, 97] [1]).deadlineChecked = true → ({} : NativeEnv).expired = false) := by decide
example : (nativeStep exCfg {} exState (.create [47, 97] [1])).2.dealt = 1001 := by decide
example : (nativeStep exCfg {} exState (.create [47, 97] [1])).2.committed = 1001 := by decide
-- an expired Compact is NOT refused by the handler (no deadline check there)
example : (nativeStep exCfg lateLeader exState (.compact 7)).1.isRefused = false := by decide
-- follower_read_is_backend_at_leader_revision: the leader's revision is installed, the header follows it
example : validate (.get [47, 97] 0) = none ∧ (NativeReq.get [47, 97] 0).isWrite = false ∧
    followerWithLeader.leader = false ∧ followerWithLeader.leaderRev = some 1500 := by decide
example : (nativeStep exCfg followerWithLeader exState (.get [47, 97] 0)).2.committed = 1500 := by decide
-- refused_only_for_a_reason / shim_adds_no_panic: premises occur
example : ∃ x, (nativeStep exCfg follower exState (.delete [47] 0)).1 = .refused x := ⟨_, rfl⟩
/-- a backend-model panic does pass through unchanged — the premise of `shim_adds_no_panic` is satisfiable. Since
/repo 5ace897 `Decode` reports a short key instead of indexing out of range, so a short key planted in the store no
longer does it (`short_key_no_longer_panics`); what is left in the backend model is the TTL pass of a compaction on an
engine without native TTL reading the 8-byte revision of an Event's revision record (`binary.BigEndian.Uint64` on a
value shorter than 8 bytes — a value the backend never writes: C10 `parseRevision_*`). -/
def ttlCfg : Cfg := { q := Quirks.tikv, pfx := [47, 114], ttl := 1 }
def badStore : BState :=
  { ring := Ring.new 4, dealt := 1000, committed := 1000, marks := [(900, 0)], now := 10,
    store := [(encode [47, 114, 47, 101, 118, 101, 110, 116, 115, 47, 120] 0, [1])] }
example : (nativeStep ttlCfg {} badStore (.compact 950)).1.panics = true := by decide
/-- a store holding an internal key shorter than the header (on which the `Decode` of before /repo 5ace897 indexed out of
range) -/
def shortKeyStore : BState := { exState with store := [([87, 251, 128, 139, 2], [1])] }
theorem short_key_no_longer_panics :
    (nativeStep exCfg {} shortKeyStore (.range [1] [255] 0 0)).1.panics = false := by decide
-- native_header_ge_data: a read that carries data, a failed guarded update that carries the current kv
def afterCreate : BState := (nativeStep exCfg {} exState (.create [47, 97] [1])).2
example : (nativeStep exCfg {} afterCreate (.get [47, 97] 0)).1 = .get 1001 (some ([47, 97], [1], 1001)) := rfl
set_option maxRecDepth 8000 in
example : (match (nativeStep exCfg {} afterCreate (.range [47] [48] 0 0)).1 with
    | .list (.ok res) => res.kvs == [([47, 97], [1], 1001)] && res.hdr == 1001
    | _ => false) = true := by decide
set_option maxRecDepth 8000 in
example : (nativeStep exCfg {} afterCreate (.update (some ([47, 97], [2], 7)))).1 =
    .write (.condFailed 1002 (some ([47, 97], [1], 1001))) := rfl
-- native_delete_header_gt_prev
set_option maxRecDepth 8000 in
example : (nativeStep exCfg {} afterCreate (.delete [47, 97] 0)).1 = .write (.ok 1002) ∧
    bget exCfg afterCreate.store [47, 97] 0 = .found [1] 1001 := ⟨rfl, rfl⟩
-- native_far_future_update_rejected
example : exState.dealt + 1 ≤ 2 ^ 64 - 1 := by decide

end KB.C20Native
