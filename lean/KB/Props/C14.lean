/-
  C14 — the leader lock is taken by at most one candidate per observed state.

  Model: KB.Election (`resourceLock` of /repo/pkg/backend/election/election.go over `KB.commit`).
  All theorems hold for EVERY engine contract `c.q : Quirks` (memkv, badger, tikv, pre-fix tikv), for
  ANY number of candidates (indexed by `Nat`), for ALL schedules (`List Step` = an interleaving of the
  candidates' get / create / update calls) and from ANY initial state; `e ∈ trace c st sched` ranges
  over every executed step of the schedule with the states around it.

  A candidate's "last read record" is `lastVal`; the CAS of `Update` expects `expected cd =
  lastVal.getD []` (Go passes the possibly-nil slice). On well-formed states (`WF`: initialised
  candidates have a non-nil `lastVal`; true of fresh locks, preserved by all steps) the two coincide,
  which the `_wf` versions state.
-/
import KB.Election
import KB.Lemmas.Election
namespace KB.C14
open KB.Election

/-! ### update: only if the record is still what the candidate last read -/

/-- A successful `Update` by candidate `i` happened on a record equal to the bytes `i` remembered
(`expected` = its `lastVal`), `i` was initialised, the record becomes what it wrote, and its
`lastVal` is NOT refreshed. -/
theorem update_only_if_unchanged (c : Cfg) (st : State) (sched : List Step) (e : Entry)
    (he : e ∈ trace c st sched) (i : Nat) (rec : Bytes) (hs : e.step = .update i rec)
    (hok : e.out = .ok) :
    (e.pre.cands i).tso ≠ 0 ∧ stored c e.pre = some (expected (e.pre.cands i)) ∧
    stored c e.post = some rec ∧ (e.post.cands i).lastVal = (e.pre.cands i).lastVal := by
  obtain ⟨ho, hp⟩ := trace_mem c st sched e he
  rw [hs] at ho hp
  obtain ⟨ht, hst, u⟩ := update_ok (ho ▸ hok)
  rw [hp, step, u]
  exact ⟨ht, hst, stored_written .., by simp [written, setCand]⟩

/-- On runs from a well-formed state: the stored record at that moment IS the candidate's `lastVal`. -/
theorem update_only_if_unchanged_wf (c : Cfg) (st : State) (hwf : WF st) (sched : List Step) (e : Entry)
    (he : e ∈ trace c st sched) (i : Nat) (rec : Bytes) (hs : e.step = .update i rec)
    (hok : e.out = .ok) :
    stored c e.pre = (e.pre.cands i).lastVal ∧ (e.pre.cands i).lastVal ≠ none := by
  obtain ⟨ht, hst, _, _⟩ := update_only_if_unchanged c st sched e he i rec hs hok
  have hw := (run_invariant c WF (wf_step c) st sched hwf).2 e he
  exact ⟨by rw [hst, expected_of_wf hw ht], hw i ht⟩

/-- An `Update` before any successful `Get` / `Create` is refused and changes nothing. -/
theorem update_uninitialised (c : Cfg) (st : State) (i : Nat) (rec : Bytes)
    (h : (st.cands i).tso = 0) : update c st i rec = (.notInitialised, st) := by
  rw [update, if_pos h]

/-- `Update` of a missing record never succeeds, whatever the engine: a failed condition, or
`notFound` for the pre-fix tikv adapter (`casMissingNotFound`). -/
theorem update_missing_fails (c : Cfg) (st : State) (i : Nat) (rec : Bytes) (h : stored c st = none) :
    (update c st i rec).2 = st ∧
    ((update c st i rec).1 = .notInitialised ∨ (update c st i rec).1 = .condFailed ∨
      ((update c st i rec).1 = .notFound ∧ c.q.casMissingNotFound = true)) := by
  rcases update_cases c st i rec with ⟨_, u⟩ | ⟨_, hst, _⟩ | ⟨_, _, u | ⟨hq, _, u⟩⟩
  · simp [u]
  · rw [h] at hst; simp at hst
  · simp [u]
  · simp [u, hq]

/-! ### create: at most once -/

/-- A successful `Create` found the record absent, stores exactly its record and remembers it. -/
theorem create_only_if_absent (c : Cfg) (st : State) (sched : List Step) (e : Entry)
    (he : e ∈ trace c st sched) (i : Nat) (rec : Bytes) (hs : e.step = .create i rec)
    (hok : e.out = .ok) :
    stored c e.pre = none ∧ stored c e.post = some rec ∧ (e.post.cands i).lastVal = some rec := by
  obtain ⟨ho, hp⟩ := trace_mem c st sched e he
  rw [hs] at ho hp
  obtain ⟨hn, u⟩ := create_ok (ho ▸ hok)
  rw [hp, step, u]
  exact ⟨hn, stored_written .., by simp [written, setCand]⟩

/-- Once present, the record is never absent again. -/
theorem record_never_absent (c : Cfg) (st : State) (sched : List Step) (h : stored c st ≠ none) :
    stored c (run c st sched) ≠ none :=
  (run_invariant c (stored c · ≠ none) (step_stored_some c) st sched h).1

/-- No `Create` succeeds in a run that starts with the record present. -/
theorem create_none_if_present (c : Cfg) (st : State) (sched : List Step) (h : stored c st ≠ none) :
    createOks (trace c st sched) = 0 := by
  induction sched generalizing st with
  | nil => rfl
  | cons s rest ih =>
    simp only [trace, createOks_cons]
    rw [ih _ (step_stored_some c st s h)]
    have : Entry.isCreateOk { pre := st, step := s, out := (step c st s).1, post := (step c st s).2 } = false := by
      cases s with
      | get i => simp [Entry.isCreateOk]
      | update i rec => simp [Entry.isCreateOk]
      | create i rec =>
        rcases create_cases c st i rec with ⟨hn, _⟩ | ⟨v, _, u⟩
        · exact absurd hn h
        · simp [Entry.isCreateOk, step, u]
    simp [this]

/-- In any run at most one `Create` succeeds (and none if the record was there initially). -/
theorem create_at_most_once (c : Cfg) (st : State) (sched : List Step) :
    createOks (trace c st sched) ≤ 1 ∧ (stored c st ≠ none → createOks (trace c st sched) = 0) := by
  refine ⟨?_, create_none_if_present c st sched⟩
  induction sched generalizing st with
  | nil => simp [trace, createOks]
  | cons s rest ih =>
    simp only [trace, createOks_cons]
    by_cases hc : Entry.isCreateOk { pre := st, step := s, out := (step c st s).1, post := (step c st s).2 } = true
    · -- the record is present from here on: no further create succeeds
      have hpres : stored c (step c st s).2 ≠ none := by
        cases s with
        | get i => simp [Entry.isCreateOk] at hc
        | update i rec => simp [Entry.isCreateOk] at hc
        | create i rec =>
          rcases create_cases c st i rec with ⟨_, u⟩ | ⟨v, _, u⟩
          · simp [step, u, stored_written]
          · simp [Entry.isCreateOk, step, u] at hc
      rw [create_none_if_present c _ rest hpres]
      simp [hc]
    · have := ih (step c st s).2
      simp [hc]
      exact this

/-! ### no double acquire from the same observed record -/

/-- A candidate `j` holding a stale observation `v` (the stored record is no longer `v`) cannot
succeed with `Update`, however the other candidates (and `j`'s own updates) are interleaved, as long
as `j` does not re-read (`Get` / `Create`) and nobody writes the very bytes `v` back. The observation is what
`j`'s CAS expects, so a candidate that never read (Go's nil `lastVal`, `v = []`) is covered. -/
theorem stale_update_fails (c : Cfg) (st : State) (j : Nat) (v : Bytes) (mid : List Step) (rec : Bytes)
    (hl : expected (st.cands j) = v) (hs : stored c st ≠ some v)
    (hfresh : ∀ s ∈ mid, s.writes ≠ some v) (hnr : ∀ s ∈ mid, s.rereads j = false) :
    (update c (run c st mid) j rec).1 ≠ .ok ∧ (update c (run c st mid) j rec).2 = run c st mid := by
  induction mid generalizing st with
  | nil =>
    simp only [run]
    rcases update_cases c st j rec with ⟨_, u⟩ | ⟨_, hst, _⟩ | ⟨_, _, u | ⟨_, _, u⟩⟩
    · simp [u]
    · rw [hst, hl] at hs; exact absurd rfl hs
    · simp [u]
    · simp [u]
  | cons s rest ih =>
    simp only [run]
    apply ih
    · rw [expected, step_lastVal c st s j (hnr s (List.mem_cons_self ..))]; exact hl
    · rcases step_stored c st s with e | ⟨_, r, hw, e⟩
      · rw [e]; exact hs
      · rw [e]
        intro h
        exact hfresh s (List.mem_cons_self ..) (by rw [hw, h])
    · exact fun s' h' => hfresh s' (List.mem_cons_of_mem _ h')
    · exact fun s' h' => hnr s' (List.mem_cons_of_mem _ h')

/-- Two candidates `i`, `j` observed the same record `v` and both try to acquire by writing a record
different from `v`. Whoever is first (`i`) wins; then in ANY continuation `mid` in which `j` does not
re-read and nobody restores the bytes `v`, `j`'s `Update` fails and changes nothing. (Also covers
`i = j`: a second `Update` without re-reading fails — `Update` does not refresh `lastVal`.) -/
theorem no_double_acquire (c : Cfg) (st : State) (i j : Nat) (v ri rj : Bytes) (mid : List Step)
    (hi : (st.cands i).lastVal = some v) (hj : (st.cands j).lastVal = some v) (hri : ri ≠ v)
    (hok : (update c st i ri).1 = .ok)
    (hfresh : ∀ s ∈ mid, s.writes ≠ some v) (hnr : ∀ s ∈ mid, s.rereads j = false) :
    stored c st = some v ∧
    (update c (run c (update c st i ri).2 mid) j rj).1 ≠ .ok ∧
    (update c (run c (update c st i ri).2 mid) j rj).2 = run c (update c st i ri).2 mid := by
  obtain ⟨_, hst, u⟩ := update_ok hok
  refine ⟨by simpa [expected, hi] using hst, ?_⟩
  apply stale_update_fails c _ j v mid rj
  · have hl : ((update c st i ri).2.cands j).lastVal = some v :=
      (step_lastVal c st (.update i ri) j rfl).trans hj
    rw [expected, hl]; rfl
  · rw [u]; simp [stored_written, hri]
  · exact hfresh
  · exact hnr

/-- The freshness hypothesis of `no_double_acquire` is necessary (ABA): the CAS compares bytes, so if a
third candidate writes the very bytes `v` back, the stale candidate's update succeeds. Records written
by client-go's elector carry the renew time and the transition counter, which makes them fresh. -/
theorem no_double_acquire_needs_fresh :
    ∃ (c : Cfg) (st : State) (i j : Nat) (v ri rj : Bytes) (mid : List Step),
      (st.cands i).lastVal = some v ∧ (st.cands j).lastVal = some v ∧ ri ≠ v ∧
      (update c st i ri).1 = .ok ∧ (∀ s ∈ mid, s.rereads j = false) ∧
      (update c (run c (update c st i ri).2 mid) j rj).1 = .ok :=
  ⟨{ key := [1] }, run { key := [1] } (State.fresh []) [.create 0 [7], .get 1], 0, 1, [7], [8], [9],
    [.get 2, .update 2 [7]], by decide, by decide, by decide, by decide, by decide, by decide⟩

/-! ### no silent overwrite -/

/-- Every change of the stored record is a successful `Create` that found it absent, or a successful
`Update` by an initialised candidate whose remembered bytes equalled the previous record; the new
record is the one that step wrote. -/
theorem no_silent_overwrite (c : Cfg) (st : State) (sched : List Step) (e : Entry)
    (he : e ∈ trace c st sched) (hch : stored c e.post ≠ stored c e.pre) :
    e.out = .ok ∧
    ((∃ i rec, e.step = .create i rec ∧ stored c e.pre = none ∧ stored c e.post = some rec) ∨
     (∃ i rec, e.step = .update i rec ∧ (e.pre.cands i).tso ≠ 0 ∧
        stored c e.pre = some (expected (e.pre.cands i)) ∧ stored c e.post = some rec)) := by
  obtain ⟨ho, hp⟩ := trace_mem c st sched e he
  have hok : e.out = .ok := by
    rcases step_stored c e.pre e.step with h | ⟨h, _⟩
    · rw [hp, h] at hch; exact absurd rfl hch
    · rw [ho]; exact h
  refine ⟨hok, ?_⟩
  cases hs : e.step with
  | get i =>
    exfalso
    rw [hs] at hp
    rcases get_cases c e.pre i with ⟨_, u⟩ | ⟨v, _, u⟩ <;> rw [hp] at hch <;> simp [step, u, stored] at hch
  | create i rec =>
    obtain ⟨h1, h2, _⟩ := create_only_if_absent c st sched e he i rec hs hok
    exact .inl ⟨i, rec, rfl, h1, h2⟩
  | update i rec =>
    obtain ⟨h0, h1, h2, _⟩ := update_only_if_unchanged c st sched e he i rec hs hok
    exact .inr ⟨i, rec, rfl, h0, h1, h2⟩

/-- Same on runs from a well-formed state, with the candidate's `lastVal` itself. -/
theorem no_silent_overwrite_wf (c : Cfg) (st : State) (hwf : WF st) (sched : List Step) (e : Entry)
    (he : e ∈ trace c st sched) (hch : stored c e.post ≠ stored c e.pre) :
    e.out = .ok ∧
    ((∃ i rec, e.step = .create i rec ∧ stored c e.pre = none) ∨
     (∃ i rec, e.step = .update i rec ∧ stored c e.pre = (e.pre.cands i).lastVal)) := by
  obtain ⟨hok, h | h⟩ := no_silent_overwrite c st sched e he hch
  · obtain ⟨i, rec, hs, hn, _⟩ := h
    exact ⟨hok, .inl ⟨i, rec, hs, hn⟩⟩
  · obtain ⟨i, rec, hs, _, _, _⟩ := h
    exact ⟨hok, .inr ⟨i, rec, hs, (update_only_if_unchanged_wf c st hwf sched e he i rec hs hok).1⟩⟩

/-- A call that does not answer `ok` leaves the record, the engine and every candidate untouched. -/
theorem failed_step_changes_nothing (c : Cfg) (st : State) (s : Step) (h : (step c st s).1 ≠ .ok) :
    (step c st s).2 = st := by
  cases s with
  | get i =>
    rcases get_cases c st i with ⟨_, e⟩ | ⟨v, _, e⟩ <;> simp [step, e] at h ⊢
  | create i rec =>
    rcases create_cases c st i rec with ⟨_, e⟩ | ⟨v, _, e⟩ <;> simp [step, e] at h ⊢
  | update i rec =>
    rcases update_cases c st i rec with ⟨_, e⟩ | ⟨_, _, e⟩ | ⟨_, _, e | ⟨_, _, e⟩⟩ <;>
      simp [step, e] at h ⊢

/-- Fresh locks are well-formed, and well-formedness is kept by every schedule. -/
theorem wf_reachable (c : Cfg) (s : Store) (sched : List Step) : WF (run c (State.fresh s) sched) :=
  (run_invariant c WF (wf_step c) _ sched (wf_fresh s)).1

/-! ### non-vacuity: concrete runs on which the hypotheses hold -/

def cM : Cfg := { q := Quirks.memkv, key := [47, 101] }
def cT : Cfg := { q := Quirks.tikvOld, key := [47, 101] }
def r0 : Bytes := [123, 48, 125]
def r1 : Bytes := [123, 49, 125]
def r2 : Bytes := [123, 50, 125]

def outs (c : Cfg) (sched : List Step) : List Outcome := (trace c (State.fresh []) sched).map (·.out)

/-- two candidates race for the initial create: exactly one wins -/
example : outs cM [.get 0, .get 1, .create 0 r0, .create 1 r1] = [.notFound, .notFound, .ok, .condFailed] := by
  decide
example : createOks (trace cM (State.fresh []) [.create 0 r0, .create 1 r1, .create 0 r2]) = 1 := by decide

/-- a successful update exists (hypotheses of `update_only_if_unchanged` are satisfiable) -/
example : outs cM [.create 0 r0, .get 1, .update 1 r1] = [.ok, .ok, .ok] := by decide

/-- both observe r0; the first update wins, the second fails (hypotheses of `no_double_acquire`) -/
example : outs cM [.create 0 r0, .get 1, .get 2, .update 1 r1, .update 2 r2, .get 0, .update 2 r2]
    = [.ok, .ok, .ok, .ok, .condFailed, .ok, .condFailed] := by decide

/-- `Update` does not refresh `lastVal`: a second update without re-reading fails; after a `Get` it works -/
example : outs cM [.create 0 r0, .update 0 r1, .update 0 r2, .get 0, .update 0 r2]
    = [.ok, .ok, .condFailed, .ok, .ok] := by decide

/-- update before any get/create; update after a get that found nothing -/
example : outs cM [.update 0 r0, .get 0, .update 0 r0] = [.notInitialised, .notFound, .notInitialised] := by
  decide

/-- pre-fix tikv: update of a missing record by an initialised candidate answers notFound, elsewhere condFailed -/
example : (update cT { (State.fresh []) with cands := fun _ => { lastVal := some r0, tso := 5 } } 0 r1).1
    = .notFound := by decide
example : (update cM { (State.fresh []) with cands := fun _ => { lastVal := some r0, tso := 5 } } 0 r1).1
    = .condFailed := by decide

/-- the record changes (hypothesis of `no_silent_overwrite`) -/
example : stored cM (run cM (State.fresh []) [.create 0 r0]) ≠ stored cM (State.fresh []) := by decide

end KB.C14
