/-
  C03 / C16 — ARBITRARY range bounds: bounds of the form `K ++ [0]` ("just after K": the continue key of a
  paginated list, the end of a single-key range; /repo 146f0bb) and, since /repo 23c8b93, every byte string
  (`backend.encodeRangeBound` cuts a bound at its first byte at or below the key/revision separator; model
  `KB.encodeBound`).
  Property theorems only. The order facts on internal keys are in KB.Props.C10 (`versions_before_succ_bound`,
  `versions_before_low_bound`, `succ_bound_before_greater`, `range_bounds_exact'`, `bounds_ordered`,
  `old_bound_encoding_defect`, `bound_146f0bb_defect`); here they are lifted to the range read: `Backend.List` /
  `Backend.Count` over `[a, b)` with `a`, `b` ANY byte strings with `a < b` return exactly the snapshot
  restricted to the RAW keys `k` with `a ≤ k < b` (`bytes.Compare` on raw keys — what the etcd reference's range
  does, `KB.Etcd.inInterval`).
-/
import KB.Lemmas.EtcdRange
namespace KB.C03Bounds
open KB KB.Etcd Generated

/-- `C03.list_spec` for ARBITRARY bounds (one partition): the kvs are the scan of
exactly the records of the raw keys in `[a, b)`; with a limit the first `n`, `more` iff the limit cut. -/
theorem list_spec_bounds (c : Cfg) (hsplit : c.splits = []) (s : BState) {recs : List Rec}
    (hstore : s.store = encodeStore recs) (hk : ∀ r ∈ recs, Alphabet r.key ∧ r.rev < 2 ^ 64)
    (a b : Bytes) (hab : cmp a b = .lt) (R n : Nat) :
    let full := scanRecs (C03.readRev R s.committed) (recs.filter (fun r => ble a r.key && blt r.key b))
    ∃ res, doList c s a b R n = .ok res ∧ res.hdr = hdrOf s.committed res.kvs ∧
      res.kvs = (if n = 0 then full else full.take n) ∧ (res.more = true ↔ (0 < n ∧ n < full.length)) :=
  ⟨_, doList_bounds c hsplit s hstore hk hab R n rfl, rfl, rfl, decide_eq_true_iff⟩

/-- `C03.count_spec` for the same bounds. -/
theorem count_spec_bounds (c : Cfg) (hsplit : c.splits = []) (hcompat : c.etcdCompat = true) (s : BState)
    {recs : List Rec} (hstore : s.store = encodeStore recs) (hk : ∀ r ∈ recs, Alphabet r.key ∧ r.rev < 2 ^ 64)
    (a b : Bytes) (hab : cmp a b = .lt) :
    doCount c s a b = .ok (s.committed,
      (scanRecs s.committed (recs.filter (fun r => ble a r.key && blt r.key b))).length) :=
  doCount_bounds c hsplit hcompat s hstore hk hab

/-- The unlimited range read is the snapshot at the read revision restricted to the raw keys in `[a, b)`:
the answer of the reference's range on raw keys. -/
theorem list_is_snapshot_range (c : Cfg) (hsplit : c.splits = []) (s : BState) {recs : List Rec}
    (hstore : s.store = encodeStore recs) (hs : SortedRecs recs)
    (hk : ∀ r ∈ recs, Alphabet r.key ∧ r.rev < 2 ^ 64)
    (a b : Bytes) (hab : cmp a b = .lt) (R : Nat) :
    ∃ res, doList c s a b R 0 = .ok res ∧
      res.kvs = (scanRecs (C03.readRev R s.committed) recs).filter (fun e => ble a e.1 && blt e.1 b) :=
  ⟨_, doList_bounds c hsplit s hstore hk hab R 0 rfl, scan_filter_key hs _ (fun k => ble a k && blt k b)⟩

/-- the keys a range read returns are keys of the store -/
theorem kvs_keys_alphabet {recs : List Rec} (hs : SortedRecs recs) (hk : ∀ r ∈ recs, Alphabet r.key ∧ r.rev < 2 ^ 64)
    (R : Nat) {kv : Bytes × Bytes × Nat} (h : kv ∈ scanRecs R recs) : Alphabet kv.1 := by
  obtain ⟨k, v, m⟩ := kv
  have h1 := (mem_scanRecs_iff hs R k v m).mp h
  rw [readAt_def] at h1
  cases hv : visible R recs k with
  | none => rw [hv] at h1; simp [readOne] at h1
  | some x =>
    obtain ⟨hx, hvis⟩ := visible_some_mem hv
    exact (vis_iff.mp hvis).1 ▸ (hk x hx).1

/-- whatever a range read over `[a, b)` returns, with or without a limit, is in the snapshot at the read revision,
lies in `[a, b)` and is a key of the store -/
theorem list_kvs_in_range (c : Cfg) (hsplit : c.splits = []) (s : BState) {recs : List Rec}
    (hstore : s.store = encodeStore recs) (hs : SortedRecs recs)
    (hk : ∀ r ∈ recs, Alphabet r.key ∧ r.rev < 2 ^ 64)
    (a b : Bytes) (hab : cmp a b = .lt) (R n : Nat) :
    ∃ res, doList c s a b R n = .ok res ∧
      ∀ kv ∈ res.kvs, ble a kv.1 = true ∧ blt kv.1 b = true ∧ Alphabet kv.1 := by
  refine ⟨_, doList_bounds c hsplit s hstore hk hab R n rfl, fun kv hkv => ?_⟩
  have hmem : kv ∈ scanRecs (C03.readRev R s.committed) (recs.filter fun r => ble a r.key && blt r.key b) := by
    simp only at hkv
    split at hkv
    · exact hkv
    · exact List.mem_of_mem_take hkv
  rw [scan_filter_key hs _ (fun k => ble a k && blt k b), List.mem_filter, Bool.and_eq_true] at hmem
  exact ⟨hmem.2.1, hmem.2.2, kvs_keys_alphabet hs hk _ hmem.1⟩

/-- START `K ++ [0]` EXCLUDES `K`: every key of a range read that starts just after `K` is strictly greater
than `K` (before the fix the read started with `K` again). -/
theorem list_from_succ_excludes (c : Cfg) (hsplit : c.splits = []) (s : BState) {recs : List Rec}
    (hstore : s.store = encodeStore recs) (hs : SortedRecs recs)
    (hk : ∀ r ∈ recs, Alphabet r.key ∧ r.rev < 2 ^ 64)
    (K b : Bytes) (hab : cmp (K ++ [0]) b = .lt) (R n : Nat) :
    ∃ res, doList c s (K ++ [0]) b R n = .ok res ∧ ∀ kv ∈ res.kvs, blt K kv.1 = true ∧ kv.1 ≠ K := by
  obtain ⟨res, hres, hin⟩ := list_kvs_in_range c hsplit s hstore hs hk (K ++ [0]) b hab R n
  refine ⟨res, hres, fun kv hkv => ?_⟩
  have hlt : blt K kv.1 = true := (ble_succ_iff kv.1 K).mp (hin kv hkv).1
  exact ⟨hlt, fun he => cmp_lt_irrefl (he ▸ blt_iff.mp hlt)⟩

/-- a key of `[a, b)` that is live at the read revision is in the unlimited range read -/
theorem list_includes (c : Cfg) (hsplit : c.splits = []) (s : BState) {recs : List Rec}
    (hstore : s.store = encodeStore recs) (hs : SortedRecs recs)
    (hk : ∀ r ∈ recs, Alphabet r.key ∧ r.rev < 2 ^ 64)
    {a b K : Bytes} (haK : ble a K = true) (hKb : blt K b = true) (R : Nat) (v : Bytes) (m : Nat)
    (hlive : readAt (C03.readRev R s.committed) recs K = some (v, m)) :
    ∃ res, doList c s a b R 0 = .ok res ∧ (K, v, m) ∈ res.kvs := by
  obtain ⟨res, hres, hkvs⟩ :=
    list_is_snapshot_range c hsplit s hstore hs hk a b (blt_iff.mp (blt_of_ble_of_blt haK hKb)) R
  refine ⟨res, hres, ?_⟩
  rw [hkvs, List.mem_filter, mem_scanRecs_iff hs]
  exact ⟨hlive, by simp [haK, hKb]⟩

/-- END `K ++ [0]` INCLUDES `K`: a key `K ≥ a` that is live at the read revision is in the range read that
ends just after `K` (before the fix it was missing: `[K, K ++ [0])` was empty). -/
theorem list_to_succ_includes (c : Cfg) (hsplit : c.splits = []) (s : BState) {recs : List Rec}
    (hstore : s.store = encodeStore recs) (hs : SortedRecs recs)
    (hk : ∀ r ∈ recs, Alphabet r.key ∧ r.rev < 2 ^ 64)
    (a K : Bytes) (haK : ble a K = true) (R : Nat) (v : Bytes) (m : Nat)
    (hlive : readAt (C03.readRev R s.committed) recs K = some (v, m)) :
    ∃ res, doList c s a (K ++ [0]) R 0 = .ok res ∧ (K, v, m) ∈ res.kvs :=
  list_includes c hsplit s hstore hs hk haK ((blt_succ_iff K K).mpr (ble_refl K)) R v m hlive

/-- THE SINGLE-KEY RANGE `[K, K ++ [0])` is the point read of `K`. -/
theorem single_key_range (c : Cfg) (hsplit : c.splits = []) (s : BState) {recs : List Rec}
    (hstore : s.store = encodeStore recs) (hs : SortedRecs recs)
    (hk : ∀ r ∈ recs, Alphabet r.key ∧ r.rev < 2 ^ 64) (K : Bytes) (R : Nat) :
    ∃ res, doList c s K (K ++ [0]) R 0 = .ok res ∧
      res.kvs = match readAt (C03.readRev R s.committed) recs K with
        | none => []
        | some (v, m) => [(K, v, m)] := by
  have hab : cmp K (K ++ [0]) = .lt := blt_iff.mp ((blt_succ_iff K K).mpr (ble_refl K))
  obtain ⟨res, hres, hkvs⟩ := list_is_snapshot_range c hsplit s hstore hs hk K (K ++ [0]) hab R
  refine ⟨res, hres, ?_⟩
  rw [hkvs]
  refine Eq.trans (List.filter_congr ?_) (scan_point hs (C03.readRev R s.committed) K)
  intro e _
  -- K ≤ k < K ++ [0]  iff  k = K
  have h2 : blt e.1 (K ++ [0]) = ble e.1 K := by
    rw [Bool.eq_iff_iff]; exact blt_succ_iff e.1 K
  rw [h2, Bool.eq_iff_iff, Bool.and_eq_true, beq_iff_eq]
  exact ⟨fun ⟨h1, h3⟩ => ble_antisymm h3 h1, fun he => he ▸ ⟨ble_refl _, ble_refl _⟩⟩

/-! ### bounds with ANY byte at or below the split byte (/repo 23c8b93) -/

/-- START `P ++ c :: rest` (`c` at or below the split byte: `P ++ "\x01"`, `P ++ "#"`, `P ++ "\0\0"`, ...)
EXCLUDES `P`: every key of a range read that starts there is strictly greater than `P` (with the 146f0bb
version the read started with `P`: `C10.bound_146f0bb_defect`). -/
theorem list_from_low_bound_excludes (c : Cfg) (hsplit : c.splits = []) (s : BState) {recs : List Rec}
    (hstore : s.store = encodeStore recs) (hs : SortedRecs recs)
    (hk : ∀ r ∈ recs, Alphabet r.key ∧ r.rev < 2 ^ 64)
    (P rest b : Bytes) (x : Nat) (hx : x ≤ splitByte) (hab : cmp (P ++ x :: rest) b = .lt) (R n : Nat) :
    ∃ res, doList c s (P ++ x :: rest) b R n = .ok res ∧ ∀ kv ∈ res.kvs, blt P kv.1 = true := by
  obtain ⟨res, hres, hin⟩ := list_kvs_in_range c hsplit s hstore hs hk (P ++ x :: rest) b hab R n
  refine ⟨res, hres, fun kv hkv => ?_⟩
  obtain ⟨h1, _, hal⟩ := hin kv hkv
  -- not (kv.1 < bound), i.e. not (kv.1 ≤ P)
  rw [← not_blt_iff_ble] at h1
  cases h2 : ble kv.1 P
  · cases h3 : blt P kv.1
    · rw [not_blt_iff_ble.mp h3] at h2; cases h2
    · rfl
  · rw [(C10.low_bound_is_after kv.1 P hal hx rest).mpr h2] at h1; cases h1

/-- END `K ++ c :: rest` (`c` at or below the split byte) INCLUDES `K`: a key `K ≥ a` over the alphabet that is
live at the read revision is in the range read that ends there (with the 146f0bb version it was missing:
`[K, K ++ "\x01")` was empty). -/
theorem list_to_low_bound_includes (c : Cfg) (hsplit : c.splits = []) (s : BState) {recs : List Rec}
    (hstore : s.store = encodeStore recs) (hs : SortedRecs recs)
    (hk : ∀ r ∈ recs, Alphabet r.key ∧ r.rev < 2 ^ 64)
    (a K rest : Bytes) (x : Nat) (hx : x ≤ splitByte) (hK : Alphabet K) (haK : ble a K = true)
    (R : Nat) (v : Bytes) (m : Nat) (hlive : readAt (C03.readRev R s.committed) recs K = some (v, m)) :
    ∃ res, doList c s a (K ++ x :: rest) R 0 = .ok res ∧ (K, v, m) ∈ res.kvs :=
  list_includes c hsplit s hstore hs hk haK ((C10.low_bound_is_after K K hK hx rest).mpr (ble_refl K)) R v m hlive

/-- TWO BOUNDS CUT BEHIND THE SAME KEY (`P ++ "\x01"`, `P ++ "\x02"`: encoded alike, `C10.bounds_ordered_strong`)
enclose nothing — and nothing is what lies between them: the range read is empty, as the reference's. -/
theorem list_between_low_bounds_empty (c : Cfg) (hsplit : c.splits = []) (s : BState) {recs : List Rec}
    (hstore : s.store = encodeStore recs) (hs : SortedRecs recs)
    (hk : ∀ r ∈ recs, Alphabet r.key ∧ r.rev < 2 ^ 64)
    (a b : Bytes) (hab : cmp a b = .lt) (henc : encodeBound a = encodeBound b) (R : Nat) :
    ∃ res, doList c s a b R 0 = .ok res ∧ res.kvs = [] ∧
      (scanRecs (C03.readRev R s.committed) recs).filter (fun e => ble a e.1 && blt e.1 b) = [] := by
  obtain ⟨res, hres, hkvs⟩ := list_is_snapshot_range c hsplit s hstore hs hk a b hab R
  have hempty : (scanRecs (C03.readRev R s.committed) recs).filter (fun e => ble a e.1 && blt e.1 b) = [] := by
    rw [List.filter_eq_nil_iff]
    intro e he
    have hal := kvs_keys_alphabet hs hk _ he
    have := C10.encodeBound_eq_no_key_between henc e.1 hal
    simpa [Bool.and_eq_true] using this
  exact ⟨res, hres, by rw [hkvs, hempty], hempty⟩

/-! ### pagination: the page after `last` continues from `last ++ [0]` -/

/-- in a list strictly sorted by key, what follows position `i` is what is greater than the key at `i` -/
theorem drop_eq_filter_gt : ∀ (l : List (Bytes × Bytes × Nat)), l.Pairwise (fun a b => cmp a.1 b.1 = .lt) →
    ∀ (i : Nat) (h : i < l.length), l.drop (i + 1) = l.filter (fun e => blt (l[i]).1 e.1)
  | [], _, i, h => by simp at h
  | x :: xs, hp, 0, _ => by
    rw [List.pairwise_cons] at hp
    have hx : blt x.1 x.1 = false := by simp [blt]
    simp only [List.drop_succ_cons, List.drop_zero, List.getElem_cons_zero, List.filter_cons, hx]
    symm
    apply List.filter_eq_self.mpr
    intro e he
    exact blt_iff.mpr (hp.1 e he)
  | x :: xs, hp, i + 1, h => by
    rw [List.pairwise_cons] at hp
    have hi : i < xs.length := by simpa using h
    have hlt : cmp x.1 (xs[i]).1 = .lt := hp.1 _ (List.getElem_mem hi)
    have hx : blt (xs[i]).1 x.1 = false := by
      rw [not_blt_iff_ble, ble_iff, hlt]; decide
    simp only [List.drop_succ_cons, List.getElem_cons_succ, List.filter_cons, hx]
    exact drop_eq_filter_gt xs hp.2 i hi

/-- PAGINATION: a page of `n` keys of `[a, b)` with more to come, continued from `lastKey ++ [0]`, gives
exactly the rest of the unpaginated list — nothing twice (before the fix: `lastKey` again), nothing
missing. By induction, the concatenation of the pages is the unpaginated list. -/
theorem next_page (c : Cfg) (hsplit : c.splits = []) (s : BState) {recs : List Rec}
    (hstore : s.store = encodeStore recs) (hs : SortedRecs recs)
    (hk : ∀ r ∈ recs, Alphabet r.key ∧ r.rev < 2 ^ 64)
    (a b : Bytes) (hab : cmp a b = .lt) (R n : Nat) :
    ∃ page all, doList c s a b R n = .ok page ∧ doList c s a b R 0 = .ok all ∧
      (page.more = true → ∃ last rest, page.kvs.getLast? = some last ∧
        doList c s (last.1 ++ [0]) b R 0 = .ok rest ∧ all.kvs = page.kvs ++ rest.kvs) := by
  obtain ⟨page, hpage, _, hpk, hpm⟩ := list_spec_bounds c hsplit s hstore hk a b hab R n
  obtain ⟨all, hall, hak⟩ := list_is_snapshot_range c hsplit s hstore hs hk a b hab R
  refine ⟨page, all, hpage, hall, fun hmore => ?_⟩
  obtain ⟨hn, hlen⟩ := hpm.mp hmore
  -- the unpaginated list is the filtered snapshot: strictly sorted, inside `[a, b)`
  rw [scan_filter_key hs _ (fun k => ble a k && blt k b), ← hak] at hpk hlen
  rw [if_neg (by omega)] at hpk
  have hsorted : all.kvs.Pairwise (fun x y => cmp x.1 y.1 = .lt) :=
    hak ▸ List.Pairwise.filter _ (scanRecs_sorted hs _)
  have hin : ∀ e ∈ all.kvs, ble a e.1 = true ∧ blt e.1 b = true := fun e he => by
    rw [hak] at he
    simpa using (List.mem_filter.mp he).2
  -- the page ends with the key at position `n - 1`; the key at position `n` is still below `b`
  have hi : n - 1 < all.kvs.length := by omega
  have hlast : page.kvs.getLast? = some (all.kvs[n - 1]) := by
    rw [hpk, List.getLast?_eq_getElem?, List.length_take, Nat.min_eq_left (Nat.le_of_lt hlen),
      List.getElem?_take_of_lt (by omega), List.getElem?_eq_getElem hi]
  have hKnext : cmp (all.kvs[n - 1]).1 (all.kvs[n]).1 = .lt :=
    List.pairwise_iff_getElem.mp hsorted (n - 1) n hi hlen (by omega)
  have hsb : cmp ((all.kvs[n - 1]).1 ++ [0]) b = .lt :=
    blt_iff.mp (blt_of_ble_of_blt ((ble_succ_iff _ _).mpr (blt_iff.mpr hKnext)) (hin _ (List.getElem_mem hlen)).2)
  obtain ⟨rest, hrest, hrk⟩ := list_is_snapshot_range c hsplit s hstore hs hk _ b hsb R
  -- all = take n ++ drop n, and drop n = what is greater than the last key of the page
  have hdrop := drop_eq_filter_gt all.kvs hsorted (n - 1) hi
  rw [Nat.sub_add_cancel hn] at hdrop
  have haK := (hin _ (List.getElem_mem hi)).1
  generalize all.kvs[n - 1] = last at hlast hrest hrk hdrop haK
  refine ⟨last, rest, hlast, hrest, ?_⟩
  rw [hpk, hrk]
  conv => lhs; rw [← List.take_append_drop n all.kvs, hdrop]
  refine congrArg (List.take n all.kvs ++ ·) ?_
  rw [hak, List.filter_filter]
  refine List.filter_congr fun e _ => ?_
  have h1 : ble (last.1 ++ [0]) e.1 = blt last.1 e.1 := by
    rw [Bool.eq_iff_iff]; exact ble_succ_iff e.1 _
  rw [h1]
  cases hke : blt last.1 e.1
  · rfl
  · have := blt_of_ble_of_blt haK hke
    rw [blt_iff] at this
    simp [ble_iff, this]

/-! Non-vacuity: a sorted store with prefix-related keys; the page after "/a" starts at "/a/b". -/
example : SortedRecs C03.exRecs ∧ (∀ r ∈ C03.exRecs, Alphabet r.key ∧ r.rev < 2 ^ 64) ∧
    cmp ([47, 97] ++ [0]) [48] = .lt := by
  refine ⟨by decide, by decide, by decide⟩
-- bounds with other low bytes: a proper interval, a cut bound, two bounds encoded alike
example : cmp ([47, 97] ++ 1 :: []) [48] = .lt ∧ (1 : Nat) ≤ splitByte ∧ Alphabet [47, 97] ∧
    ble [47] [47, 97] = true := by decide
-- list_to_low_bound_includes / list_to_succ_includes: a key that is live at the read revision
example : readAt 6 C03.exRecs [47, 97, 47, 98] = some ([2], 5) := by decide
example : cmp ([47, 97] ++ [1]) ([47, 97] ++ [2]) = .lt ∧
    encodeBound ([47, 97] ++ [1]) = encodeBound ([47, 97] ++ [2]) := by decide
example : (scanRecs 6 C03.exRecs).filter (fun e => ble ([47, 97] ++ [1]) e.1 && blt e.1 [48]) =
    [([47, 97, 47, 98], [2], 5)] := by decide
example : (scanRecs 6 C03.exRecs).filter (fun e => ble ([47, 97] ++ [0]) e.1 && blt e.1 [48]) =
    [([47, 97, 47, 98], [2], 5)] := by decide

end KB.C03Bounds
