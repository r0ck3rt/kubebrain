/-
  C18 — Only the leader writes and streams; followers read at its revision or fail.

  Model: KB.Server (role decision of a handler from its guard record; follower read-sync LTS).
  Table: KB.Generated.handlerGuards, regenerated from /repo's go/ast on every check run
  (harness/cmd/kbextract/guards.go).

  Part 1 (`role_table` and its readable corollaries) is a finite statement over the regenerated table ⊗
  roles ⊗ proxy ⊗ leader behaviour, decided by evaluation.

  Part 2: the full statement `follower_read_fresh` ("a follower read is served at a revision ≥ the leader's
  committed revision when the read began") is FALSE in the model of the code as it is — and in the code, see
  known_findings.json — for ONE remaining reason, with a decided witness trace:
    * `joined_fetch_is_stale`: single-flight sharing hands a read the result of a fetch the leader answered
      before the read began.
  The second reason the code used to have is repaired in /repo (db7d4ff: `tso.Commit` only raises the
  committed revision) and the model follows (`asIs.monotoneSet = true`):
    * `late_set_lowers_revision` is about `beforeFix` (the plain store let the delayed store of an older
      fetch lower the read revision under a read that had fetched a newer one): the witness of the
      repaired defect;
    * `late_set_does_not_lower`: for the code as it is, no step lowers the follower's read revision, and every
      served read that did not join an already-answered fetch is fresh — under any interleaving.  The late
      join is the ONLY remaining source of staleness (`stale_read_joined_late`).
  Proved besides: `follower_read_fresh_partial` (non-overlapping follower reads), `fetched_value_fresh`
  (what a read stores is fresh unless it joined an already-answered fetch), `follower_read_fresh_fixed`
  (with the proposed repair on top the full statement holds; each switch alone does not give it), and
  `served_only_after_own_sync` / `unreachable_leader_read_fails` (a read whose sync failed is never served).

  Part 3: the forward path of a write transaction (`forward`): `forward_at_most_once` (one execution per client
  request, a lost answer is reported as Unavailable), `forward_definite_answer_truthful`, and the decided
  witnesses of what a re-send on Unavailable does (`resend_reports_failed_for_applied_write`, `…_update`).
-/
import KB.Server
import KB.Lemmas.Server
import KB.Generated.HandlerGuards
namespace KB.C18
open KB.Server KB.Generated

/-! ## Part 1 — the role table -/

def proxies : List Bool := [false, true]
def behaviours : List LeaderBehaviour := [.ok, .down, .err]

/-- The check of one row, evaluated by `decide` in `role_table`. -/
def rowOk (g : HandlerGuard) : Bool :=
  match g.kind with
  | .write | .watch =>
      g.firstGuard == .isLeader && !g.touchesBackendBeforeGuard && !g.unguardedBackend &&
      (!g.rpc || (proxies.all fun p => behaviours.all fun lb =>
          (outcome g .follower p lb == .forwarded || outcome g .follower p lb == .unavailable) &&
          !backendAccess g .follower p lb))
  | .read =>
      g.firstGuard == .syncRead && !g.touchesBackendBeforeGuard && !g.unguardedBackend && g.returnsGuardError &&
      proxies.all fun p => [LeaderBehaviour.down, .err].all fun lb =>
          outcome g .follower p lb == .syncError && !backendAccess g .follower p lb
  | .other => g.backendCalls.isEmpty

/-- Every handler of both APIs, as extracted from the current source: write and watch handlers test
`IsLeader` before any data access to the backend, all their backend calls are on the leader side, and on a
follower they forward or answer unavailable; read handlers call `SyncReadRevision` first, return its error
and touch the backend only after it succeeded; the remaining handlers never touch the backend.  The
extractor resolved everything. -/
theorem role_table : handlerGuards.all rowOk = true ∧ handlerGuardsUnresolved = [] := by decide

theorem row_ok {g : HandlerGuard} (hg : g ∈ handlerGuards) : rowOk g = true :=
  List.all_eq_true.mp role_table.1 g hg

/-- The corollaries of the role table hold of ANY guard record that passes the row check; the table enters only
through `row_ok`. -/
theorem follower_never_writes_or_streams_of_rowOk {g : HandlerGuard} (h : rowOk g = true)
    (hk : g.kind = .write ∨ g.kind = .watch) (hr : g.rpc = true) (p : Bool) (lb : LeaderBehaviour) :
    (outcome g .follower p lb = .forwarded ∨ outcome g .follower p lb = .unavailable) ∧
    backendAccess g .follower p lb = false := by
  have hl : lb ∈ behaviours := by cases lb <;> simp [behaviours]
  unfold rowOk at h
  rcases hk with hk | hk <;> simp [hk, hr, proxies] at h <;> cases p
  · exact h.2.1 lb hl
  · exact h.2.2 lb hl
  · exact h.2.1 lb hl
  · exact h.2.2 lb hl

/-- A node that is not leader never applies a write and never serves a watch from its own history: for
every write/watch RPC of the table, whatever the proxy setting and the leader's behaviour, the request is
forwarded or refused as unavailable, and no data method of the local backend is reachable. -/
theorem follower_never_writes_or_streams {g : HandlerGuard} (hg : g ∈ handlerGuards)
    (hk : g.kind = .write ∨ g.kind = .watch) (hr : g.rpc = true) (p : Bool) (lb : LeaderBehaviour) :
    (outcome g .follower p lb = .forwarded ∨ outcome g .follower p lb = .unavailable) ∧
    backendAccess g .follower p lb = false :=
  follower_never_writes_or_streams_of_rowOk (row_ok hg) hk hr p lb

theorem writes_are_leader_side_of_rowOk {g : HandlerGuard} (h : rowOk g = true)
    (hk : g.kind = .write ∨ g.kind = .watch) :
    g.firstGuard = .isLeader ∧ g.touchesBackendBeforeGuard = false ∧ g.unguardedBackend = false := by
  unfold rowOk at h
  rcases hk with hk | hk <;> simp [hk] at h <;> exact ⟨h.1.1.1, h.1.1.2, h.1.2⟩

/-- Background write loops (brain `compactLoop`) and every write/watch handler keep all backend data calls
on the leader side of an `IsLeader` test that comes first. -/
theorem writes_are_leader_side {g : HandlerGuard} (hg : g ∈ handlerGuards)
    (hk : g.kind = .write ∨ g.kind = .watch) :
    g.firstGuard = .isLeader ∧ g.touchesBackendBeforeGuard = false ∧ g.unguardedBackend = false :=
  writes_are_leader_side_of_rowOk (row_ok hg) hk

theorem follower_read_syncs_first_of_rowOk {g : HandlerGuard} (h : rowOk g = true) (hk : g.kind = .read) :
    g.firstGuard = .syncRead ∧ g.touchesBackendBeforeGuard = false ∧ g.unguardedBackend = false ∧
    ∀ (p : Bool) (lb : LeaderBehaviour), lb ≠ .ok →
      outcome g .follower p lb = .syncError ∧ backendAccess g .follower p lb = false := by
  unfold rowOk at h
  simp [hk, proxies] at h
  refine ⟨h.1.1.1.1, h.1.1.1.2, h.1.1.2, ?_⟩
  intro p lb hlb
  cases p <;> cases lb <;> simp_all

/-- A follower answers a read only after the sync: every read handler calls `SyncReadRevision` before any
backend data access, and if the leader is down or answers with an error the read fails with that error
and the backend is not read. -/
theorem follower_read_syncs_first {g : HandlerGuard} (hg : g ∈ handlerGuards) (hk : g.kind = .read) :
    g.firstGuard = .syncRead ∧ g.touchesBackendBeforeGuard = false ∧ g.unguardedBackend = false ∧
    ∀ (p : Bool) (lb : LeaderBehaviour), lb ≠ .ok →
      outcome g .follower p lb = .syncError ∧ backendAccess g .follower p lb = false :=
  follower_read_syncs_first_of_rowOk (row_ok hg) hk

/-- Handlers of kind `other` (lease / cluster stubs, etcd Compact, Put, DeleteRange) never touch the backend. -/
theorem stubs_do_not_touch_backend {g : HandlerGuard} (hg : g ∈ handlerGuards) (hk : g.kind = .other)
    (r : Role) (p : Bool) (lb : LeaderBehaviour) : backendAccess g r p lb = false := by
  have h := row_ok hg
  unfold rowOk at h
  simp [hk] at h
  simp [backendAccess, h]

/-- The leader serves everything itself. -/
theorem leader_serves (g : HandlerGuard) (p : Bool) (lb : LeaderBehaviour) :
    outcome g .leader p lb = .servedLocally := rfl

-- the hypotheses of the corollaries are satisfiable: the table has rows of every kind
example : ∃ g ∈ handlerGuards, g.kind = .write ∧ g.rpc = true := by decide
example : ∃ g ∈ handlerGuards, g.kind = .watch ∧ g.rpc = true := by decide
example : ∃ g ∈ handlerGuards, g.kind = .read := by decide
example : ∃ g ∈ handlerGuards, g.kind = .other := by decide
-- and both follower exits occur
example : ∃ g ∈ handlerGuards, outcome g .follower true .ok = .forwarded := by decide
example : ∃ g ∈ handlerGuards, outcome g .follower false .ok = .unavailable := by decide

/-! ## Part 2 — follower reads -/

/-- THE FULL STATEMENT (false for the code as it is, see `follower_read_fresh_false`): in every reachable
state every served follower read was served at a revision ≥ the leader's committed revision when that
read began. -/
def follower_read_fresh : Prop := ∀ s, Reachable asIs s → Fresh s

/-- Witness 1 (single-flight): read 0 starts a fetch, the leader answers 10, then commits 11; read 1 begins
(leader at 11), joins the fetch in flight and is served at 10. -/
def staleJoinTrace : List Step :=
  [.readBegin 0, .fetchStart 0, .leaderAnswer .ok, .leaderCommit, .readBegin 1, .fetchJoin 1, .fetchReply,
   .setRev 0, .setRev 1, .readServe 1]

theorem joined_fetch_is_stale :
    (run asIs (init 10) staleJoinTrace).map (fun s => ((s.reads 1).phase, (s.reads 1).beginRev, (s.reads 1).late))
      = some (.served 10, 11, true) := by decide

/-- The schedule of the repaired defect: read 0 fetches 10 and is delayed before `SetCurrentRevision`; the
leader commits 11; read 1 begins, runs its OWN fetch (11), stores 11; read 0's delayed store (10) follows;
read 1 is served. -/
def lateSetTrace : List Step :=
  [.readBegin 0, .fetchStart 0, .leaderAnswer .ok, .fetchReply, .leaderCommit, .readBegin 1, .fetchStart 1,
   .leaderAnswer .ok, .fetchReply, .setRev 1, .setRev 0, .readServe 1]

/-- Witness of the REPAIRED defect (the code before db7d4ff, `beforeFix`: `SetCurrentRevision` a plain store):
read 0's delayed store puts 10 back; read 1 is served at 10 although what it fetched itself was fresh. -/
theorem late_set_lowers_revision :
    (run beforeFix (init 10) lateSetTrace).map
        (fun s => ((s.reads 1).phase, (s.reads 1).beginRev, (s.reads 1).late, (s.reads 1).fetched))
      = some (.served 10, 11, false, some 11) := by decide

/-- The same schedule on the code as it is: the delayed store of 10 is ignored, read 1 is served at 11. -/
theorem late_set_schedule_fresh_now :
    (run asIs (init 10) lateSetTrace).map
        (fun s => ((s.reads 1).phase, (s.reads 1).beginRev, (s.reads 1).late, (s.reads 1).fetched, s.followerRev))
      = some (.served 11, 11, false, some 11, 11) := by decide

theorem follower_read_fresh_false : ¬ follower_read_fresh := by
  intro h
  obtain ⟨s, hrun, hw⟩ := Option.map_eq_some_iff.mp joined_fetch_is_stale
  simp at hw
  have hf := h s ⟨10, staleJoinTrace, hrun⟩ 1 10 hw.1
  omega

/-- Each switch alone is not enough: the monotone store — which is what the code has now, `asIs` — does not
help a read that joined a stale fetch … -/
theorem monotone_set_alone_insufficient :
    asIs = { monotoneSet := true, retryLateJoin := false } ∧
    (run asIs (init 10) staleJoinTrace).map
        (fun s => ((s.reads 1).phase, (s.reads 1).beginRev)) = some (.served 10, 11) := by decide

/-- … and refusing stale joins would not have helped against the delayed plain store of the old code. -/
theorem retry_alone_insufficient :
    (run { monotoneSet := false, retryLateJoin := true } (init 10) lateSetTrace).map
        (fun s => ((s.reads 1).phase, (s.reads 1).beginRev)) = some (.served 10, 11) := by decide

/-! ### the repaired half: the follower's read revision never goes back -/

/-- No step of the code as it is lowers the follower's read revision (from ANY state, reachable or not). -/
theorem follower_rev_never_decreases {s s' : State} {st : Step} (h : step asIs s st = some s') :
    s.followerRev ≤ s'.followerRev :=
  followerRev_step_mono rfl h

/-- … hence along every execution. -/
theorem follower_rev_never_decreases_run {s s' : State} {tr : List Step} (h : run asIs s tr = some s') :
    s.followerRev ≤ s'.followerRev :=
  followerRev_run_mono rfl h

/-- The follower's read revision is ≥ every value any read has stored so far, and a read is served at a
revision ≥ the one it stored itself. -/
theorem read_revision_covers_stored {s : State} (hs : Reachable asIs s) (r w : Nat)
    (hw : (s.reads r).fetched = some w) :
    w ≤ s.followerRev ∧ ∀ v, (s.reads r).phase = .served v → w ≤ v :=
  ⟨(invAsIs_reachable rfl s hs).stored_le r w hw, fun v hv => (invAsIs_reachable rfl s hs).served_ge r v w hv hw⟩

/-- THE FULL STATEMENT RESTRICTED TO READS THAT DID THEIR OWN FETCH, any interleaving: in every reachable
state of the code as it is, every served read that did not join a fetch the leader had already answered
(`late = false`: it started the fetch itself or joined one still unanswered) was served at a revision ≥ the
leader's committed revision when it began. -/
theorem own_fetch_read_fresh : ∀ s, Reachable asIs s → FreshOwn s :=
  fun s hs => (invAsIs_reachable rfl s hs).freshOwn

/-- `late-set-lowers-revision` is repaired: (1) from every reachable state, no step lowers the follower's
read revision; (2) in every reachable state every served read with `late = false` is fresh — a delayed store
of an older answer can no longer put a read that fetched a fresh revision below it. -/
theorem late_set_does_not_lower :
    (∀ s s' st, Reachable asIs s → step asIs s st = some s' → s.followerRev ≤ s'.followerRev) ∧
    (∀ s, Reachable asIs s → ∀ r v, (s.reads r).phase = .served v → (s.reads r).late = false →
      (s.reads r).beginRev ≤ v) :=
  ⟨fun _ _ _ _ h => follower_rev_never_decreases h, own_fetch_read_fresh⟩

/-- The late join is the ONLY remaining source of staleness: a read served below the leader's committed
revision at its begin joined a fetch the leader had already answered. -/
theorem stale_read_joined_late {s : State} (hs : Reachable asIs s) (r v : Nat)
    (hv : (s.reads r).phase = .served v) (hst : v < (s.reads r).beginRev) : (s.reads r).late = true := by
  cases hl : (s.reads r).late with
  | true => rfl
  | false => have := own_fetch_read_fresh s hs r v hv hl; omega

-- the hypotheses are satisfiable: a reachable state with a served read that ran its own fetch while another
-- read's store was delayed (the late-set schedule) …
example : ∃ s, Reachable asIs s ∧ (s.reads 1).phase = .served 11 ∧ (s.reads 1).late = false ∧
    (s.reads 1).beginRev = 11 := by
  obtain ⟨s, hrun, this⟩ := Option.map_eq_some_iff.mp late_set_schedule_fresh_now
  simp at this
  exact ⟨s, ⟨10, lateSetTrace, hrun⟩, this.1, this.2.2.1, this.2.1⟩
-- … and one with a stale served read (the stale-join schedule)
example : ∃ s, Reachable asIs s ∧ (s.reads 1).phase = .served 10 ∧ 10 < (s.reads 1).beginRev := by
  obtain ⟨s, hrun, this⟩ := Option.map_eq_some_iff.mp joined_fetch_is_stale
  simp at this
  exact ⟨s, ⟨10, staleJoinTrace, hrun⟩, this.1, by omega⟩

/-! ### what does hold for the code as it is -/

/-- What a read itself stores is fresh, unless it joined a fetch the leader had already answered: the value
a read passes to `SetCurrentRevision` is ≥ the leader's committed revision when the read began. -/
theorem fetched_value_fresh {s : State} (hs : Reachable asIs s) (r v : Nat)
    (hv : (s.reads r).fetched = some v) (hl : (s.reads r).late = false) : (s.reads r).beginRev ≤ v :=
  (invAsIs_reachable rfl s hs).own r v hv hl

/-- A read is served only after its own sync succeeded … -/
theorem served_only_after_own_sync {s : State} (hs : Reachable asIs s) (r v : Nat)
    (hv : (s.reads r).phase = .served v) : ∃ w, (s.reads r).fetched = some w :=
  (invAsIs_reachable rfl s hs).fetched_some r (.inr ⟨v, hv⟩)

/-- … and a read whose fetch failed (leader unreachable or answering with an error) can only fail: whatever
happens next it stays in `got none` / `failed` — it is never served — and its own next step returns the error
without storing anything (the follower's read revision is untouched). -/
theorem unreachable_leader_read_fails {vt : Variant} {s s' : State} {st : Step} (r : Nat)
    (h : step vt s st = some s')
    (hp : (s.reads r).phase = .got none ∨ (s.reads r).phase = .failed) :
    ((s'.reads r).phase = .got none ∨ (s'.reads r).phase = .failed) ∧
    (st = .setRev r → (s'.reads r).phase = .failed ∧ s'.followerRev = s.followerRev) := by
  -- a step that moves a read `q` out of a phase other than `got none`, `failed` does not move `r`
  have other : ∀ q x, (s.reads q).phase ≠ .got none → (s.reads q).phase ≠ .failed →
      r ≠ q ∧ ((upd s.reads q x r).phase = .got none ∨ (upd s.reads q x r).phase = .failed) := by
    intro q x h1 h2
    have hqr : r ≠ q := by rintro rfl; exact hp.elim h1 h2
    exact ⟨hqr, by rw [upd_apply, if_neg hqr]; exact hp⟩
  cases step_steps h with
  | leaderCommit | leaderAnswer => exact ⟨hp, nofun⟩
  | fetchReply w =>
    refine ⟨?_, nofun⟩
    show (deliver vt w (s.reads r)).phase = _ ∨ (deliver vt w (s.reads r)).phase = _
    rwa [deliver_of_not_waiting (by rcases hp with hp | hp <;> simp [hp])]
  | setRev q v hph =>
    have := other q { s.reads q with phase := .synced, fetched := some v } (by simp [hph]) (by simp [hph])
    exact ⟨this.2, fun e => absurd (Step.setRev.inj e).symm this.1⟩
  | setRevFailed q =>
    by_cases hqr : r = q
    · subst hqr; exact ⟨.inr (by simp [upd_apply]), fun _ => ⟨by simp [upd_apply], rfl⟩⟩
    · simp only [upd_apply, if_neg hqr]; exact ⟨hp, fun e => absurd (Step.setRev.inj e).symm hqr⟩
  | _ => exact ⟨(other _ _ (by simp [*]) (by simp [*])).2, nofun⟩

-- such a state is reachable: the leader is down, the read fails
example : (run asIs (init 10) [.readBegin 0, .fetchStart 0, .leaderAnswer .down, .fetchReply, .setRev 0]).map
    (fun s => ((s.reads 0).phase, s.followerRev)) = some (.failed, 10) := by decide

/-- PARTIAL VERSION: when follower reads do not overlap (a read begins only when no other read is between
its begin and its end), every served read is fresh.  Single-flight never shares. -/
theorem follower_read_fresh_partial : ∀ s, ReachableSeq asIs s → Fresh s := by
  intro s hs
  exact (invSeq_reachable rfl s hs).served

-- the hypothesis is satisfiable with a served read and an advancing leader
example : ∃ s, ReachableSeq asIs s ∧ (s.reads 0).phase = .served 11 ∧ (s.reads 0).beginRev = 11 := by
  have h0 : ReachableSeq asIs (init 10) := .init 10
  have h1 := ReachableSeq.other (s' := _) .leaderCommit h0 (by intro r; simp) rfl
  have h2 := ReachableSeq.begin (s' := _) 0 h1 (by intro i; simp [init, active]) rfl
  have h3 := ReachableSeq.other (s' := _) (.fetchStart 0) h2 (by intro r; simp) rfl
  have h4 := ReachableSeq.other (s' := _) (.leaderAnswer .ok) h3 (by intro r; simp) rfl
  have h5 := ReachableSeq.other (s' := _) .fetchReply h4 (by intro r; simp) rfl
  have h6 := ReachableSeq.other (s' := _) (.setRev 0) h5 (by intro r; simp) rfl
  have h7 := ReachableSeq.other (s' := _) (.readServe 0) h6 (by intro r; simp) rfl
  exact ⟨_, h7, by decide, by decide⟩

/-! ### the proposed repair -/

/-- With the proposed repair on top of the code as it is (a joiner of a fetch that was already answered
discards the result and fetches again; the follower's read revision only ever rises — that half is in /repo
since db7d4ff) the FULL statement holds, under any interleaving. -/
theorem follower_read_fresh_fixed : ∀ s, Reachable fixed s → Fresh s := by
  intro s hs
  exact (invFixed_reachable s hs).served

-- … and the repaired system still serves reads (the stale-join schedule ends with read 1 served at 11)
example : (run fixed (init 10) [.readBegin 0, .fetchStart 0, .leaderAnswer .ok, .leaderCommit, .readBegin 1,
    .fetchJoin 1, .fetchReply, .fetchStart 1, .leaderAnswer .ok, .fetchReply, .setRev 1, .setRev 0,
    .readServe 1]).map (fun s => ((s.reads 1).phase, (s.reads 1).beginRev)) = some (.served 11, 11) := by decide

/-! ## Part 3 — forwarded write transactions -/

/-- THE LAW of the forward path (code as it is): a forwarded transaction is executed exactly once per client
request — never twice — and when its answer is lost the client is answered Unavailable (outcome unknown). -/
theorem forward_at_most_once (st : Store) (k : Nat) (sh : TxnShape) (lost : Bool) :
    (forward false st k sh lost).executions = 1 ∧
    (lost = true → (forward false st k sh lost).answer = .unavailable) := by
  cases lost <;> simp [forward]

/-- A definite answer is truthful: "condition failed" is only answered for a transaction that left the store
unchanged, "succeeded" only for one whose write took effect. -/
theorem forward_definite_answer_truthful (st : Store) (k : Nat) (sh : TxnShape) (lost : Bool) :
    ((forward false st k sh lost).answer = .failed →
        (forward false st k sh lost).applied = false ∧ (forward false st k sh lost).store = st) ∧
    ((forward false st k sh lost).answer = .ok → (forward false st k sh lost).applied = true) := by
  have hfail : (execTxn st k sh).2 = false → (execTxn st k sh).1 = st := by
    cases sh with
    | create => simp only [execTxn]; cases st.modRev k <;> simp
    | update g => simp only [execTxn]; by_cases h : st.modRev k = some g <;> simp [h]
  cases lost
  · cases h2 : (execTxn st k sh).2
    · simp [forward, h2, hfail h2]
    · simp [forward, h2]
  · simp [forward]

/-- Why the forward path must not send the transaction again on Unavailable: the leader had executed the
create, its answer was lost; the second execution finds the key the first one wrote and the client is told
definitively that its condition FAILED although its write took effect (two executions for one request). -/
theorem resend_reports_failed_for_applied_write :
    (let r := forward true { rev := 1000 } 1 .create true
     (r.answer, r.executions, r.applied, r.store.modRev 1)) = (.failed, 2, true, some 1001) := by decide

/-- … the same for a guarded update (the first execution moves the key's revision past the guard). -/
theorem resend_reports_failed_for_applied_update :
    (let st := (execTxn { rev := 1000 } 1 .create).1
     let r := forward true st 1 (.update 1001) true
     (r.answer, r.executions, r.applied, r.store.modRev 1)) = (.failed, 2, true, some 1002) := by decide

-- the lost-answer case of the law on the same inputs: Unavailable, one execution, the write is there
example : (let r := forward false { rev := 1000 } 1 .create true
     (r.answer, r.executions, r.applied, r.store.modRev 1)) = (.unavailable, 1, true, some 1001) := by decide

end KB.C18
