/-
  C02 (lagging allocator) — a key's history never goes backwards, WHATEVER the revision allocator hands out.

  `C02Store.per_key_increasing` assumes `C02.StoreOK`: the allocator starts at or above everything stored (that a new
  leader does so is C15). Here the allocator is arbitrary: `dealt` / `committed` of the initial state may be far below
  the revisions the store already holds (a deposed leader that has not noticed yet, an engine clock that lags). What
  protects a key then are the LOCAL guards of the write path:
    * `backend.deal`: an update / guarded delete dealt `rev ≤ expected` is refused (`ErrRevisionDriftBack`),
    * `backend.delete`: refused when `rev ≤ modRev` of the version it read,
    * `naiveCreator`: a deletion record is overwritten only when `prevRev < rev`,
    * `retry.overwrite`: NO explicit guard — it is safe because the revision it repairs was dealt earlier by the
      same monotone allocator (the queue is in-memory and empty at start); `repair_queue_must_start_empty` below shows
      what a pre-filled queue would do.
  Model: KB.Sys, all interleavings, all fault placements, any number of requests, the two-step repair loop.
  Helper lemmas: KB.Lemmas.SysLag.
-/
import KB.Lemmas.SysLag
namespace KB.C02Lag
open Generated KB.SysStore KB.SysLag

/-- Initial states: empty control state and ghost logs (as `C04.Init` / `C02.Init`), but NOTHING about `dealt`
and `committed` — neither their relation to the stored revisions nor to each other. -/
def LagInit (g : G) : Prop :=
  g.slots = [] ∧ g.clients = [] ∧ g.retryQ = [] ∧ g.retryPc = none ∧ g.hist = [] ∧ g.wlog = []

instance (g : G) : Decidable (LagInit g) := by unfold LagInit; infer_instance

theorem ctl_init {g0 : G} (h0 : LagInit g0) : Ctl g0 := by
  obtain ⟨hs, hc, hq, hp, _⟩ := h0
  exact ⟨by simp [hc], by simp [hs], by simp [hq], by simp [hp]⟩

theorem lagG_init {g0 : G} (h0 : LagInit g0) (hwf : KeyWF g0.store) : LagG g0 g0 := by
  obtain ⟨_, _, _, _, hh, hw⟩ := h0
  exact ⟨by rw [hw]; exact Lag.init hwf, by rw [hh, hw]; rfl⟩

theorem linv {g0 g : G} (h0 : LagInit g0) (hwf : KeyWF g0.store) (hr : Reachable g0 g) (hb : g.dealt < 2 ^ 64) :
    Ctl g ∧ LagG g0 g := by
  obtain ⟨s, rfl⟩ := hr
  exact LInv.run hwf s g0 (ctl_init h0) (lagG_init h0 hwf) hb

/-! ### the property -/

/-- **No applied write ever lands at or below a revision its key already has — whatever the allocator hands out.**
From any well-formed store and any allocator value, along every run (every interleaving of requests, sequencer and
repair loop, every fault placement): per key, the revisions of the batches the engine applied strictly increase,
and each of them is strictly greater than every revision the key had in the initial store (index value and
versions). `hb`: the allocator has not left the 8-byte range (past it revisions wrap: `SysStore.index_agrees_needs_bound`). -/
theorem lagging_allocator_key_history_increasing {g0 g : G} (h0 : LagInit g0) (hwf : KeyWF g0.store)
    (hr : Reachable g0 g) (hb : g.dealt < 2 ^ 64) (k : Bytes) :
    ((g.hist.filter (fun w => w.key == k)).map (·.rev)).Pairwise (· < ·) ∧
    ∀ w ∈ g.hist, w.key = k → ∀ r, StoredRev g0.store k r → r < w.rev := by
  obtain ⟨_, hl⟩ := linv h0 hwf hr hb
  constructor
  · have := hl.lag.inc k
    rw [hl.hist, List.filter_map, List.map_map]
    exact this
  · intro w hw hk r hs
    rw [hl.hist] at hw
    obtain ⟨x, hx, rfl⟩ := List.mem_map.mp hw
    have hk' : x.key = k := hk
    exact hl.lag.above x hx r (by rw [hk']; exact hs)

/-- the same on the log that also records the condition each batch was committed under -/
theorem lagging_allocator_wlog_increasing {g0 g : G} (h0 : LagInit g0) (hwf : KeyWF g0.store)
    (hr : Reachable g0 g) (hb : g.dealt < 2 ^ 64) (k : Bytes) :
    ((g.wlog.filter (fun w => w.key == k)).map (·.rev)).Pairwise (· < ·) ∧
    (∀ w ∈ g.wlog, w.key = k → ∀ r, StoredRev g0.store k r → r < w.rev) ∧
    (∀ w ∈ g.wlog, w.key = k → ∃ m t, topOf g.store k = some (m, t) ∧ w.rev ≤ m) := by
  obtain ⟨_, hl⟩ := linv h0 hwf hr hb
  refine ⟨hl.lag.inc k, ?_, ?_⟩
  · intro w hw hk r hs
    exact hl.lag.above w hw r (by rw [hk]; exact hs)
  · intro w hw hk
    have := hl.lag.top w hw
    rwa [hk] at this

/-- **`KeyWF` is an invariant**: in every reachable store the index record of a key names its newest version (and
a key without index record has no version). -/
theorem lagging_allocator_store_wf {g0 g : G} (h0 : LagInit g0) (hwf : KeyWF g0.store)
    (hr : Reachable g0 g) (hb : g.dealt < 2 ^ 64) : KeyWF g.store :=
  (linv h0 hwf hr hb).2.lag.wf

/-- ... and the index revision of a key never decreases, nor is the record ever removed by the write path. -/
theorem lagging_allocator_index_monotone {g0 g : G} (h0 : LagInit g0) (hwf : KeyWF g0.store)
    (hr : Reachable g0 g) (hb : g.dealt < 2 ^ 64) (k : Bytes) (m0 : Nat) (t0 : Bool)
    (h : topOf g0.store k = some (m0, t0)) : ∃ m t, topOf g.store k = some (m, t) ∧ m0 ≤ m :=
  (linv h0 hwf hr hb).2.lag.mono k m0 t0 h

/-- Requests over the documented alphabet keep the store over the alphabet (the part of "decodes to sorted records
over the alphabet" that depends on what clients send; `KeyWF` itself does not). -/
theorem lagging_allocator_store_alpha {g0 : G} (h0 : LagInit g0) (hal : StoreAlpha g0.store) (s : List Action)
    (hs : ∀ a ∈ s, ActAlpha a) : StoreAlpha (run g0 s).store := by
  obtain ⟨hsl, hcl, hq, hp, _⟩ := h0
  have hA : AlphaInv g0 := ⟨by simp [hcl], by simp [hsl], by simp [hq], hal, by simp [hp]⟩
  exact (hA.run s hs).st

/-- In particular a point read returns the version the index names: for every reachable state of a run over the
alphabet, `getInternal` of a key with index record `iv` returns the version at the revision `iv` parses to. -/
theorem lagging_allocator_read_newest {g0 : G} (h0 : LagInit g0) (hwf : KeyWF g0.store) (hal : StoreAlpha g0.store)
    (s : List Action) (hs : ∀ a ∈ s, ActAlpha a) (hb : (run g0 s).dealt < 2 ^ 64) (k : Bytes) (hka : Alphabet k)
    (iv : Bytes) (hi : (run g0 s).store.get (idxKey k) = some iv) :
    ∃ m t val, parseRevision iv = some (m, t) ∧
      getInternal (run g0 s).cfg (run g0 s).store k 0 = some (val, m) ∧ (t = true → val = tombstone) :=
  (lagging_allocator_store_wf h0 hwf ⟨s, rfl⟩ hb).read_newest _ (lagging_allocator_store_alpha h0 hal s hs) hka hi

/-! ### the two guards at work -/

theorem find_setClient (l : List Client) (c c' : Client) (hid : c'.id = c.id)
    (h : l.find? (fun x => x.id == c.id) = some c) :
    (l.map (fun x => if x.id == c'.id then c' else x)).find? (fun x => x.id == c.id) = some c' := by
  rw [hid]
  induction l with
  | nil => simp at h
  | cons x xs ih =>
    simp only [List.map_cons, List.find?_cons] at h ⊢
    by_cases hx : x.id = c.id
    · simp [hx, hid]
    · have hx' : (x.id == c.id) = false := by simpa using hx
      rw [hx'] at h
      simp only [hx', Bool.false_eq_true, if_false]
      exact ih h

theorem client_setClient (g : G) (c c' : Client) (hid : c'.id = c.id) (h : g.client c.id = some c) :
    (g.setClient c').client c.id = some c' := find_setClient g.clients c c' hid h

/-- **The drift guard of `deal`.** In ANY state (in particular in every state reachable from a lagging initial
state): an update conditioned on revision `m` that is dealt a revision `≤ m` finishes in its first step with
`ErrRevisionDriftBack`; store and history are untouched. (When `m` is the key's current revision the engine's CAS
would have let it through: `cas_alone_admits_stale_write`.) `hopen`: `Deal` hands out a revision at all (since /repo
624b477 it refuses while the sequencer's window is full: `C04Window.window_full_is_refused_not_panicked`). -/
theorem lagging_update_refused (g : G) {c : Client} (hc : g.client c.id = some c) {key val : Bytes} {m : Nat}
    (hpc : c.pc = .start) (hk : c.kind = .update key val m) (hopen : g.windowFull = false) (hlag : g.dealt + 1 ≤ m)
    (f : Fault) :
    (act g (.step c.id f)).store = g.store ∧ (act g (.step c.id f)).hist = g.hist ∧
    (act g (.step c.id f)).wlog = g.wlog ∧ (act g (.step c.id f)).client c.id = none ∧
    (act g (.step c.id f)).done = g.done ++
      [{ id := c.id, kind := c.kind, res := .error .drift, rev := g.dealt + 1, beginDealt := c.beginDealt,
         endDealt := g.dealt + 1 }] := by
  rw [act_step_of g c.id f c hc]
  obtain ⟨id, kind, pc, bd⟩ := c
  simp only at hpc hk
  subst hpc hk
  have e0 : (m == 0) = false := by simp; omega
  have hopen' : windowFullAt g.cfg g.dealt g.committed = false := hopen
  simp only [stepClient, stepClientCore, dealSite, G.windowFull, hopen', Bool.and_false, e0, hlag, if_true,
    Bool.false_eq_true, if_false]
  refine ⟨by simp, by simp, by simp, ?_, by simp [G.finish]⟩
  simp only [G.client, G.finish, List.find?_eq_none, List.mem_filter]
  intro x hx
  simpa using hx.2

/-- The guard needs only what the delete READ: an unconditional delete whose read found a version at `m` and which is
dealt a revision `≤ m` finishes with an error; store and history are untouched. -/
theorem delete_refused_of_read (g : G) {c : Client} (hc : g.client c.id = some c) {key : Bytes} (hpc : c.pc = .start)
    (hk : c.kind = .delete key 0) {v : Bytes} {m : Nat} (hfound : bget g.cfg g.store key 0 = .found v m)
    (hopen : g.windowFull = false) (hlag : g.dealt + 1 ≤ m) (f1 f2 : Fault) :
    (run g [.step c.id f1, .step c.id f2]).store = g.store ∧
    (run g [.step c.id f1, .step c.id f2]).hist = g.hist ∧
    (run g [.step c.id f1, .step c.id f2]).wlog = g.wlog ∧
    (run g [.step c.id f1, .step c.id f2]).done = g.done ++
      [{ id := c.id, kind := c.kind, res := .error .other, rev := g.dealt + 1, beginDealt := c.beginDealt,
         endDealt := g.dealt + 1 }] := by
  show (act (act g (.step c.id f1)) (.step c.id f2)).store = _ ∧ (act (act g (.step c.id f1)) (.step c.id f2)).hist = _ ∧
    (act (act g (.step c.id f1)) (.step c.id f2)).wlog = _ ∧ (act (act g (.step c.id f1)) (.step c.id f2)).done = _
  rw [act_step_of g c.id f1 c hc]
  obtain ⟨id, kind, pc, bd⟩ := c
  dsimp only at hpc hk hc ⊢
  subst hpc hk
  have h1 : stepClient g ⟨id, .delete key 0, .start, bd⟩ f1 =
      g.setClient ⟨id, .delete key 0, .deleteDeal (some (v, m)), bd⟩ := by
    simp only [stepClient, stepClientCore, dealSite, Bool.false_and, Bool.false_eq_true, if_false, hfound]
  rw [h1, act_step_of _ id f2 _ (client_setClient g ⟨id, .delete key 0, .start, bd⟩
    ⟨id, .delete key 0, .deleteDeal (some (v, m)), bd⟩ rfl hc)]
  have hopen' : windowFullAt g.cfg g.dealt g.committed = false := hopen
  have hopen2 : (g.setClient ⟨id, .delete key 0, .deleteDeal (some (v, m)), bd⟩).windowFull = false := hopen'
  simp only [stepClient, stepClientCore, dealSite, hopen2, Bool.and_false, G.setClient_dealt, hlag, Nat.lt_irrefl,
    decide_false, Bool.false_and, Bool.false_eq_true, if_false, if_true, gt_iff_lt]
  refine ⟨by simp, by simp, by simp, by simp [G.finish]⟩

/-- **The `rev ≤ modRev` guard of `delete`.** In a well-formed store over the alphabet (every reachable store of a
run over the alphabet is: `lagging_allocator_store_wf`, `lagging_allocator_store_alpha`), an unconditional delete
of a live key whose index names revision `m`: its read returns `m`; dealt a revision `≤ m` it finishes with an
error; store and history are untouched. -/
theorem lagging_delete_refused (g : G) (hwf : KeyWF g.store) (hal : StoreAlpha g.store) {c : Client}
    (hc : g.client c.id = some c) {key : Bytes} (hka : Alphabet key) (hpc : c.pc = .start)
    (hk : c.kind = .delete key 0) {iv v : Bytes} {m : Nat} {t : Bool}
    (hidx : g.store.get (idxKey key) = some iv) (hp : parseRevision iv = some (m, t))
    (hv : g.store.get (encode key m) = some v) (hlive : isTomb v = false) (hopen : g.windowFull = false)
    (hlag : g.dealt + 1 ≤ m) (f1 f2 : Fault) :
    (run g [.step c.id f1, .step c.id f2]).store = g.store ∧
    (run g [.step c.id f1, .step c.id f2]).hist = g.hist ∧
    (run g [.step c.id f1, .step c.id f2]).wlog = g.wlog ∧
    (run g [.step c.id f1, .step c.id f2]).done = g.done ++
      [{ id := c.id, kind := c.kind, res := .error .other, rev := g.dealt + 1, beginDealt := c.beginDealt,
         endDealt := g.dealt + 1 }] := by
  -- the read returns the version the index names
  obtain ⟨m0, t0, hp0, hm0, hmb, _, habove⟩ := hwf.idx key iv hidx
  cases hp.symm.trans hp0
  have hget' : getInternal g.cfg g.store key 0 = some (v, m) :=
    getInternal_newest g.cfg hwf.sorted hal hm0 hmb hka hv habove
  have hfound : bget g.cfg g.store key 0 = .found v m := by simp [bget, hget', hlive]
  exact delete_refused_of_read g hc hpc hk hfound hopen hlag f1 f2

/-- the same for the states of a run over the alphabet from a lagging initial state -/
theorem lagging_delete_refused_reachable {g0 : G} (h0 : LagInit g0) (hwf : KeyWF g0.store)
    (hal : StoreAlpha g0.store) (s : List Action) (hs : ∀ a ∈ s, ActAlpha a) (hb : (run g0 s).dealt < 2 ^ 64)
    {c : Client} (hc : (run g0 s).client c.id = some c) {key : Bytes} (hka : Alphabet key) (hpc : c.pc = .start)
    (hk : c.kind = .delete key 0) {iv v : Bytes} {m : Nat} {t : Bool}
    (hidx : (run g0 s).store.get (idxKey key) = some iv) (hp : parseRevision iv = some (m, t))
    (hv : (run g0 s).store.get (encode key m) = some v) (hlive : isTomb v = false)
    (hopen : (run g0 s).windowFull = false) (hlag : (run g0 s).dealt + 1 ≤ m) (f1 f2 : Fault) :
    (run (run g0 s) [.step c.id f1, .step c.id f2]).store = (run g0 s).store ∧
    (run (run g0 s) [.step c.id f1, .step c.id f2]).hist = (run g0 s).hist ∧
    (run (run g0 s) [.step c.id f1, .step c.id f2]).wlog = (run g0 s).wlog ∧
    (run (run g0 s) [.step c.id f1, .step c.id f2]).done = (run g0 s).done ++
      [{ id := c.id, kind := c.kind, res := .error .other, rev := (run g0 s).dealt + 1, beginDealt := c.beginDealt,
         endDealt := (run g0 s).dealt + 1 }] :=
  lagging_delete_refused (run g0 s) (lagging_allocator_store_wf h0 hwf ⟨s, rfl⟩ hb)
    (lagging_allocator_store_alpha h0 hal s hs) hc hka hpc hk hidx hp hv hlive hopen hlag f1 f2

/-! ### each guard is needed -/

/-- The engine's compare-and-swap alone does not order revisions: when the index of `k` is `be8 m`, the batch of an
update conditioned on `m` commits for EVERY new revision `r` — also `r ≤ m`. -/
theorem cas_alone_admits_stale_write (q : Quirks) (st : Store) (k v : Bytes) (m r : Nat)
    (hidx : st.get (idxKey k) = some (be8 m)) :
    commit q st [.cas (idxKey k) (be8 r) (be8 m), .put (encode k r) v] =
      .ok ((st.put (idxKey k) (be8 r)).put (encode k r) v) :=
  (commit_cas_put ..).mpr ⟨hidx, rfl⟩

/-- with `r = m` it rewrites the version at `m` in place: one revision, two values -/
theorem cas_alone_rewrites_in_place (q : Quirks) (st : Store) (k v : Bytes) (m : Nat)
    (hidx : st.get (idxKey k) = some (be8 m)) :
    ∃ st', commit q st [.cas (idxKey k) (be8 m) (be8 m), .put (encode k m) v] = .ok st' ∧
      st'.get (encode k m) = some v :=
  ⟨_, cas_alone_admits_stale_write q st k v m m hidx, by rw [Store.get_put_any]; simp⟩

/-- with `r < m` it leaves the index naming `r` although the version at `m` is still there (and newer) -/
theorem cas_alone_lands_below (q : Quirks) (st : Store) (k v old : Bytes) (m r : Nat) (h0 : 0 < r) (hlt : r < m)
    (hm : m < 2 ^ 64) (hidx : st.get (idxKey k) = some (be8 m)) (hver : st.get (encode k m) = some old) :
    ∃ st', commit q st [.cas (idxKey k) (be8 r) (be8 m), .put (encode k r) v] = .ok st' ∧
      topOf st' k = some (r, false) ∧ st'.get (encode k m) = some old := by
  refine ⟨_, cas_alone_admits_stale_write q st k v m r hidx, ?_, ?_⟩
  · have := topOf_wstore (store := st) (key := k) (rev := r) (new := be8 r) (v := v) h0 (by omega) k
    unfold wstore at this
    rw [this, if_pos rfl]
    exact parse_be8 (by omega)
  · have := wstore_get_ver (store := st) (key := k) (rev := r) (new := be8 r) (v := v) (by omega) k m (by omega) hm
    unfold wstore at this
    rw [this, if_neg (by omega)]
    exact hver

/-- `stepClient` with the drift check removed from `deal` (seeded bug: `rev ≤ prevRevision` no longer refused);
every other arm is `stepClient`. -/
def stepClientNoDrift (g : G) (c : Client) (f : Fault) : G :=
  match c.pc, c.kind with
  | .start, .update _ _ exp =>
    let rev := g.dealt + 1
    let g := { g with dealt := rev }
    if exp == 0 then g.setClient { c with pc := .createCommit rev }
    else g.setClient { c with pc := .updateCommit rev }
  | .deleteDeal (some (oldVal, modRev)), .delete key exp =>
    let rev := g.dealt + 1
    let g := { g with dealt := rev }
    let inval := mkW rev modRev false .delete key oldVal
    if exp > 0 && exp != modRev then
      (g.notify inval).setClient { c with pc := .readLatest rev (some (key, oldVal, modRev)) }
    else if rev ≤ modRev then (g.notify inval).finish c (.error .other) rev
    else g.setClient { c with pc := .deleteCommit rev oldVal modRev }
  | _, _ => stepClient g c f

/-- `stepClient` with the `newRevision <= modRevision` check removed from `delete` (seeded bug). -/
def stepClientNoDeleteGuard (g : G) (c : Client) (f : Fault) : G :=
  match c.pc, c.kind with
  | .deleteDeal (some (oldVal, modRev)), .delete key exp =>
    let rev := g.dealt + 1
    let g := { g with dealt := rev }
    let inval := mkW rev modRev false .delete key oldVal
    if exp > 0 && rev ≤ exp then (g.notify inval).finish c (.error .drift) rev
    else if exp > 0 && exp != modRev then
      (g.notify inval).setClient { c with pc := .readLatest rev (some (key, oldVal, modRev)) }
    else g.setClient { c with pc := .deleteCommit rev oldVal modRev }
  | _, _ => stepClient g c f

/-- `createSawIndex` with the creator's `prevRevision < revision` check removed: any deletion record is overwritten. -/
def createSawIndexNoGuard (g : G) (c : Client) (key val : Bytes) (rev : Nat) (old : Bytes) : G :=
  match parseRevision old with
  | none => finishCreate g c key val rev .err
  | some (_, tomb) =>
    if tomb then g.setClient { c with pc := .createOver rev old 0 }
    else finishCreate g c key val rev (.conflict none none)

/-- `stepClient` with that creator (the two arms that look at the old index value). -/
def stepClientNoCreatorGuard (g : G) (c : Client) (f : Fault) : G :=
  match c.pc, c.kind with
  | .createCommit rev, k =>
    let (key, val) := match k with
      | .create k v => (k, v)
      | .update k v _ => (k, v)
      | .delete k _ => (k, [])
    let (r, st) := doCommit g.cfg g.store (createOps key val rev) f
    let g := { g with store := st }
    let g := if applied r f then g.logWrite key rev (some val) else g
    match r with
    | .conflict idx cv =>
      if idx == some 0 then createSawIndexNoGuard g c key val rev (cv.getD [])
      else g.setClient { c with pc := .createReread rev }
    | r => finishCreate g c key val rev r
  | .createReread rev, k =>
    let (key, val) := match k with
      | .create k v => (k, v)
      | .update k v _ => (k, v)
      | .delete k _ => (k, [])
    match g.store.get (idxKey key) with
    | some old => createSawIndexNoGuard g c key val rev old
    | none => g.setClient { c with pc := .createRetry rev }
  | _, _ => stepClient g c f

/-- `act` / `run` over a replaced client step -/
def actWith (sc : G → Client → Fault → G) (g : G) : Action → G
  | .step id f =>
    match g.client id with
    | none => g
    | some c => sc g c f
  | a => act g a

def runWith (sc : G → Client → Fault → G) (g : G) (sched : List Action) : G := sched.foldl (actWith sc) g

/-- (with the real step it is `run`) -/
theorem runWith_stepClient (g : G) (s : List Action) : runWith stepClient g s = run g s := by
  unfold runWith run
  congr 1
  funext g a
  cases a <;> rfl

/-! concrete lagging state: `/a` live at revision 5, `/b` live at revision 7, allocator at 3 -/

def ka : Bytes := [47, 97]
def kb : Bytes := [47, 98]
def kc : Bytes := [47, 99]

def lagStore : Store :=
  [(idxKey ka, be8 5), (encode ka 5, [1]), (idxKey kb, be8 7), (encode kb 7, [2])]

def exLag : G := { store := lagStore, dealt := 3, committed := 3 }

/-- the store is what two create batches build from the empty one -/
theorem exLag_wf : KeyWF exLag.store :=
  (KeyWF.nil.wstore (key := ka) (rev := 5) (new := be8 5) (v := [1]) (by decide) (by decide) (parse_be8 (by decide))
    nofun fun _ _ _ => rfl).wstore (key := kb) (rev := 7) (new := be8 7) (v := [2]) (by decide) (by decide)
    (parse_be8 (by decide)) nofun fun r h hb => by
      rw [wstore_get_ver (by decide) _ _ (by omega) hb, if_neg (fun e => absurd e.1 (by decide))]; rfl

theorem exLag_alpha : StoreAlpha exLag.store :=
  StoreAlpha.wstore (StoreAlpha.wstore (st := []) nofun (key := ka) (by decide) 5 (be8 5) [1]) (key := kb) (by decide)
    7 (be8 7) [2]

def updA : List Action := [.begin 1 (.update ka [9] 5), .step 1 .none, .step 1 .none]
def delA : List Action := [.begin 1 (.delete ka 0), .step 1 .none, .step 1 .none, .step 1 .none]

/-- **Without the drift guard the history of `/a` goes backwards.** From the lagging state an update of `/a`
conditioned on its current revision 5 is dealt revision 4; without the guard its batch commits (the CAS only compares
the index with 5), the client is told `ok 4`, the applied write is at 4 < 5, the index now names 4 although version 5
is still the newest — and reads keep returning the OLD value at 5. With the guard (`run`) the same schedule is
refused and changes nothing. -/
theorem drift_guard_needed :
    LagInit exLag ∧ exLag.store.get (encode ka 5) = some [1] ∧
    (let g := runWith stepClientNoDrift exLag updA
     g.done.map (·.res) = [.ok 4] ∧ g.hist = [⟨ka, 4, some [9]⟩] ∧ topOf g.store ka = some (4, false) ∧
     g.store.get (encode ka 5) = some [1] ∧ bget g.cfg g.store ka 0 = .found [1] 5) ∧
    (let g := run exLag updA
     g.done.map (·.res) = [.error .drift] ∧ g.hist = [] ∧ g.store = exLag.store) := by
  decide +kernel

/-- the same with the allocator at 4: the update is dealt exactly 5 and REWRITES revision 5 in place (value `[1]`
at revision 5 becomes `[9]` at revision 5) -/
theorem drift_guard_needed_in_place :
    (let g := runWith stepClientNoDrift { exLag with dealt := 4, committed := 4 } updA
     g.done.map (·.res) = [.ok 5] ∧ g.hist = [⟨ka, 5, some [9]⟩] ∧ g.store.get (encode ka 5) = some [9]) ∧
    (let g := run { exLag with dealt := 4, committed := 4 } updA
     g.done.map (·.res) = [.error .drift] ∧ g.store = exLag.store) := by
  decide +kernel

/-- **Without the `rev ≤ modRev` guard of `delete`.** An unconditional delete of `/a` reads version 5, is dealt 4;
without the guard its batch commits: the client is told `ok 4`, the index says "deleted at 4", yet the newest version
is still the live one at 5 and reads keep returning it. With the guard: refused, nothing changes. -/
theorem delete_guard_needed :
    LagInit exLag ∧
    (let g := runWith stepClientNoDeleteGuard exLag delA
     g.done.map (·.res) = [.ok 4] ∧ g.hist = [⟨ka, 4, none⟩] ∧ topOf g.store ka = some (4, true) ∧
     bget g.cfg g.store ka 0 = .found [1] 5) ∧
    (let g := run exLag delA
     g.done.map (·.res) = [.error .other] ∧ g.hist = [] ∧ g.store = exLag.store) := by
  decide +kernel

/-- `/a` deleted at revision 5, allocator at 3 -/
def exLagDel : G :=
  { store := [(idxKey ka, be8 5 ++ [0]), (encode ka 5, tombstone)], dealt := 3, committed := 3 }

theorem exLagDel_wf : KeyWF exLagDel.store :=
  KeyWF.nil.wstore (key := ka) (rev := 5) (new := be8 5 ++ [0]) (v := tombstone) (by decide) (by decide)
    (parse_be8_del (by decide)) (fun _ => rfl) fun _ _ _ => rfl

def creA : List Action := [.begin 1 (.create ka [9]), .step 1 .none, .step 1 .none, .step 1 .none]

/-- **Without the creator's `prevRev < rev` guard.** A create of the deleted key is dealt 4 < 5; without the guard it
overwrites the deletion record: `ok 4`, but the newest version is still the tombstone at 5 — the key it just created
reads as not found. With the guard the create is refused and changes nothing: with an ERROR since /repo 42e5238 (the
key is absent, the condition "absent" did not fail; before that fix - `creatorTombAboveIsCf` - the answer was a
failed condition). -/
theorem creator_guard_needed :
    LagInit exLagDel ∧
    (let g := runWith stepClientNoCreatorGuard exLagDel creA
     g.done.map (·.res) = [.ok 4] ∧ g.hist = [⟨ka, 4, some [9]⟩] ∧ topOf g.store ka = some (4, false) ∧
     bget g.cfg g.store ka 0 = .notFound 5) ∧
    (let g := run exLagDel creA
     g.done.map (·.res) = [.error .other] ∧ g.hist = [] ∧ g.store = exLagDel.store ∧
     g.slots.map (fun w => (w.rev, w.valid, w.uncertain)) = [(4, false, false)]) ∧
    (let g := run { exLagDel with cfg := { creatorTombAboveIsCf := true } } creA
     g.done.map (·.res) = [.condFailed 4 none] ∧ g.hist = [] ∧ g.store = exLagDel.store) := by
  decide +kernel

/-- **The repair loop has no guard of its own**: `overwrite` deals a fresh revision and CASes `prev → new` without
comparing them. It is safe only because `prev` was dealt earlier by the same allocator — i.e. because the repair
queue starts empty (`LagInit`). Started with a queued revision the allocator has not reached (5, allocator at 3) the
rewrite lands at 4 < 5. -/
theorem repair_queue_must_start_empty :
    (let g0 : G := { exLag with retryQ := [mkW 5 0 false .create ka [1] true] }
     let g := run g0 [.retryRead, .retryCommit .none]
     KeyWF g0.store ∧ g.hist = [⟨ka, 4, some [1]⟩] ∧ topOf g.store ka = some (4, false) ∧
       g.store.get (encode ka 5) = some [1]) :=
  ⟨exLag_wf, by decide +kernel⟩

/-- **`KeyWF.noidx` is needed** (a key without index record has no versions). The write path keeps it; compaction —
not part of KB.Sys — removes the index record of a deleted key BEFORE its versions, so a compaction that fails
half-way can leave versions without index record. On such a store a create (put-if-absent on the index) from a lagging
allocator lands below the orphan version: here `/a` has an orphan tombstone at 5, the create is told `ok 4`, and the key
reads as not found. -/
theorem index_less_versions_excluded :
    (let g0 : G := { store := [(encode ka 5, tombstone)], dealt := 3, committed := 3 }
     let g := run g0 [.begin 1 (.create ka [9]), .step 1 .none, .step 1 .none]
     LagInit g0 ∧ g.done.map (·.res) = [.ok 4] ∧ g.hist = [⟨ka, 4, some [9]⟩] ∧
       g.store.get (encode ka 5) = some tombstone ∧ bget g.cfg g.store ka 0 = .notFound 5) := by
  decide +kernel

/-! ### non-vacuity -/

/-- a run from the lagging state: create of a new key (revision 4), update of `/b`@7 dealt 5 (refused), delete of `/b`
dealt 6 (refused), update of `/b`@7 dealt 7 (refused: it would rewrite 7 in place), update of `/b`@7 dealt 8: applied -/
def lagSched : List Action :=
  [ .begin 1 (.create kc [3]), .step 1 .none, .step 1 .none,
    .begin 2 (.update kb [8] 7), .step 2 .none,
    .begin 3 (.delete kb 0), .step 3 .none, .step 3 .none,
    .begin 4 (.update kb [8] 7), .step 4 .none,
    .begin 5 (.update kb [8] 7), .step 5 .none, .step 5 .none ]

example : LagInit exLag ∧ exLag.dealt = 3 ∧ topOf exLag.store ka = some (5, false) ∧
    topOf exLag.store kb = some (7, false) := by decide

example : KeyWF exLag.store ∧ StoreAlpha exLag.store := ⟨exLag_wf, exLag_alpha⟩

example : Reachable exLag (run exLag lagSched) := ⟨lagSched, rfl⟩

example :
    (run exLag lagSched).done.map (·.res) =
      [.ok 4, .error .drift, .error .other, .error .drift, .ok 8] ∧
    (run exLag lagSched).hist = [⟨kc, 4, some [3]⟩, ⟨kb, 8, some [8]⟩] ∧
    (run exLag lagSched).dealt = 8 ∧
    topOf (run exLag lagSched).store kb = some (8, false) ∧
    topOf (run exLag lagSched).store ka = some (5, false) ∧
    bget (run exLag lagSched).cfg (run exLag lagSched).store kb 0 = .found [8] 8 := by
  decide +kernel

/-- the theorem instantiated on that run: the applied write of `/b` (revision 8) is above the stored 7 -/
example : ∀ w ∈ (run exLag lagSched).hist, w.key = kb → 7 < w.rev := by
  intro w hw hk
  have h := (lagging_allocator_key_history_increasing (g0 := exLag) (by decide) exLag_wf ⟨lagSched, rfl⟩
    (by decide +kernel) kb).2 w hw hk 7
  exact h (.inl ⟨false, by decide⟩)

end KB.C02Lag
