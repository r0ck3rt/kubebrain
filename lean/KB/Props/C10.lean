/-
  C10 — Internal key encoding is reversible and order-preserving.
  Property theorems only; helper lemmas live in KB.Lemmas.Coder / KB.Bytes.
  Model: KB.Coder (encode / decode / parseRevision / prefixEnd), constants regenerated from
  /repo/pkg/backend/coder/normal.go, rev.go and pkg/backend/util.go.
-/
import KB.Lemmas.Coder
namespace KB.C10
open KB Generated

/-- Side condition tying the model's alphabet to the documented one: every byte greater than
`'$'` (0x24) is greater than the split byte *as it is in the source now*. -/
theorem documented_alphabet (k : Bytes) (h : ∀ b ∈ k, 36 < b) : Alphabet k := by
  intro b hb; have := h b hb; unfold splitByte; omega

/-- Round trip; needs no alphabet. -/
theorem decode_encode (k : Bytes) (r : Nat) (hr : r < 2 ^ 64) : decode (encode k r) = .ok k r :=
  KB.decode_encode k r hr

/-- Encoded keys sort by key first and revision second. -/
theorem encode_lt_iff {k1 k2 : Bytes} {r1 r2 : Nat} (h1 : Alphabet k1) (h2 : Alphabet k2)
    (hr1 : r1 < 2 ^ 64) (hr2 : r2 < 2 ^ 64) :
    blt (encode k1 r1) (encode k2 r2) = true ↔ (blt k1 k2 = true ∨ (k1 = k2 ∧ r1 < r2)) := by
  rw [blt_iff, encode_cmp_then h1 h2 hr1 hr2, Ordering.then_eq_lt, blt_iff, cmp_eq_iff, Nat.compare_eq_lt]

theorem encode_le_iff {k1 k2 : Bytes} {r1 r2 : Nat} (h1 : Alphabet k1) (h2 : Alphabet k2)
    (hr1 : r1 < 2 ^ 64) (hr2 : r2 < 2 ^ 64) :
    ble (encode k1 r1) (encode k2 r2) = true ↔ (blt k1 k2 = true ∨ (k1 = k2 ∧ r1 ≤ r2)) := by
  rw [ble_iff, encode_cmp_then h1 h2 hr1 hr2, blt_iff, ← cmp_eq_iff, ← Nat.compare_ne_gt]
  cases cmp k1 k2 <;> simp

/-- The index record (revision 0) of a key sorts before all of its versions. -/
theorem index_first {k : Bytes} {r : Nat} (h : Alphabet k) (hr : r < 2 ^ 64) :
    ble (encode k 0) (encode k r) = true := by
  rw [encode_le_iff h h (by decide) hr]; exact .inr ⟨rfl, Nat.zero_le _⟩

/-- All records of one key are contiguous: anything between two of them belongs to that key. -/
theorem contiguous {k k' : Bytes} {r1 r2 r' : Nat} (h : Alphabet k) (h' : Alphabet k')
    (hr1 : r1 < 2 ^ 64) (hr2 : r2 < 2 ^ 64) (hr' : r' < 2 ^ 64)
    (hlo : ble (encode k r1) (encode k' r') = true) (hhi : ble (encode k' r') (encode k r2) = true) :
    k' = k := by
  rw [encode_le_iff h h' hr1 hr'] at hlo
  rw [encode_le_iff h' h hr' hr2] at hhi
  rcases hlo with hlo | ⟨rfl, _⟩
  · rcases hhi with hhi | ⟨rfl, _⟩
    · rw [blt_iff] at hlo hhi
      have := cmp_lt_trans hlo hhi
      simp at this
    · rfl
  · rfl

/-- Prefix end: for a prefix with some byte below 0xff, `[p, prefixEnd p)` is exactly the keys
with prefix `p`. -/
theorem prefix_end_exact {p k : Bytes} (hp : ∀ b ∈ p, b < 256) (hk : ∀ b ∈ k, b < 256)
    (hne : ∃ b ∈ p, b ≠ 255) :
    hasPrefix k p = true ↔ (ble p k = true ∧ blt k (prefixEnd p) = true) := by
  rw [hasPrefix_iff_between hk, prefixEnd]
  cases he : prefixEndAux p with
  | none =>
    obtain ⟨b, hb, hb'⟩ := hne
    have := prefixEndAux_eq_none.mp he b hb
    have := hp b hb
    omega
  | some e => simp

/-- Degenerate prefixes (empty or all 0xff) yield the `noPrefixEnd` sentinel `[0]`. -/
theorem prefix_end_degenerate {p : Bytes} (h : ∀ b ∈ p, b = 255) : prefixEnd p = noPrefixEnd := by
  rw [prefixEnd, prefixEndAux_eq_none.mpr fun b hb => Nat.le_of_eq (h b hb).symm]; rfl

/-- The sentinel is below every non-empty key over the alphabet, so a range `[p, [0])` with
`p` over the alphabet is inverted and the range handlers reject it (List: `Compare(Key, End) >= 0`). -/
theorem sentinel_inverts {p : Bytes} (hp : Alphabet p) (hne : p ≠ []) :
    ble noPrefixEnd p = true := by
  cases p with
  | nil => exact absurd rfl hne
  | cons x xs =>
    have h : 0 < x := Nat.zero_lt_of_lt (hp x (List.mem_cons_self ..))
    simp [noPrefixEnd, ble, cmp_cons_cons, h]

/-- Index-record value parser: total classification by length. -/
theorem parseRevision_live (r : Nat) (hr : r < 2 ^ 64) : parseRevision (be64 r) = some (r, false) := by
  have hl : (be64 r).length = 8 := beN_length 8 r
  have : (be64 r).take 8 = be64 r := by rw [← hl]; exact List.take_length
  simp [parseRevision, hl, revisionValueLength, this, fromBE_be64 hr]

theorem parseRevision_deleted (r f : Nat) (hr : r < 2 ^ 64) :
    parseRevision (be64 r ++ [f]) = some (r, true) := by
  have hl : (be64 r).length = 8 := beN_length 8 r
  have : (be64 r ++ [f]).take 8 = be64 r := by rw [← hl]; simp
  simp [parseRevision, hl, revisionValueLength, revisionValueLengthWithDeletionFlag, this, fromBE_be64 hr]

theorem parseRevision_other (b : Bytes) (h8 : b.length ≠ 8) (h9 : b.length ≠ 9) : parseRevision b = none := by
  simp [parseRevision, revisionValueLength, revisionValueLengthWithDeletionFlag, h8, h9]

/-! ### `Decode` is total (/repo 5ace897): a key too short to be an internal key is an error, not an index out of range -/

/-- `Decode` never indexes out of range: on NO input is the answer of the model `panic`. -/
theorem decode_never_panics (ik : Bytes) : decode ik ≠ .panic := KB.decode_never_panics ik

/-- Every byte string is either decoded or reported as not an internal key. -/
theorem decode_total (ik : Bytes) : decode ik = .err ∨ ∃ k r, decode ik = .ok k r := KB.decode_total ik

/-- A key shorter than magic (4) + split byte (1) + revision (8) is reported ... -/
theorem decode_short_is_error {ik : Bytes} (h : ik.length < 13) : decode ik = .err := KB.decode_short h

/-- ... and whatever decodes is at least that long. -/
theorem decode_ok_length {ik k : Bytes} {r : Nat} (h : decode ik = .ok k r) : 13 ≤ ik.length :=
  Nat.not_lt.mp fun hl => by rw [decode_short hl] at h; cases h

/-- The repair changed nothing where the old `Decode` gave an answer. -/
theorem decode_eq_old {ik : Bytes} (h : decodeOld ik ≠ .panic) : decode ik = decodeOld ik := by
  by_cases hl : ik.length < 13
  · rw [decode_short hl, (decodeOld_short hl).resolve_left h]
  · exact (decodeOld_long (Nat.not_lt.mp hl)).symm

/-- THE DEFECT (before /repo 5ace897), by evaluation: the old `Decode` indexed out of range on the empty key, on
a 1-byte key (`internalKey[:4]`), on the bare magic (4 bytes) and on magic + 4 bytes (`internalKey[len-9]`), next
to the repaired answers. (From 9 bytes on the byte at `len-9` of a key with the right magic is a magic byte, not
the split byte, up to 12 bytes: the old code reported those as errors already.) -/
theorem old_decode_panics :
    decodeOld [] = .panic ∧ decodeOld [47] = .panic ∧ decodeOld magic = .panic ∧
    decodeOld (magic ++ [36, 0, 0, 0]) = .panic ∧
    decode [] = .err ∧ decode [47] = .err ∧ decode magic = .err ∧
    decode (magic ++ [36, 0, 0, 0]) = .err ∧
    decodeOld (magic ++ [36, 0, 0, 0, 0, 0, 0, 0]) = .err ∧
    decode (magic ++ [36, 0, 0, 0, 0, 0, 0, 0]) = .err ∧
    decode (magic ++ [36, 0, 0, 0, 0, 0, 0, 0, 7]) = .ok [] 7 := by decide

/-! ### range bounds with bytes at or below the split byte (`encodeBound` = `backend.encodeRangeBound`, /repo
23c8b93: a bound is cut at its FIRST such byte): for EVERY raw bound — arbitrary bytes — the encoded bounds
enclose exactly the records of the raw keys between the raw bounds -/

/-- The model's cut byte and loop shape are those of the source as it is now (regenerated): the bound is cut at
the first byte `<=` the constant, and the constant is the coder's split byte. -/
theorem bound_cut_as_in_source :
    rangeBoundShape = "first:<=:keyRevisionSeparator" ∧ rangeBoundSeparator = splitByte ∧ constsUnresolved = [] :=
  ⟨rfl, rfl, rfl⟩

/-- What `encodeRangeBound` computes: a bound over the alphabet is its index key; a bound `P ++ c :: rest` whose
first byte at or below the separator is `c` is "just after every version of `P`". -/
theorem encodeBound_cases (b : Bytes) :
    (Alphabet b ∧ encodeBound b = encode b 0) ∨
    (∃ P c rest, Alphabet P ∧ c ≤ splitByte ∧ b = P ++ c :: rest ∧ encodeBound b = encode P (2 ^ 64 - 1) ++ [0]) := by
  rcases cutLow_cases b with ⟨_, hb⟩ | ⟨P, c, rest, _, hP, hc, rfl⟩
  · exact .inl ⟨hb, encodeBound_of_alphabet hb⟩
  · exact .inr ⟨P, c, rest, hP, hc, rfl, encodeBound_cut hP hc rest⟩

/-- `lo ≤ k' < K ++ [0]` is `lo ≤ k' ≤ K`, and `K ++ [0] ≤ k'` is `K < k'` (any byte strings). -/
theorem succ_is_successor (k K : Bytes) :
    (blt k (K ++ [0]) = true ↔ ble k K = true) ∧ (ble (K ++ [0]) k = true ↔ blt K k = true) :=
  ⟨blt_succ_iff k K, ble_succ_iff k K⟩

/-- Among keys over the alphabet EVERY bound `P ++ c :: rest` with `c` at or below the separator is "just after
`P`": `k < P ++ c :: rest` iff `k ≤ P`. -/
theorem low_bound_is_after (k P : Bytes) (hk : Alphabet k) {c : Nat} (hc : c ≤ splitByte) (rest : Bytes) :
    blt k (P ++ c :: rest) = true ↔ ble k P = true := by
  rw [blt_iff, ble_iff]; exact cmp_cut_lt_iff hk P hc rest

/-- An upper bound — ANY byte string — is above exactly the records of the raw keys below it. -/
theorem bound_upper_iff {b k : Bytes} {r : Nat} (hk : Alphabet k) (hr : r < 2 ^ 64) :
    blt (encode k r) (encodeBound b) = true ↔ blt k b = true := by
  rw [blt_iff, blt_iff]
  rcases cutLow_cases b with ⟨_, hb⟩ | ⟨P, c, rest, _, hP, hc, rfl⟩
  · rw [encodeBound_of_alphabet hb, encode_cmp_then hk hb hr (by decide), Ordering.then_eq_lt, Nat.compare_eq_lt]
    simp
  · rw [encodeBound_cut hP hc, encode_cmp_after hk hP hr, cmp_cut_lt_iff hk P hc rest]
    cases cmp k P <;> simp

/-- A lower bound — ANY byte string — is at or below exactly the records of the raw keys at or above it. -/
theorem bound_lower_iff {a k : Bytes} {r : Nat} (hk : Alphabet k) (hr : r < 2 ^ 64) :
    ble (encodeBound a) (encode k r) = true ↔ ble a k = true := by
  rw [← not_blt_iff_ble, ← not_blt_iff_ble, ← Bool.not_eq_true, ← Bool.not_eq_true, bound_upper_iff hk hr]

/-- The bounds computed for a raw range `[a, b)` — `a`, `b` ARBITRARY byte strings — enclose exactly the records
of the raw keys in it. In particular `[encodeBound (K ++ [0]), encodeBound hi)` holds the records of the keys
`k'` with `K ++ [0] ≤ k' < hi` (not `K`), `[encodeBound lo, encodeBound (K ++ [1]))` those with
`lo ≤ k' < K ++ [1]`, i.e. `lo ≤ k' ≤ K` (`K` included). Generalises `range_bounds_exact`. -/
theorem range_bounds_exact' {a b k : Bytes} {r : Nat} (hk : Alphabet k) (hr : r < 2 ^ 64) :
    (ble (encodeBound a) (encode k r) = true ∧ blt (encode k r) (encodeBound b) = true) ↔
      (ble a k = true ∧ blt k b = true) := by
  rw [bound_lower_iff hk hr, bound_upper_iff hk hr]

/-- The bounds computed for a raw range `[a, b)` enclose exactly the records of the raw keys in it. -/
theorem range_bounds_exact {a b k : Bytes} {r : Nat} (ha : Alphabet a) (hb : Alphabet b)
    (hk : Alphabet k) (hr : r < 2 ^ 64) :
    (ble (encode a 0) (encode k r) = true ∧ blt (encode k r) (encode b 0) = true) ↔
      (ble a k = true ∧ blt k b = true) := by
  rw [← encodeBound_of_alphabet ha, ← encodeBound_of_alphabet hb]
  exact range_bounds_exact' hk hr

/-- (i) Every version of `K` sorts before the bound "just after K". -/
theorem versions_before_succ_bound {K : Bytes} {r : Nat} (hK : Alphabet K) (hr : r < 2 ^ 64) :
    blt (encode K r) (encodeBound (K ++ [0])) = true :=
  (bound_upper_iff hK hr).mpr ((blt_succ_iff K K).mpr (ble_refl K))

/-- (i') ... and before every bound `K ++ c :: rest` with `c` at or below the separator (`K ++ [1]`, `K ++ "#"`,
`K ++ "$x"`, the continue key of a continue key `K ++ [0, 0]`, ...). -/
theorem versions_before_low_bound {K : Bytes} {r c : Nat} (hK : Alphabet K) (hr : r < 2 ^ 64)
    (hc : c ≤ splitByte) (rest : Bytes) : blt (encode K r) (encodeBound (K ++ c :: rest)) = true :=
  (bound_upper_iff hK hr).mpr ((low_bound_is_after K K hK hc rest).mpr (ble_refl K))

/-- (ii) Every record of a key at or after `K ++ [0]` — a proper extension of `K`, or greater — sorts
after the bound "just after K" (strictly: the bound is no record's key). -/
theorem succ_bound_before_greater {K K' : Bytes} {r : Nat} (hK : Alphabet K) (hK' : Alphabet K')
    (hr : r < 2 ^ 64) (h : ble (K ++ [0]) K' = true) : blt (encodeBound (K ++ [0])) (encode K' r) = true := by
  rw [ble_succ_iff, blt_iff, ← cmp_gt_iff] at h
  rw [blt_iff, ← cmp_gt_iff, encodeBound_succ hK, encode_cmp_after hK' hK hr, if_pos h]

/-- ... and every record of a key at or before `K` sorts before it. -/
theorem le_before_succ_bound {K K' : Bytes} {r : Nat} (hK : Alphabet K) (hK' : Alphabet K')
    (hr : r < 2 ^ 64) (h : ble K' K = true) : blt (encode K' r) (encodeBound (K ++ [0])) = true :=
  (bound_upper_iff hK' hr).mpr ((blt_succ_iff K' K).mpr h)

/-- Encoded bounds are ordered like the raw bounds, WEAKLY, for arbitrary byte strings (a proper raw interval is
scanned ascending or not at all) ... -/
theorem bounds_ordered {a b : Bytes} (hab : cmp a b = .lt) : cmp (encodeBound a) (encodeBound b) ≠ .gt :=
  encodeBound_mono hab

/-- ... the strongest form: strictly, unless both bounds have a low byte behind the same key `P` — then they are
encoded alike. -/
theorem bounds_ordered_strong {a b : Bytes} (hab : cmp a b = .lt) :
    cmp (encodeBound a) (encodeBound b) = .lt ∨
      (encodeBound a = encodeBound b ∧ ∃ P, cutLow a = some P ∧ cutLow b = some P) :=
  encodeBound_lt_or_eq hab

/-- ... strictly as soon as one of the two bounds is over the alphabet. -/
theorem bounds_ordered_strict {a b : Bytes} (h : Alphabet a ∨ Alphabet b) (hab : cmp a b = .lt) :
    cmp (encodeBound a) (encodeBound b) = .lt := by
  rcases encodeBound_lt_or_eq hab with h' | ⟨_, P, ha, hb⟩
  · exact h'
  · rcases h with h | h
    · rw [cutLow_none_iff.mpr h] at ha; cases ha
    · rw [cutLow_none_iff.mpr h] at hb; cases hb

/-- Two raw bounds are encoded alike iff they are equal or both are cut behind the same key. -/
theorem encodeBound_eq_iff (a b : Bytes) :
    encodeBound a = encodeBound b ↔ (a = b ∨ ∃ P, cutLow a = some P ∧ cutLow b = some P) :=
  KB.encodeBound_eq_iff a b

/-- Bounds encoded alike have NO key over the alphabet between them: nothing is lost by scanning the empty
interval. -/
theorem encodeBound_eq_no_key_between {a b : Bytes} (h : encodeBound a = encodeBound b) (k : Bytes)
    (hk : Alphabet k) : ¬ (ble a k = true ∧ blt k b = true) := by
  rw [← @range_bounds_exact' a b k 0 hk (by decide), h]
  rintro ⟨h1, h2⟩
  rw [← not_blt_iff_ble] at h1
  rw [h1] at h2; cases h2

/-- For raw bounds `a < b` where `b` has a low byte (is not itself a possible key): encoded alike IFF no key over
the alphabet lies in `[a, b)`. (For `b` over the alphabet the encodings always differ, even when no key lies
between — `no_key_between_but_different`: the scanned interval is then non-empty but holds no record.) -/
theorem encodeBound_eq_iff_no_key_between {a b : Bytes} (hab : cmp a b = .lt) (hb : ¬ Alphabet b) :
    encodeBound a = encodeBound b ↔ ∀ k, Alphabet k → ¬ (ble a k = true ∧ blt k b = true) := by
  refine ⟨encodeBound_eq_no_key_between, fun hno => ?_⟩
  have hQ := boundKey_alphabet b
  have hfb : (cutLow b).isSome = true := by
    rw [← cutLow_none_iff, ← Option.not_isSome_iff_eq_none] at hb
    exact Decidable.not_not.mp hb
  -- the key of `b` is below `b`, so it is not in `[a, b)`: it is below `a`
  have h1 : blt (boundKey b) b = true := by rw [blt_iff, lt_bound_iff hQ, if_pos hfb, cmp_refl]; simp
  have h2 : cmp (boundKey b) a = .lt := by
    rw [← blt_iff, ← Bool.not_eq_false, not_blt_iff_ble]
    exact fun h => hno _ hQ ⟨h, h1⟩
  -- that is: at or below the key of `a`, with `a` cut — and the keys are in order
  have hm := boundKey_mono hab
  rw [lt_bound_iff hQ] at h2
  split at h2
  · rename_i hfa
    exact (encodeBound_eq_iff_key a b).mpr ⟨ble_antisymm (ble_iff.mpr hm) (ble_iff.mpr h2), hfa.trans hfb.symm⟩
  · exact absurd (cmp_gt_iff.mpr h2) hm

/-- ... the excluded case on a concrete pair: no key over the alphabet lies in `["a\0", "a%")` (the byte after
"a" would have to be below '%' = 0x25, i.e. not in the alphabet), yet the encodings differ. -/
theorem no_key_between_but_different :
    (∀ k, Alphabet k → ¬ (ble [97, 0] k = true ∧ blt k [97, 37] = true)) ∧
    cmp (encodeBound [97, 0]) (encodeBound [97, 37]) = .lt := by
  refine ⟨?_, by decide⟩
  rintro k hk ⟨h1, h2⟩
  -- `[97, 0]` is just after `[97]`, and so is `[97, 37]` for `k`, whose bytes are all above 36
  rw [show ([97, 0] : Bytes) = [97] ++ [0] from rfl, ble_succ_iff] at h1
  rw [show ([97, 37] : Bytes) = [97] ++ 37 :: [] from rfl, blt_iff,
    cmp_lt_after_iff (c := 37) fun b hb => (Nat.lt_or_eq_of_le (hk b hb)).imp_right fun h => ⟨h.symm, rfl⟩,
    ← ble_iff, ← not_blt_iff_ble, h1] at h2
  cases h2

/-- THE DEFECT (before /repo 146f0bb): the plain encoding of the bound `K ++ [0]` sorts before every
version of `K` — for every key and revision: a range starting there includes `K` again, a range ending
there misses `K`. -/
theorem old_bound_encoding_defect (K : Bytes) (r : Nat) :
    blt (encodeBoundOldest (K ++ [0])) (encode K r) = true :=
  blt_iff.mpr (encode_ext_lt K (by decide) [] 0 r)

/-- ... on the concrete key "/a" at revision 5 (by evaluation), next to the repaired bound. -/
theorem old_bound_encoding_witness :
    blt (encode ([47, 97] ++ [0]) 0) (encode [47, 97] 5) = true ∧
    blt (encode [47, 97] 5) (encodeBound ([47, 97] ++ [0])) = true ∧
    blt (encode [47, 97] (2 ^ 64 - 1)) (encodeBound ([47, 97] ++ [0])) = true ∧
    blt (encodeBound ([47, 97] ++ [0])) (encode [47, 97, 47, 98] 0) = true := by decide

/-- THE DEFECT OF THE 146f0bb VERSION (`encodeBoundOld`: only ONE trailing zero byte was recognised): for every
key `K`, every revision, every low byte `c` that is not a lone trailing zero, the old encoding of the bound
`K ++ c :: rest` sorts at or BEFORE the records of `K` — a range ending there misses `K`, a range starting there
includes it. -/
theorem bound_146f0bb_defect (K : Bytes) (r c : Nat) (hc : c < splitByte) (rest : Bytes)
    (hrest : (c :: rest).getLast? ≠ some 0) : blt (encodeBoundOld (K ++ c :: rest)) (encode K r) = true := by
  have hl : (K ++ c :: rest).getLast? ≠ some 0 := by
    rw [List.getLast?_append]; simpa [List.getLast?_cons_cons] using hrest
  rw [encodeBoundOld, if_neg hl, blt_iff]
  exact encode_ext_lt K hc rest 0 r

/-- ... on the concrete key "/a" at revision 5, by evaluation, for the bounds `K ++ [1]`, `K ++ [0, 0]` (the
continue key of a continue key) and `K ++ [35]` (`"/a#"`): the 146f0bb version puts each of them BEFORE the record
of "/a" (so `[K, K ++ [1])` was empty and a range from `K ++ [1]` answered `K`), the repaired `encodeBound` AFTER
every version of "/a" and before the records of "/a/b"; on `K ++ [0]` the two versions agree. -/
theorem bound_146f0bb_witness :
    blt (encodeBoundOld ([47, 97] ++ [1])) (encode [47, 97] 5) = true ∧
    blt (encodeBoundOld ([47, 97] ++ [0, 0])) (encode [47, 97] 5) = true ∧
    blt (encodeBoundOld ([47, 97] ++ [35])) (encode [47, 97] 5) = true ∧
    blt (encode [47, 97] (2 ^ 64 - 1)) (encodeBound ([47, 97] ++ [1])) = true ∧
    blt (encode [47, 97] (2 ^ 64 - 1)) (encodeBound ([47, 97] ++ [0, 0])) = true ∧
    blt (encode [47, 97] (2 ^ 64 - 1)) (encodeBound ([47, 97] ++ [35])) = true ∧
    blt (encodeBound ([47, 97] ++ [1])) (encode [47, 97, 47, 98] 0) = true ∧
    blt (encodeBound ([47, 97] ++ [0, 0])) (encode [47, 97, 47, 98] 0) = true ∧
    blt (encodeBound ([47, 97] ++ [35])) (encode [47, 97, 47, 98] 0) = true ∧
    encodeBound ([47, 97] ++ [0]) = encodeBoundOld ([47, 97] ++ [0]) ∧
    encodeBound ([47, 97] ++ [1]) = encodeBound ([47, 97] ++ [2]) := by decide

/-- The repair changed nothing for the bounds the 146f0bb version handled: keys over the alphabet and their
immediate successors. -/
theorem encodeBound_eq_old {b : Bytes} (h : Alphabet b ∨ ∃ K, Alphabet K ∧ b = K ++ [0]) :
    encodeBound b = encodeBoundOld b := by
  rcases h with h | ⟨K, hK, rfl⟩
  · have h0 : ¬ b.getLast? = some 0 := fun h0 => Nat.not_lt_zero _ (h 0 (List.mem_of_getLast? h0))
    rw [encodeBound_of_alphabet h, encodeBoundOld, if_neg h0]
  · rw [encodeBound_succ hK]; simp [encodeBoundOld]

/-! Non-vacuity: concrete keys over the alphabet, prefixes of one another, with extreme revisions; concrete
bounds with low bytes. -/
example : Alphabet [47, 97] ∧ Alphabet [47, 97, 47, 98] ∧ (2 ^ 64 - 1 < 2 ^ 64) := by decide
example : blt (encode [47, 97] (2 ^ 64 - 1)) (encode [47, 97, 47, 98] 0) = true := by decide
example : decode (encode [] 0) = .ok [] 0 := by decide
example : Alphabet [47, 97] ∧ ble ([47, 97] ++ [0]) [47, 97, 47, 98] = true := ⟨by decide, by decide⟩
example : cmp ([47, 97] ++ [1]) ([47, 97] ++ [2]) = .lt ∧ ¬ Alphabet ([47, 97] ++ [2]) ∧
    encodeBound ([47, 97] ++ [1]) = encodeBound ([47, 97] ++ [2]) := by decide
example : (1 : Nat) < splitByte ∧ ([1] : Bytes).getLast? ≠ some 0 ∧ ([0, 0] : Bytes).getLast? = some 0 := by decide
example : decodeOld (encode [47] 3) ≠ .panic := by decide
example : ([47] : Bytes).length < 13 := by decide

end KB.C10
