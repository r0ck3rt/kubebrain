/-
  C08Fault — the compaction floor only rises also when the scanner cannot read the compaction record.

  Model: KB.CompactFault.doCompactRF (Backend.Compact → setCompactRecord → scanner.Compact per border pair, the
  read of the record in `checkCompactRace(compact = true)` failing with a transient engine error in pair `k`).
  * `floor_recfault` / `floor_monotone_recfault` / `floor_ge_accepted_recfault`: whatever the store, the request's
    revision (older ones included), the failing pair, the delete-failure mask and the engine: the floor afterwards is
    max(floor before, accepted revision) — exactly what it is without the fault (KB.C08.floor_monotone).
  * `recfault_old_lowers_floor`: the code before the fix (a failed read fell through to the unconditional Put) is
    refuted by a decided witness — compact(1009), then compact(1002) with the failed read: floor 1002 — kept as the
    witness of the repaired defect; `recfault_old_reopens_read`: a List at 1005, refused before, is answered again.
-/
import KB.CompactFault
import KB.Lemmas.FloorFault
namespace KB.C08Fault
open KB

/-- The floor after a compaction whose scanner-side read of the record failed in pair `k`. -/
theorem floor_recfault (c : Cfg) (s : BState) (rev : Nat) (mask : Nat → DelOutcome) (k : Nat)
    (hrev : clampRev s rev < 2 ^ 64) :
    floorOf c (doCompactRF c s rev mask k).2.store = max (floorOf c s.store) (clampRev s rev) :=
  doCompactRF_floor c s rev mask k hrev

/-- No compaction request — in particular an older one whose read of the record fails — lowers the floor. -/
theorem floor_monotone_recfault (c : Cfg) (s : BState) (rev : Nat) (mask : Nat → DelOutcome) (k : Nat)
    (hc : s.committed < 2 ^ 64) :
    floorOf c s.store ≤ floorOf c (doCompactRF c s rev mask k).2.store := by
  have hrev : clampRev s rev < 2 ^ 64 := Nat.lt_of_le_of_lt (clampRev_le s rev) hc
  rw [floor_recfault c s rev mask k hrev]
  exact Nat.le_max_left _ _

/-- Once such a compaction at R has been accepted (answered with header R), the floor is at least R. -/
theorem floor_ge_accepted_recfault (c : Cfg) (s : BState) (rev : Nat) (mask : Nat → DelOutcome) (k R : Nat)
    (h : (doCompactRF c s rev mask k).1 = .ok R) (hR : R < 2 ^ 64) :
    R ≤ floorOf c (doCompactRF c s rev mask k).2.store := by
  have hR' := doCompactRF_fst c s rev mask k R h
  subst hR'
  rw [floor_recfault c s rev mask k hR]
  exact Nat.le_max_right _ _

/-- The failed read only costs the compaction of that pair: with a single border pair (no skipped prefixes) the
store afterwards is the store after `setCompactRecord` — nothing is deleted, nothing else is written. -/
theorem recfault_single_pair_store (c : Cfg) (s : BState) (rev : Nat) (mask : Nat → DelOutcome)
    (h1 : (pairs (compactBorders c)).length = 1) :
    (doCompactRF c s rev mask 0).2.store = setRecord c s.store (clampRev s rev) :=
  doCompactRF_single c s rev mask h1

def ex0 : BState := { ring := Ring.new 4, dealt := 1010, committed := 1010 }
def exCfg : Cfg := { pfx := [47, 114] }

/-- Non-vacuity and the repaired behaviour on the witness schedule: the floor stays at 1009. -/
theorem recfault_keeps_floor_witness :
    floorOf exCfg (doCompactRF exCfg (doCompact exCfg ex0 1009 (fun _ => .ok)).2 1002 (fun _ => .ok) 0).2.store = 1009 := by
  decide +kernel

/-- THE REPAIRED DEFECT: before the fix the same schedule lowered the floor to 1002. -/
theorem recfault_old_lowers_floor :
    floorOf exCfg (doCompactRF exCfg (doCompact exCfg ex0 1009 (fun _ => .ok)).2 1002 (fun _ => .ok) 0 true).2.store = 1002 := by
  decide +kernel

/-- … and a read at 1005, below the accepted floor 1009, was no longer refused. -/
theorem recfault_old_reopens_read :
    belowFloor exCfg (doCompact exCfg ex0 1009 (fun _ => .ok)).2.store 1005 = true ∧
    belowFloor exCfg (doCompactRF exCfg (doCompact exCfg ex0 1009 (fun _ => .ok)).2 1002 (fun _ => .ok) 0 true).2.store 1005 = false := by
  decide +kernel

end KB.C08Fault
