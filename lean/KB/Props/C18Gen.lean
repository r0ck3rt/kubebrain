/-
  C18Gen — the repair proposed for the known finding `joined-fetch-stale` (proposed-fixes/C18-fresh-follower-read.diff:
  a generation number per fetch, a reader only uses the result of a fetch numbered after the reader arrived) is
  SUFFICIENT as written, at the granularity of its atomic instructions (model: KB.ServerGen).

  * `follower_read_fresh_gen` — the FULL statement of C18's read clause for the repaired syncer: under any
    interleaving of any number of follower reads, leader commits, refused / lost answers, every served read is
    served at a revision ≥ the leader's committed revision when the read began.  This includes the window
    between `flight.Do` registering the owner's call and the owner's `AddUint64` (a reader that loads the old
    generation there accepts the result: it is fresh because the GET is sent after the increment).
  * `follower_rev_never_decreases_gen` — no step lowers the follower's read revision.
  * `owner_always_accepts` — the reader that runs a fetch never discards its own result.
  * `rejected_at_most_once` — a waiter whose result is discarded has `arrived = fetchGen` afterwards: every later
    fetch is numbered above it, so a reader goes round the loop at most twice (no livelock, at most one extra GET).
  * `failed_sync_never_served_gen` — a read whose sync failed is never served.
  * decided traces: the stale-join schedule of the known finding ends with the late reader served at 11
    (`stale_join_schedule_is_fresh_gen`), and the registration-window schedule (`registration_window_trace`).
-/
import KB.ServerGen
import KB.Lemmas.ServerGen
namespace KB.C18Gen
open KB.ServerGen
open KB.Server (LeaderBehaviour)

/-- THE LAW (repaired syncer): every served follower read is fresh, under any interleaving. -/
theorem follower_read_fresh_gen : ∀ s, Reachable s → Fresh s := by
  intro s hs
  exact (inv_reachable s hs).fresh

/-- No step lowers the follower's read revision. -/
theorem follower_rev_never_decreases_gen {s s' : State} {st : Step} (h : step s st = some s') :
    s.followerRev ≤ s'.followerRev :=
  followerRev_mono h

set_option linter.unusedVariables false in
/-- The owner of a fetch (the reader whose `fetchStart` registered the call) never discards its own result. Stated
for EVERY reader waiting while the call is only registered (the owner is one of them): the number the call will get
at `genBump` is `fetchGen + 1`, and a waiting reader has `arrived ≤ fetchGen` (the invariant's `arrived_le`), so
`deliver`'s test `arrived < g` passes. `hf` only names the moment; the inequality does not depend on it. -/
theorem owner_always_accepts {s : State} (hs : Reachable s) (r : Nat)
    (hw : (s.reads r).phase = .waiting) (hf : s.flight = .registered) :
    (s.reads r).arrived < s.fetchGen + 1 :=
  Nat.lt_succ_of_le ((inv_reachable s hs).arrived_le r (Or.inr hw))

/-- A waiter whose result is discarded is left with `arrived = fetchGen`: every later fetch is numbered
`fetchGen + 1` or more, so its next round is accepted. -/
theorem rejected_at_most_once {s s' : State} (hs : Reachable s) (h : step s .fetchReply = some s') (r : Nat)
    (hw : (s.reads r).phase = .waiting) (hl : (s'.reads r).phase = .looping) :
    (s'.reads r).arrived = s'.fetchGen := by
  have hi := inv_reachable s hs
  have hle := hi.arrived_le r (Or.inr hw)
  cases step_steps h with
  | fetchReply g v hfl =>
    have hg := hi.answered_gen g v hfl
    simp only [deliver, hw] at hl ⊢
    split at hl
    · cases hl
    · rename_i hlt
      rw [if_neg hlt]
      show (s.reads r).arrived = s.fetchGen
      omega

/-- A read whose sync failed is never served afterwards. -/
theorem failed_sync_never_served_gen {s s' : State} {st : Step} (r : Nat) (h : step s st = some s')
    (hf : (s.reads r).phase = .failed) : (s'.reads r).phase = .failed := by
  -- a step that moves a read `q` finds it in a phase other than `failed`
  have other : ∀ q x, (s.reads q).phase ≠ .failed → (upd s.reads q x r).phase = .failed := by
    intro q x hne
    have hqr : r ≠ q := by rintro rfl; exact hne hf
    rw [upd_apply, if_neg hqr]; exact hf
  cases step_steps h with
  | leaderCommit | genBump | leaderAnswer => exact hf
  | fetchReply g w =>
    show (deliver g w (s.reads r)).phase = _
    rw [deliver_of_not_waiting (by simp [hf])]; exact hf
  | _ => exact other _ _ (by simp [*])

/-- The schedule of the known finding `joined-fetch-stale`, on the repaired syncer: read 1 joins the fetch the
leader answered (10) before it began (at 11), discards that result (generation 1 ≤ arrived 1), fetches again
and is served at 11. -/
theorem stale_join_schedule_is_fresh_gen :
    (run (init 10 0) [.readBegin 0, .arrive 0, .fetchStart 0, .genBump, .leaderAnswer .ok, .leaderCommit,
      .readBegin 1, .arrive 1, .fetchJoin 1, .fetchReply, .fetchStart 1, .genBump, .leaderAnswer .ok, .fetchReply,
      .setRev 1, .setRev 0, .readServe 1]).map
      (fun s => ((s.reads 1).phase, (s.reads 1).beginRev, (s.reads 1).arrived)) = some (.served 11, 11, 1) := by
  decide

/-- The registration window: read 1 loads generation 0 after read 0's call is registered and before read 0's
increment, joins, and ACCEPTS the result (generation 1 > 0) — fresh, because the GET left after the increment. -/
theorem registration_window_trace :
    (run (init 10 0) [.readBegin 0, .arrive 0, .fetchStart 0, .leaderCommit, .readBegin 1, .arrive 1, .genBump,
      .fetchJoin 1, .leaderAnswer .ok, .fetchReply, .setRev 1, .readServe 1]).map
      (fun s => ((s.reads 1).phase, (s.reads 1).beginRev, (s.reads 1).arrived)) = some (.served 11, 11, 0) := by
  decide

/-- Non-vacuity: a reachable state with a served read (the end of the stale-join schedule, on which read 1's first
result is discarded). -/
example : ∃ s, Reachable s ∧ (s.reads 1).phase = .served 11 ∧ (s.reads 1).beginRev = 11 := by
  obtain ⟨s, hrun, key⟩ := Option.map_eq_some_iff.mp stale_join_schedule_is_fresh_gen
  simp at key
  exact ⟨s, ⟨10, 0, _, hrun⟩, key.1, key.2.1⟩

/-- The value a reader accepts from a fetch (its own or a joined one) is ≥ the leader's committed revision
when the reader began: the generation test discards exactly the results that could be older. -/
theorem accepted_value_fresh {s : State} (hs : Reachable s) (r v : Nat)
    (h : (s.reads r).phase = .got (some v)) : (s.reads r).beginRev ≤ v :=
  (inv_reachable s hs).got r v h

end KB.C18Gen
