/-
  C12 — Client-visible behaviour does not depend on the storage engine.
  Model: KB.Backend parameterised by `Quirks` — everything the storage interface leaves open
  (conflict carries the old value or not and at which index, limit honoured / ignored / off by one,
  reverse iterator checking its first element or not, bare vs wrapped CAS errors on compare-and-delete).
  The theorems say each request's response and successor state are the same for any two contractual
  engines, on every well-formed store.
-/
import KB.Lemmas.Indep
namespace KB.C12
open KB

/-- An engine honours the part of the contract the backend depends on: a compare-and-swap on a
missing key is a failed condition (C11). Everything else in `Quirks` is left open. -/
def Contractual (q : Quirks) : Prop := q.casMissingNotFound = false

/-- Two configurations that differ only in the engine's open choices (`creatorTombAboveIsCf` is not one of them: it
selects the creator of before /repo 42e5238, for refutations). -/
def SameButEngine (c1 c2 : Cfg) : Prop :=
  c1.pfx = c2.pfx ∧ c1.skipped = c2.skipped ∧ c1.cacheSize = c2.cacheSize ∧ c1.splits = c2.splits ∧
  c1.etcdCompat = c2.etcdCompat ∧ c1.ttl = c2.ttl ∧ c1.q.supportTTL = c2.q.supportTTL ∧
  c1.creatorTombAboveIsCf = c2.creatorTombAboveIsCf

/-- A well-formed backend store: encoded records (sorted) of keys over the alphabet at revisions below `2^64`. -/
def StoreWF (st : Store) : Prop :=
  ∃ recs : List Rec, st = encodeStore recs ∧ SortedRecs recs ∧ (∀ r ∈ recs, Alphabet r.key ∧ r.rev < 2 ^ 64)

theorem get_indep (c1 c2 : Cfg) (s : BState) (hwf : StoreWF s.store)
    (k : Bytes) (hk : Alphabet k) (R : Nat) (hR : R < 2 ^ 64) : doGet c1 s k R = doGet c2 s k R := by
  obtain ⟨recs, hst, hs, hr⟩ := hwf
  simp only [doGet, hst, bget_encodeStore_indep c1 c2 hs hr k hk R hR]

theorem create_indep (c1 c2 : Cfg) (h : SameButEngine c1 c2) (h1 : Contractual c1.q) (h2 : Contractual c2.q)
    (s : BState) (hwf : StoreWF s.store) (hd : s.dealt + 1 < 2 ^ 64)
    (k v : Bytes) (hk : Alphabet k) (fs : List Fault) : doCreate c1 s k v fs = doCreate c2 s k v fs := by
  -- holds on every store, for every key: `hwf`, `hd`, `hk` are not needed
  have _ := hwf; have _ := hd; have _ := hk
  exact doCreate_indep h1 h2 h.2.2.2.2.2.2.2 s k v fs

theorem update_indep (c1 c2 : Cfg) (h : SameButEngine c1 c2) (h1 : Contractual c1.q) (h2 : Contractual c2.q)
    (s : BState) (hwf : StoreWF s.store) (hd : s.dealt + 1 < 2 ^ 64)
    (k v : Bytes) (hk : Alphabet k) (e : Nat) (fs : List Fault) :
    doUpdate c1 s k v e fs = doUpdate c2 s k v e fs := by
  have _ := hd
  obtain ⟨recs, hst, hs, hr⟩ := hwf
  refine doUpdate_indep h1 h2 h.2.2.2.2.2.2.2 s k v ?_ e fs
  rw [hst]
  exact bget_encodeStore_indep c1 c2 hs hr k hk 0 (by decide)

theorem delete_indep (c1 c2 : Cfg) (h : SameButEngine c1 c2) (h1 : Contractual c1.q) (h2 : Contractual c2.q)
    (s : BState) (hwf : StoreWF s.store) (hd : s.dealt + 1 < 2 ^ 64)
    (k : Bytes) (hk : Alphabet k) (e : Nat) (fs : List Fault) :
    doDelete c1 s k e fs = doDelete c2 s k e fs := by
  have _ := h; have _ := hd
  obtain ⟨recs, hst, hs, hr⟩ := hwf
  refine doDelete_indep h1 h2 s k ?_ e fs
  rw [hst]
  exact bget_encodeStore_indep c1 c2 hs hr k hk 0 (by decide)

/-- Range reads: two engines whose reverse iterators honour the end bound on their first element
(the iterator contract, C11) give the same `List` response — on ANY store, for ANY bounds and ANY
partitioning, whatever their other open choices. Up to /repo 23c8b93 the statement was FALSE without that
hypothesis even on a single partition: `doList` only checks `cmp a b = .lt` on the RAW keys; when `a` is a
proper prefix of `b` and the next byte of `b` is below the split byte (outside the documented alphabet) the
bounds as encoded THEN were descending, the engine iterated backwards and `revFirstUnchecked` became visible
(`former_counterexample_was_descending`). Since 23c8b93 the encoded bounds of a proper raw interval never run
backwards (`KB.C10.bounds_ordered`) and the hypothesis is needed for backward-running PARTITIONS only
(`list_indep_any_bounds`, `list_indep_ascending_any_bounds`). -/
theorem list_indep (c1 c2 : Cfg) (h : SameButEngine c1 c2)
    (hr1 : c1.q.revFirstUnchecked = false) (hr2 : c2.q.revFirstUnchecked = false)
    (s : BState) (a b : Bytes) (R n : Nat) :
    (match doList c1 s a b R n, doList c2 s a b R n with
     | .ok r1, .ok r2 => r1.hdr = r2.hdr ∧ r1.more = r2.more ∧ r1.kvs = r2.kvs
     | .error e1, .error e2 => e1 = e2
     | .panic, .panic => True
     | _, _ => False) :=
  listRes_match_of_eq (doList_indep_of_rev h.1 h.2.2.2.1 h.2.2.2.2.2.2.1 (hr1.trans hr2.symm) s a b R n)

/-- a well-formed store holding one live record of key `(` (below the range asked for) -/
def cexState : BState :=
  { ring := Ring.new 1, dealt := 10, committed := 10, store := [(encode [40] 5, [1])] }
/-- reverse iterator does not bound-check its first element; everything else default -/
def cexUnchecked : Cfg := { q := { revFirstUnchecked := true } }
def cexChecked : Cfg := {}

def kvsOf : ScanRes ListRes → Option (List (Bytes × Bytes × Nat))
  | .ok r => some r.kvs
  | _ => none

/-- THE FORMER COUNTEREXAMPLE, range `["2", "2\x01")` (the two engines differ only in `revFirstUnchecked`, both
are contractual, the store is well-formed): with the bound encoding of /repo 146f0bb (`encodeBoundOld`) — and
the one before it — the encoded bounds were DESCENDING although the raw bounds ascend, and on such bounds the
unchecked engine's iterator yields a key that is not in the range, the checked one nothing. -/
theorem former_counterexample_was_descending :
    SameButEngine cexUnchecked cexChecked ∧ Contractual cexUnchecked.q ∧ Contractual cexChecked.q ∧
    StoreWF cexState.store ∧ cmp [50] [50, 1] = .lt ∧
    cmp (encodeBoundOld [50]) (encodeBoundOld [50, 1]) = .gt ∧
    cmp (encodeBoundOldest [50]) (encodeBoundOldest [50, 1]) = .gt ∧
    iterate cexUnchecked.q cexState.store (encodeBoundOld [50]) (encodeBoundOld [50, 1]) 0 = [(encode [40] 5, [1])] ∧
    iterate cexChecked.q cexState.store (encodeBoundOld [50]) (encodeBoundOld [50, 1]) 0 = [] := by
  refine ⟨⟨rfl, rfl, rfl, rfl, rfl, rfl, rfl, rfl⟩, rfl, rfl, ?_, by decide, by decide, by decide, by decide, by decide⟩
  exact ⟨[{ key := [40], rev := 5, val := [1], ik := encode [40] 5 }], rfl, by decide, by decide⟩

/-- ... REPAIRED (/repo 23c8b93): the bound `"2\x01"` is encoded just after every version of `"2"`, the scan
ascends, and the two engines give the same — correct, empty — answer, with and without a limit. -/
theorem former_counterexample_repaired :
    cmp (encodeBound [50]) (encodeBound [50, 1]) = .lt ∧
    kvsOf (doList cexUnchecked cexState [50] [50, 1] 0 0) = some [] ∧
    kvsOf (doList cexChecked cexState [50] [50, 1] 0 0) = some [] ∧
    kvsOf (doList cexUnchecked cexState [50] [50, 1] 0 3) = some [] ∧
    kvsOf (doList cexChecked cexState [50] [50, 1] 0 3) = some [] := by
  refine ⟨by decide, by decide, by decide, by decide, by decide⟩

/-- Corrected (1): two engines that agree on whether the reverse iterator bound-checks its first
element give the same range read — on ANY store and for ANY bounds; all other open choices
(limit mode, conflict shape, index offset, CAS-on-missing) are irrelevant. -/
theorem list_indep_corrected (c1 c2 : Cfg) (h : SameButEngine c1 c2)
    (hrev : c1.q.revFirstUnchecked = c2.q.revFirstUnchecked) (s : BState) (a b : Bytes) (R n : Nat) :
    (match doList c1 s a b R n, doList c2 s a b R n with
     | .ok r1, .ok r2 => r1.hdr = r2.hdr ∧ r1.more = r2.more ∧ r1.kvs = r2.kvs
     | .error e1, .error e2 => e1 = e2
     | .panic, .panic => True
     | _, _ => False) :=
  listRes_match_of_eq (doList_indep_of_rev h.1 h.2.2.2.1 h.2.2.2.2.2.2.1 hrev s a b R n)

/-- Corrected (2): for bounds over the documented alphabet the scan is ascending and NO open choice
of the engine is visible (single-partition engine; any store). -/
theorem list_indep_alphabet (c1 c2 : Cfg) (h : SameButEngine c1 c2) (hsplit : c1.splits = [])
    (s : BState) (a b : Bytes) (ha : Alphabet a) (hb : Alphabet b) (R n : Nat) :
    (match doList c1 s a b R n, doList c2 s a b R n with
     | .ok r1, .ok r2 => r1.hdr = r2.hdr ∧ r1.more = r2.more ∧ r1.kvs = r2.kvs
     | .error e1, .error e2 => e1 = e2
     | .panic, .panic => True
     | _, _ => False) := by
  have _ := ha; have _ := hb  -- the alphabet is not needed: `list_indep_any_bounds`
  exact listRes_match_of_eq (doList_indep_single' h.1 h.2.2.2.1 h.2.2.2.2.2.2.1 hsplit s a b R n)

/-- Corrected (2), since /repo 23c8b93 for ARBITRARY bounds (any byte strings, low bytes included): on a
single-partition engine NO open choice of the engine is visible in a range read, on any store. -/
theorem list_indep_any_bounds (c1 c2 : Cfg) (h : SameButEngine c1 c2) (hsplit : c1.splits = [])
    (s : BState) (a b : Bytes) (R n : Nat) :
    (match doList c1 s a b R n, doList c2 s a b R n with
     | .ok r1, .ok r2 => r1.hdr = r2.hdr ∧ r1.more = r2.more ∧ r1.kvs = r2.kvs
     | .error e1, .error e2 => e1 = e2
     | .panic, .panic => True
     | _, _ => False) :=
  listRes_match_of_eq (doList_indep_single' h.1 h.2.2.2.1 h.2.2.2.2.2.2.1 hsplit s a b R n)

/-- ... and with any partitioning, provided no adjusted partition runs backwards. -/
theorem list_indep_ascending_any_bounds (c1 c2 : Cfg) (h : SameButEngine c1 c2)
    (s : BState) (a b : Bytes)
    (hasc : ∀ parts, scanPartitions c1 (encodeBound a) (encodeBound b) = some parts → ∀ p ∈ parts, cmp p.1 p.2 ≠ .gt)
    (R n : Nat) :
    (match doList c1 s a b R n, doList c2 s a b R n with
     | .ok r1, .ok r2 => r1.hdr = r2.hdr ∧ r1.more = r2.more ∧ r1.kvs = r2.kvs
     | .error e1, .error e2 => e1 = e2
     | .panic, .panic => True
     | _, _ => False) :=
  listRes_match_of_eq (doList_indep_of_ascending' h.1 h.2.2.2.1 h.2.2.2.2.2.2.1 s a b hasc R n)

/-- Corrected (2'): the same with any partitioning, provided no adjusted partition runs backwards
(true of sorted well-formed borders: KB.C13). -/
theorem list_indep_ascending (c1 c2 : Cfg) (h : SameButEngine c1 c2)
    (s : BState) (a b : Bytes) (ha : Alphabet a) (hb : Alphabet b)
    (hasc : ∀ parts, scanPartitions c1 (encode a 0) (encode b 0) = some parts → ∀ p ∈ parts, cmp p.1 p.2 ≠ .gt)
    (R n : Nat) :
    (match doList c1 s a b R n, doList c2 s a b R n with
     | .ok r1, .ok r2 => r1.hdr = r2.hdr ∧ r1.more = r2.more ∧ r1.kvs = r2.kvs
     | .error e1, .error e2 => e1 = e2
     | .panic, .panic => True
     | _, _ => False) :=
  listRes_match_of_eq (doList_indep_of_ascending' h.1 h.2.2.2.1 h.2.2.2.2.2.2.1 s a b
    (by rw [encodeBound_of_alphabet ha, encodeBound_of_alphabet hb]; exact hasc) R n)

/-- Without the contract the property is FALSE: the pre-fix tikv adapter (compare-and-swap on a
missing key answers not-found) makes a guarded update of a missing key an RPC error where the other
engines answer "condition failed". -/
theorem noncontractual_differs :
    let s : BState := { ring := Ring.new 1, dealt := 1000, committed := 1000 }
    (doUpdate { q := Quirks.tikvOld } s [47, 97] [1] 7 []).1 = .error .notFound ∧
    (doUpdate { q := Quirks.memkv } s [47, 97] [1] 7 []).1 = .condFailed 1001 none := by
  decide

/-! Non-vacuity of `list_indep_any_bounds` / `list_indep_ascending_any_bounds`: two configurations that differ in the
engine only, on a single partition (every adjusted partition of which ascends), bounds with a low byte. -/
example : SameButEngine cexUnchecked cexChecked ∧ cexUnchecked.splits = [] ∧ cmp [50] [50, 1] = .lt := ⟨⟨rfl, rfl, rfl, rfl, rfl, rfl, rfl, rfl⟩, rfl, by decide⟩
example : ∀ parts, scanPartitions cexUnchecked (encodeBound [50]) (encodeBound [50, 1]) = some parts →
    ∀ p ∈ parts, cmp p.1 p.2 ≠ .gt := by decide

end KB.C12
