/-
  Order / call facts for C14 — regenerated from the source (harness/cmd/kbextract/lockcalls.go →
  KB/Generated/OrderFacts.lean).

  The lock model KB.Election gives every candidate three steps (get, create, update) and nothing else moves a candidate's
  compare value `lastVal` (what its next `Update` is conditioned on): `compare_value_moves_only_by_own_get_or_create` below is
  that statement about the MODEL. In a node the steps are client-go's elector's; these `decide`d theorems tie the assumption
  "nothing else in the node takes such a step, and `Update` does not smuggle a read in" to the source as it is now.
  The behavioural counterpart is the `info` step of the `election` correspondence suite (the real leader object's read-only
  endpoints asked between any two steps) and the RELEASE records of its scripts.
-/
import KB.Generated.OrderFacts
import KB.Election
import KB.Lemmas.Election
namespace KB.OrderC14
open KB.Election KB.Generated

/-- MODEL: a step that is not candidate `j`'s own `Get` / `Create` leaves `j`'s compare value alone — in particular every
`Update` (a release included: records are opaque bytes) and every step of another candidate. -/
theorem compare_value_moves_only_by_own_get_or_create (c : Cfg) (st : State) (s : Step) (j : Nat)
    (h : s.rereads j = false) : ((step c st s).2.cands j).lastVal = (st.cands j).lastVal :=
  step_lastVal c st s j h

/-- non-vacuity: an `Update` (of anybody, any record) is such a step -/
example (i j : Nat) (rec : Bytes) : (Step.update i rec).rereads j = false := rfl

/-- SOURCE: the compare value is assigned in `getRecord` and `Create` only, and `getRecord` is called by `Get` alone. -/
theorem compare_value_written_by_get_and_create_only :
    lockCallFactsParsed = true ∧ lockCompareValueWriters = ["Create", "getRecord"] ∧ lockRecordReaders = ["Get"] := by decide

/-- SOURCE: `Update` calls nothing on its lock that reads the record (it compares with what the last Get / Create left). -/
theorem update_does_not_reread :
    ("getRecord" ∈ lockUpdateReceiverCalls) = False ∧ ("Get" ∈ lockUpdateReceiverCalls) = False ∧
    ("Create" ∈ lockUpdateReceiverCalls) = False := by decide

/-- SOURCE: the node's own code (pkg/server/service/leader) only DESCRIBES the lock; `Get` / `Create` / `Update` are the
elector's. -/
theorem node_only_describes_the_lock : ∀ m ∈ leaderLockCalls, m = "Describe" ∨ m = "Identity" := by decide

end KB.OrderC14
