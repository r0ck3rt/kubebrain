/-
  C09 — Indeterminate storage outcomes are repaired, never mis-reported.
  Model: KB.Sys with the fault oracle `Fault` on every commit (`uncApplied` / `uncNotApplied` = the
  engine answers "outcome unknown" and the batch did / did not land; `err` = a plain storage error),
  the sequencer queueing uncertain notifications, and the retry loop's rewrite, incl. faults on the repair
  write itself. The repair is NOT atomic: `stepRetryRead` (read the key's latest value, deal a revision) and
  `stepRetryCommit` (compare-and-swap commit, notification, pop / keep) are separate steps between which
  client requests run (`Action.retry f` = both back to back). Compaction capping: KB.Backend.doCompact.
-/
import KB.Lemmas.Retry
namespace KB.C09
open Generated KB.SysStore

/-- Never mis-reported (1): a write acknowledged as successful was applied by the engine. -/
theorem ack_ok_applied {g0 g : G} (h0 : C02.Init g0) (hr : Reachable g0 g) (d : Done) (hd : d ∈ g.done)
    (rev : Nat) (hres : d.res = .ok rev) :
    ∃ w ∈ g.wlog, w.rev = rev ∧ w.key = d.kind.key :=
  (AckInv.reachable h0 hr).ok d hd rev hres

/-- Never mis-reported (2): a request answered with a definite conflict (or not-found) applied nothing. -/
theorem conflict_not_applied {g0 g : G} (h0 : C02.Init g0) (hr : Reachable g0 g) (d : Done) (hd : d ∈ g.done)
    (hres : (∃ h kv, d.res = .condFailed h kv) ∨ (∃ h, d.res = .notFound h)) :
    ∀ w ∈ g.wlog, w.rev ≠ d.rev :=
  (AckInv.reachable h0 hr).cf d hd hres

/-- Never mis-reported (3): when the engine answers a commit with "outcome unknown", the commit-level
result the request acts on is `uncertain` — whether the batch landed or not — and the client gets that error. -/
theorem unknown_is_reported_uncertain (c : Cfg) (st : Store) (ops : List BOp) (st' : Store)
    (hok : commit c.q st ops = .ok st') (f : Fault) (hf : f = .uncApplied ∨ f = .uncNotApplied) :
    (doCommit c st ops f).1 = .uncertain ∧ commitErr (doCommit c st ops f).1 = .uncertain := by
  rw [doCommit_of_ok c st ops st' hok]
  rcases hf with rfl | rfl <;> exact ⟨rfl, rfl⟩

/-- Later requests keep flowing: C04's accounting holds under every placement of faults (its theorems
quantify over all `Fault`s, and count the revision the retry loop holds between its two steps as in flight);
restated here for the retry loop's own revisions. A whole `retry()` that deals a revision reports it. -/
theorem retry_revision_resolved (g : G) (f : Fault) (w : WEvent) (rest : List WEvent) (hq : g.retryQ = w :: rest)
    (hd : (stepRetry g f).dealt = g.dealt + 1) :
    ∃ s ∈ (stepRetry g f).slots, s.rev = g.dealt + 1 := by
  revert hd
  unfold stepRetry
  apply stepRetryRead_cases (P := fun g1 => (stepRetryCommit g1 f).dealt = g.dealt + 1 →
    ∃ s ∈ (stepRetryCommit g1 f).slots, s.rev = g.dealt + 1)
  case hBusy =>
    intro p _ h
    rw [stepRetryCommit_dealt] at h
    omega
  case hNop => intro _ h; rw [hq] at h; cases h
  case hPop =>
    intro w' rest' _ _ _ h
    rw [stepRetryCommit_dealt] at h
    simp at h
  case hDeal =>
    intro w' rest' val _ _ _ _ _ _
    simp [stepRetryCommit, G.notify]
  case hFull =>
    intro _ _ h
    rw [stepRetryCommit_dealt] at h
    omega

/-- ... and split: whatever happened since the retry loop's read (any client steps in between), its commit
step — with every outcome: success, lost compare-and-swap, storage error, unknown outcome — reports the
revision it holds to the sequencer and leaves the loop at the top of `retry()`. -/
theorem retry_commit_resolves {g0 g : G} (h0 : C02.Init g0) (hr : Reachable g0 g) (f : Fault) (p : RetryPc)
    (hp : g.retryPc = some p) :
    (∃ s ∈ (stepRetryCommit g f).slots, s.rev = p.rev ∧ s.key = p.w.key) ∧ (stepRetryCommit g f).retryPc = none ∧
      (stepRetryCommit g f).dealt = g.dealt := by
  have hpos : p.rev ≠ 0 := by
    have := (C04.committed_lt_repair h0.1 hr p.rev (by simp [C04.repairRev, hp])).1
    omega
  refine ⟨?_, ?_, stepRetryCommit_dealt g f⟩
  · simp [stepRetryCommit, hp, G.notify, hpos]
  · apply stepRetryCommit_cases (P := fun g' => g'.retryPc = none)
    · intro hn; exact hn
    · intros; simp

/-- While the retry loop holds its revision the read revision stays below it (it blocks the sequencer exactly
like a client's dealt revision) — and it is the revision of no applied write and of no request. -/
theorem repair_revision_in_flight {g0 g : G} (h0 : C02.Init g0) (hs : C02.StoreOK g0) (hr : Reachable g0 g)
    (p : RetryPc) (hp : g.retryPc = some p) :
    g.committed < p.rev ∧ p.rev ≤ g.dealt ∧ p.w.rev < p.rev ∧ (∀ w ∈ g.wlog, w.rev ≠ p.rev) ∧
      (∀ s ∈ g.slots, s.rev ≠ p.rev) ∧ (∀ c ∈ g.clients, C04.inflightRev c ≠ some p.rev) ∧
      (∀ d ∈ g.done, d.rev ≠ p.rev) := by
  obtain ⟨hv, hd⟩ := C02.finv h0 hr
  have hrpc : g.view.rpc = some p.rev := by simp [G.view, hp]
  obtain ⟨hfr, hlt⟩ := (SInv.reachable h0 hs hr).rp p hp
  refine ⟨(hv.rpcR _ hrpc).1, (hv.rpcR _ hrpc).2, hlt, hfr.2.2, ?_, ?_, ?_⟩
  · intro s hsm e; exact hv.rpcSlot s hsm (by rw [hrpc, e])
  · intro c hc e; rw [C04.inflightRev_eq] at e; exact hv.rpcInfl c hc _ e hrpc
  · intro d hdm e; exact hd.dRpc d hdm (by rw [hrpc, e])

/-- The path only the two-step repair has: a client write landed between the repair's read and its commit,
so the index record of the key is no longer the one the repair read (`cur ≠ …`). Then the compare-and-swap
fails, whatever fault is injected: nothing is written (the client's write stays intact), the revision the
repair was dealt is reported as a definite invalid one (not `uncertain`: the sequencer will skip it without
queueing it again), the head of the queue is popped and the loop is back at the top of `retry()`. -/
theorem repair_loses_to_client_write (g : G) (f : Fault) (p : RetryPc) (hp : g.retryPc = some p) (h0 : p.rev ≠ 0)
    (cur : Bytes) (hcur : g.store.get (idxKey p.w.key) = some cur)
    (hne : cur ≠ be8 p.w.rev ++ (if isTomb p.val then [0] else [])) :
    (stepRetryCommit g f).store = g.store ∧ (stepRetryCommit g f).wlog = g.wlog ∧
      (stepRetryCommit g f).hist = g.hist ∧
      (stepRetryCommit g f).retryQ = g.retryQ.drop 1 ∧ (stepRetryCommit g f).retryPc = none ∧
      (stepRetryCommit g f).dealt = g.dealt ∧ (stepRetryCommit g f).clients = g.clients ∧
      (stepRetryCommit g f).slots = g.slots ++ [{ p.w with rev := p.rev, valid := false, uncertain := false }] := by
  have hc : ∃ i cv, (doCommit g.cfg g.store
      [BOp.cas (idxKey p.w.key) (be8 p.rev ++ if isTomb p.val then [0] else []) (be8 p.w.rev ++ if isTomb p.val then [0] else []),
       BOp.put (encode p.w.key p.rev) p.val] f) = (.conflict i cv, g.store) := by
    simp only [doCommit, commit, applyOps, applyOp, hcur, if_neg hne]
    exact ⟨_, _, rfl⟩
  obtain ⟨i, cv, hc⟩ := hc
  simp only [stepRetryCommit, hp, hc]
  simp [applied, CommitRes.isCas, G.notify, h0]

/-- ... and the sequencer then passes over that revision: it neither emits an event for it nor queues it. -/
theorem lost_repair_revision_skipped (g : G) (s : WEvent) (hs : g.slots.find? (fun w => w.rev == g.committed + 1) = some s)
    (hv : s.valid = false) (hu : s.uncertain = false) :
    (stepSeq g).committed = g.committed + 1 ∧ (stepSeq g).emitted = g.emitted ∧ (stepSeq g).retryQ = g.retryQ ∧
      (stepSeq g).store = g.store := by
  have hr : s.rev = g.committed + 1 := by simpa using List.find?_some hs
  simp [stepSeq, hs, hv, hu, hr]

/-- Compaction does not advance past the unresolved revision. -/
theorem compaction_capped (c : Cfg) (s : BState) (rev : Nat) (mask : Nat → DelOutcome) (w : WEvent)
    (rest : List WEvent) (hq : s.retryQ = w :: rest) (R : Nat) (h : (doCompact c s rev mask).1 = .ok R) :
    R ≤ w.rev - 1 := by
  have := compaction_rev c s rev mask R h
  simp only [hq, List.head?_cons] at this
  rw [this]; exact Nat.min_le_left _ _

/-- The oldest unresolved revision stays at the head: whatever the repair write returns except success
or a failed condition, the entry is still queued (so compaction stays capped and the repair is retried). -/
theorem unrepaired_stays_queued (g : G) (f : Fault) (p : RetryPc) (hp : g.retryPc = some p)
    (hf : f = .uncApplied ∨ f = .uncNotApplied ∨ f = .err)
    (hcommit : ∃ st', commit g.cfg.q g.store
        [BOp.cas (idxKey p.w.key) (be8 p.rev ++ (if isTomb p.val then [0] else []))
           (be8 p.w.rev ++ (if isTomb p.val then [0] else [])), BOp.put (encode p.w.key p.rev) p.val] = .ok st') :
    (stepRetryCommit g f).retryQ = g.retryQ := by
  obtain ⟨st', hc⟩ := hcommit
  unfold stepRetryCommit
  simp only [hp]
  unfold doCommit
  simp only [hc]
  rcases hf with rfl | rfl | rfl <;> simp [G.logWrite, applied, CommitRes.isCas] <;> (split <;> rfl)

/-- The same for a whole `retry()` (read and commit back to back). -/
theorem unrepaired_stays_queued_atomic (g : G) (f : Fault) (w : WEvent) (rest : List WEvent) (hq : g.retryQ = w :: rest)
    (hn : g.retryPc = none)
    (val : Bytes) (hget : getInternal g.cfg g.store w.key 0 = some (val, w.rev)) (hne : val ≠ [])
    (hf : f = .uncApplied ∨ f = .uncNotApplied ∨ f = .err)
    (hcommit : ∃ st', commit g.cfg.q g.store
        [BOp.cas (idxKey w.key) (be8 (g.dealt + 1) ++ (if isTomb val then [0] else []))
           (be8 w.rev ++ (if isTomb val then [0] else [])), BOp.put (encode w.key (g.dealt + 1)) val] = .ok st') :
    (stepRetry g f).retryQ = w :: rest := by
  have hl : (val.length == 0) = false := by
    cases val with
    | nil => exact absurd rfl hne
    | cons _ _ => rfl
  by_cases hwf : g.windowFull = true
  · -- `Deal` refuses: the repair is not even attempted, the head stays
    have hread : stepRetryRead g = g := by
      unfold stepRetryRead
      simp only [hn, hq, hget, hl, bne_self_eq_false, Bool.or_self, Bool.false_eq_true, if_false, hwf, if_true]
    unfold stepRetry
    rw [hread]
    simp [stepRetryCommit, hn, hq]
  have hread : stepRetryRead g = { g with dealt := g.dealt + 1, retryPc := some { w := w, rev := g.dealt + 1, val := val } } := by
    unfold stepRetryRead
    simp only [hn, hq, hget, hl, bne_self_eq_false, Bool.or_self, Bool.false_eq_true, if_false, hwf]
  unfold stepRetry
  rw [hread, ← hq]
  exact unrepaired_stays_queued _ f { w := w, rev := g.dealt + 1, val := val } rfl hf hcommit

/-- The last applied write of a key, as the ghost log has it. -/
def lastWrite (l : List WLog) (k : Bytes) : Option (Nat × Option Bytes) :=
  ((l.filter (fun w => w.key == k)).getLast?).map (fun w => (w.rev, w.val))

/-- The last event emitted for a key. -/
def lastEvent (l : List Event) (k : Bytes) : Option (Nat × Bool) :=
  ((l.filter (fun e => e.key == k)).getLast?).map (fun e => (e.rev, e.verb == .delete))

/-- Quiescence: nothing in flight, nothing waiting for the sequencer, retry queue drained. -/
def Quiescent (g : G) : Prop := g.clients = [] ∧ g.slots = [] ∧ g.retryQ = []

/-- Values a client may write in this theorem: non-empty and not the reserved deletion marker. -/
def ValuesOK (sched : List Action) : Prop :=
  ∀ a ∈ sched, (∀ id k v, a = .begin id (.create k v) → v ≠ [] ∧ v ≠ tombstone) ∧
               (∀ id k v e, a = .begin id (.update k v e) → v ≠ [] ∧ v ≠ tombstone)

/-- Why `convergence` asks for keys over the alphabet (`hal`): all its other hypotheses hold here. Keys `"2"` and `"2$\0\0\0\0\0\0\0\5"`: every internal key
of the second lies between the internal keys `("2", 5)` and `("2", 6)` of the first. Request 1 creates `"2"`
at revision 1 with outcome "unknown, applied"; request 2 creates the other key at revision 2. The sequencer
queues revision 1 for repair and emits revision 2. The retry loop reads the newest version of `"2"`: the
descending iteration from `("2", 2^64-1)` first meets a record of the other key, decode-and-compare fails,
the read answers "not found" and the queue entry is dropped. The state is quiescent, the last applied write
of `"2"` is revision 1, and no event for `"2"` was ever emitted. -/
def cexSched : List Action :=
  [ .begin 1 (.create [50] [1]), .step 1 .none, .begin 2 (.create [50, 36, 0, 0, 0, 0, 0, 0, 0, 5] [1]),
    .step 2 .none, .step 2 .none, .step 1 .uncApplied, .seq, .seq, .retry .none ]

theorem convergence_counterexample :
    C02.Init {} ∧ ({} : G).store = [] ∧ ({} : G).emitted = [] ∧ ValuesOK cexSched ∧ Quiescent (run {} cexSched) ∧
      (run {} cexSched).dealt < 2 ^ 64 ∧
      (lastWrite (run {} cexSched).wlog [50]).map (fun p => (p.1, p.2.isNone)) = some (1, false) ∧
      lastEvent (run {} cexSched).emitted [50] = none ∧
      (run {} cexSched).done.map (·.res) = [.ok 2, .error .uncertain] := by
  refine ⟨⟨by decide, rfl, rfl, rfl⟩, rfl, rfl, ?_, ⟨by decide, by decide, by decide⟩, by decide, by decide,
    by decide, by decide⟩
  intro a ha
  simp only [cexSched, List.mem_cons, List.not_mem_nil, or_false] at ha
  rcases ha with rfl | rfl | rfl | rfl | rfl | rfl | rfl | rfl | rfl <;>
    refine ⟨?_, ?_⟩ <;> (intros; rename_i e; cases e) <;> decide

/-- An interleaving that needs the two-step repair (`Action.retry` alone does not reach it), end to end: request 1 creates `"a"` at revision 1 with
outcome "unknown, applied"; the sequencer queues revision 1; the retry loop reads (`"a"` is still at revision 1)
and is dealt revision 2; request 2 updates `"a"` conditioned on revision 1 and succeeds at revision 3 — its slot
waits behind revision 2; the repair commits: its compare-and-swap fails. The sequencer then skips revision 2,
emits revision 3; the queue is empty, the state quiescent and converged; the client's value is what the store holds. -/
def lostSched : List Action :=
  [ .begin 1 (.create [97] [1]), .step 1 .none, .step 1 .uncApplied, .seq, .retryRead,
    .begin 2 (.update [97] [2] 1), .step 2 .none, .step 2 .none ]

theorem lost_cas_example :
    let g := run {} lostSched
    let g' := run g [.retryCommit .none, .seq, .seq]
    g.committed = 1 ∧ g.dealt = 3 ∧ (g.retryPc.map (·.rev)) = some 2 ∧ g.slots.map (·.rev) = [3] ∧
      (act g .seq).committed = 1 ∧
      g.done.map (·.res) = [.error .uncertain, .ok 3] ∧
      g'.clients = [] ∧ g'.slots = [] ∧ g'.retryQ = [] ∧ g'.retryPc = none ∧ g'.committed = 3 ∧ g'.emitted.map (fun e => (e.rev, e.key, e.val)) = [(3, [97], [2])] ∧
      (lastWrite g'.wlog [97]).map (fun p => (p.1, p.2.isNone)) = lastEvent g'.emitted [97] ∧
      getInternal g'.cfg g'.store [97] 0 = some ([2], 3) := by
  decide

/-- Convergence, for keys over the documented alphabet (every byte above the split byte): once the engine
answers again and the queue has drained, store and watch stream agree — for every key the last write the
engine applied is the last event handed to the watchers (same revision, same kind), whatever unknown-outcome
faults occurred and whether or not they landed. -/
theorem convergence {g0 : G} (h0 : C02.Init g0) (hs : g0.store = []) (hem : g0.emitted = [])
    (sched : List Action) (hv : ValuesOK sched)
    (hal : ∀ a ∈ sched, ∀ id kind, a = .begin id kind → Alphabet kind.key)
    (hq : Quiescent (run g0 sched))
    (hb : (run g0 sched).dealt < 2 ^ 64) (k : Bytes) :
    (lastWrite (run g0 sched).wlog k).map (fun p => (p.1, p.2.isNone)) = lastEvent (run g0 sched).emitted k := by
  have hok : ∀ a ∈ sched, ActOK a := by
    intro a ha id kind e
    refine ⟨hal a ha id kind e, ?_⟩
    intro v hw
    cases kind with
    | create k' v' =>
      simp only [ReqKind.wval, Option.some.injEq] at hw
      subst hw
      exact (hv a ha).1 id k' v' e
    | update k' v' ex =>
      simp only [ReqKind.wval, Option.some.injEq] at hw
      subst hw
      exact (hv a ha).2 id k' v' ex e
    | delete k' ex => cases hw
  have hcv := Cv.run h0 hs hem sched hok hb
  have ctx := Ctx.reachable h0 hs ⟨sched, rfl⟩
  have := hcv.converged ctx hb hq.2.1 hq.2.2 k
  simp only [lastWrite, lastEvent, Option.map_map]
  exact this

end KB.C09
