/-
  C01 (creator part, /repo eb6d1d1) — a create over a deleted key whose deletion record is REWRITTEN while the request
  is in flight (the repair of an uncertain DELETE that had landed: N|deleted → M|deleted) is evaluated again instead of
  being answered "condition failed".
  Model: KB.Sys — the creator's bounded loop `Pc.createOver rev old att` / `Pc.createRecheck rev att` (each storage
  call one step), any number of clients, the repair loop's two steps interleaved anywhere, storage faults of all three
  kinds on every commit. `Cfg.creatorNoReeval = true` is the creator BEFORE the fix (refutation only).
  Ghost vocabulary: `g.wlog` (the batches the engine applied, in commit order), `g.done` (answers), `g.spans` (for each
  answered request the piece `wlog[beginLog, endLog)` applied while it was in flight);
  `keyState g0 l k` = (revision, deleted?) of `k`'s revision record after the applied writes `l`;
  `Live st` = the key is live in that state; `Refuses st rev` = live, or deleted at / above `rev`.
  /repo 42e5238: a deletion record at or ABOVE the create's revision (the repair was dealt its revision after the
  create; or the allocator lags) is answered with an ERROR, no longer with "condition failed": the key is absent, the
  condition did not fail. `Cfg.creatorTombAboveIsCf = true` is the creator between eb6d1d1 and that fix (refutation).
-/
import KB.Lemmas.CreatorLoop
import KB.Props.C01
namespace KB.C01Repair
open KB.SysStore KB.CreatorLoop

/-- Every create answered "condition failed" has its justification recorded (`CreatorLoop.SpanOK`), whichever creator
`Cfg.creatorTombAboveIsCf` selects: the flag is read inside `Why`. -/
theorem create_cf_justified {g0 g : G} (h0 : C02.Init g0) (hs : C02.StoreOK g0) (hr : Reachable g0 g)
    (hb : g.dealt < 2 ^ 64) (hnew : g0.cfg.creatorNoReeval = false)
    (d : Done) (hd : d ∈ g.done) (k v : Bytes) (hk : d.kind = .create k v)
    (hdr : Nat) (kv : Option (Bytes × Bytes × Nat)) (hres : d.res = .condFailed hdr kv) :
    ∃ s ∈ g.spans, SpanOK g0 g.wlog k d s :=
  (JInv.reachable h0 hs hr hnew hb).dn d hd k v hdr kv hk hres

/-- **A failed condition of a create means the key was LIVE.** In every reachable state, for every create answered
"condition failed": at some moment `n` of the log between the request's begin and its answer the key was live — or the
creator gave up after its fourth compare-and-swap, and then at least 4 writes to that key were applied while the
request was in flight. Deletion records — below the create's revision (eb6d1d1: evaluated again) or at / above it
(42e5238: an error) — never produce "condition failed". (`hb`: revisions are uint64, as in `C01.chain`.) -/
theorem create_cf_justified_under_repair {g0 g : G} (h0 : C02.Init g0) (hs : C02.StoreOK g0) (hr : Reachable g0 g)
    (hb : g.dealt < 2 ^ 64) (hnew : g0.cfg.creatorNoReeval = false) (hfix : g0.cfg.creatorTombAboveIsCf = false)
    (d : Done) (hd : d ∈ g.done) (k v : Bytes) (hk : d.kind = .create k v)
    (hdr : Nat) (kv : Option (Bytes × Bytes × Nat)) (hres : d.res = .condFailed hdr kv) :
    ∃ s ∈ g.spans, s.id = d.id ∧ s.rev = d.rev ∧ s.beginLog ≤ s.endLog ∧ s.endLog ≤ g.wlog.length ∧
      ((∃ n, s.beginLog ≤ n ∧ n ≤ s.endLog ∧ Live (keyState g0 (g.wlog.take n) k)) ∨
       4 ≤ rewrites k ((g.wlog.take s.endLog).drop s.beginLog)) := by
  let ⟨s, hm, h⟩ := create_cf_justified h0 hs hr hb hnew d hd k v hk hdr kv hres
  exact ⟨s, hm, h.imp fun _ c => Why.live (hfix ▸ c)⟩

/-- The creator between eb6d1d1 and 42e5238 (`creatorTombAboveIsCf`): the weaker justification — live, OR deleted at /
above the create's revision; the second alternative is what 42e5238 turned into an error
(`old_creator_cf_when_repair_is_later` is the run that needs it). It holds of either creator (a live key refuses too): `hold`
only says which creator the statement is meant for. -/
theorem create_cf_justified_before_42e5238 {g0 g : G} (h0 : C02.Init g0) (hs : C02.StoreOK g0) (hr : Reachable g0 g)
    (hb : g.dealt < 2 ^ 64) (hnew : g0.cfg.creatorNoReeval = false) (hold : g0.cfg.creatorTombAboveIsCf = true)
    (d : Done) (hd : d ∈ g.done) (k v : Bytes) (hk : d.kind = .create k v)
    (hdr : Nat) (kv : Option (Bytes × Bytes × Nat)) (hres : d.res = .condFailed hdr kv) :
    ∃ s ∈ g.spans, s.id = d.id ∧ s.rev = d.rev ∧ s.beginLog ≤ s.endLog ∧ s.endLog ≤ g.wlog.length ∧
      ((∃ n, s.beginLog ≤ n ∧ n ≤ s.endLog ∧ Refuses (keyState g0 (g.wlog.take n) k) d.rev) ∨
       4 ≤ rewrites k ((g.wlog.take s.endLog).drop s.beginLog)) := by
  let ⟨s, hm, h⟩ := create_cf_justified h0 hs hr hb hnew d hd k v hk hdr kv hres
  exact ⟨s, hm, h.imp fun _ c => c.refuses_any⟩

/-- The same, naming the interferer: the key was already live when the request began, or one of the writes applied while
it was in flight made it live, or 4 writes to the key were applied meanwhile. Deletions (rewrites by the repair of an
uncertain delete included, whatever their revision) are not a reason. -/
theorem create_cf_names_the_interferer {g0 g : G} (h0 : C02.Init g0) (hs : C02.StoreOK g0) (hr : Reachable g0 g)
    (hb : g.dealt < 2 ^ 64) (hnew : g0.cfg.creatorNoReeval = false) (hfix : g0.cfg.creatorTombAboveIsCf = false)
    (d : Done) (hd : d ∈ g.done) (k v : Bytes) (hk : d.kind = .create k v)
    (hdr : Nat) (kv : Option (Bytes × Bytes × Nat)) (hres : d.res = .condFailed hdr kv) :
    ∃ s ∈ g.spans, s.id = d.id ∧ s.rev = d.rev ∧
      (Live (keyState g0 (g.wlog.take s.beginLog) k) ∨
       (∃ w ∈ (g.wlog.take s.endLog).drop s.beginLog, w.key = k ∧ w.val ≠ none) ∨
       4 ≤ rewrites k ((g.wlog.take s.endLog).drop s.beginLog)) := by
  obtain ⟨s, hsm, h1, h2, h3, h4, h5⟩ :=
    create_cf_justified_under_repair h0 hs hr hb hnew hfix d hd k v hk hdr kv hres
  refine ⟨s, hsm, h1, h2, ?_⟩
  rcases h5 with ⟨n, hbn, hne, hlive⟩ | h5
  · -- the log up to `n` is the log up to the begin, then a piece of what was applied while the request was in flight
    have hsplit : g.wlog.take n = g.wlog.take s.beginLog ++ (g.wlog.take n).drop s.beginLog := by
      conv => lhs; rw [← List.take_append_drop s.beginLog (g.wlog.take n), List.take_take, Nat.min_eq_left hbn]
    rw [hsplit] at hlive
    rcases live_append hlive with h | ⟨w, hw, hk, hv⟩
    · exact .inl h
    · rw [← Nat.min_eq_left hne, ← List.take_take, List.drop_take] at hw
      exact .inr (.inl ⟨w, List.mem_of_mem_take hw, hk, hv⟩)
  · exact .inr (.inr h5)

/-- In KB.Sys the index record of a key never vanishes (compaction is not an action of this LTS: that race is
`KB.C07Race`), so the creator's "record gone: put-if-absent again" branch (`Pc.createRetry`, c592466) is not reachable
here, and the theorems above lose nothing by it. -/
theorem recreate_branch_needs_compaction {g0 g : G} (h0 : C02.Init g0) (hs : C02.StoreOK g0) (hr : Reachable g0 g)
    (hb : g.dealt < 2 ^ 64) (hnew : g0.cfg.creatorNoReeval = false) (c : Client) (hc : c ∈ g.clients) (rev : Nat) :
    c.pc ≠ .createRetry rev := by
  intro e
  have := ((JInv.reachable h0 hs hr hnew hb).cl c hc (by simp)).2
  simp [e] at this

/-- The sequential model (`KB.Backend.doCreate`, one request at a time) is unaffected: run alone, the creator's
first compare-and-swap is made against the record it has just read and cannot fail its condition, so the loop body
runs once — the creator as it is now (`creatorCreateNow`) IS the one-shot `creatorCreate` every sequential theorem
is about. -/
theorem sequential_creator_is_one_shot (c : Cfg) (st : Store) (key val : Bytes) (rev : Nat) (fs : List Fault) :
    creatorCreateNow c st key val rev fs = creatorCreate c st key val rev fs :=
  creatorCreateNow_eq c st key val rev fs

/-! ### A create racing the repair of an uncertain delete, from the empty store -/

/-- key `/a` -/
def k : Bytes := [47, 97]

/-- history: request 1 creates `/a` (revision 1); request 2 deletes it (revision N = 2): the commit LANDS, the engine
answers "outcome unknown", the sequencer queues revision 2 for repair -/
def pre : List Action :=
  [ .begin 1 (.create k [1]), .step 1 .none, .step 1 .none, .seq,
    .begin 2 (.delete k 0), .step 2 .none, .step 2 .none, .step 2 .uncApplied, .seq ]

/-- the race: the repair reads the key and is dealt M = 3; request 3 creates `/a`, is dealt C = 4, its put-if-absent
fails on 2|deleted; the repair commits (2|deleted → 3|deleted); the creator's compare-and-swap against 2|deleted fails;
it reads the record again (3|deleted, 3 < 4); its compare-and-swap against 3|deleted -/
def race : List Action :=
  [ .retryRead, .begin 3 (.create k [2]), .step 3 .none, .step 3 .none, .retryCommit .none,
    .step 3 .none, .step 3 .none, .step 3 .none ]

/-- the same race with the repair dealt its revision AFTER the create (C = 3 < M = 4) -/
def raceLate : List Action :=
  [ .begin 3 (.create k [2]), .step 3 .none, .step 3 .none, .retryRead, .retryCommit .none,
    .step 3 .none, .step 3 .none ]

/-- what a point read of `k` answers in state `g` (none = absent / deleted) -/
def readAt (g : G) (k : Bytes) : Option (Bytes × Nat) :=
  match bget g.cfg g.store k 0 with
  | .found v m => some (v, m)
  | .notFound _ => none

/-- the creator before eb6d1d1 -/
def gOld : G := { cfg := { creatorNoReeval := true, creatorTombAboveIsCf := true } }

/-- the creator between eb6d1d1 and 42e5238 -/
def gMid : G := { cfg := { creatorTombAboveIsCf := true } }

/-- a second create of a key that is live -/
def overLive : List Action :=
  [ .begin 1 (.create k [1]), .step 1 .none, .step 1 .none, .seq, .begin 3 (.create k [2]), .step 3 .none, .step 3 .none ]

theorem init_cfg (cf : Cfg) : C02.Init { cfg := cf } ∧ C02.StoreOK { cfg := cf } :=
  ⟨⟨⟨rfl, rfl, rfl, rfl, rfl⟩, rfl, rfl, rfl⟩, ⟨[], rfl, List.Pairwise.nil, nofun, (by decide : 0 < 2 ^ 64 - 2 ^ 32)⟩⟩

theorem init_empty : C02.Init {} ∧ C02.StoreOK {} := init_cfg {}

/-- **The create over the repaired deletion succeeds.** On `pre ++ race` the create is answered `ok` at C = 4:
the program counters show the path (put-if-absent refused → compare-and-swap on 2|deleted refused → read again →
compare-and-swap on 3|deleted), the log is create 1, delete 2, rewrite 3 (conditioned on 2), create 4 (over a deletion),
the record ends at 4 live, the key reads `[2]@4`, and the chain invariant (`C01.chain`) holds of the final log. -/
theorem create_over_repaired_deletion_succeeds :
    let g := run {} (pre ++ race)
    g.done.map (fun d => (d.id, d.res)) = [(1, .ok 1), (2, .error .uncertain), (3, .ok 4)] ∧
    (List.range (race.length + 1)).map (fun i => (run (run {} pre) (race.take i)).clients.map (·.pc)) =
      [[], [], [.start], [.createCommit 4], [.createOver 4 (be8 2 ++ [0]) 0], [.createOver 4 (be8 2 ++ [0]) 0],
       [.createRecheck 4 0], [.createOver 4 (be8 3 ++ [0]) 1], []] ∧
    g.wlog.map (fun w => (w.rev, w.val, w.exp)) =
      [(1, some [1], .absent), (2, none, .rev 1), (3, none, .rev 2), (4, some [2], .absent)] ∧
    g.store.get (idxKey k) = some (be8 4) ∧ readAt g k = some ([2], 4) ∧ g.clients = [] ∧
    (∀ i w, g.wlog[i]? = some w → C01.ChainAt {} g.wlog i w) := by
  -- one evaluation of the schedule gives the first six conjuncts and the bound `C01.chain` needs for the seventh
  refine And.imp_right (And.imp_right (And.imp_right (And.imp_right (And.imp_right
    fun (h : _ ∧ (run {} (pre ++ race)).dealt < 2 ^ 64) =>
      ⟨h.1, fun i w hw => C01.chain init_empty.1 init_empty.2 ⟨pre ++ race, rfl⟩ h.2 i w hw⟩)))) ?_
  decide +kernel

/-- **Refutation for the creator before eb6d1d1.** Same schedule, pre-repair creator: the create is answered
"condition failed" although a point read of the key answers "absent" in EVERY state of the run from the moment the
delete had landed, and nothing but the delete and its rewrite was ever applied to the key: the statement of
`create_cf_justified_under_repair` fails for it (`old_creator_not_justified`). -/
theorem old_creator_cf_on_still_deleted_key :
    let g1 := run gOld pre
    let g := run g1 race
    g.done.map (fun d => (d.id, d.res)) = [(1, .ok 1), (2, .error .uncertain), (3, .condFailed 4 none)] ∧
    (∀ i, i ≤ race.length → readAt (run g1 (race.take i)) k = none) ∧
    g.wlog.map (fun w => (w.rev, w.val, w.exp)) = [(1, some [1], .absent), (2, none, .rev 1), (3, none, .rev 2)] ∧
    g.spans = [⟨1, 1, 0, 1⟩, ⟨2, 2, 1, 2⟩, ⟨3, 4, 2, 3⟩] := by
  decide +kernel

/-- ... in the vocabulary of the theorem: no moment of the request's span refuses the create, and one write (not 4)
was applied meanwhile. -/
theorem old_creator_not_justified :
    let g := run gOld (pre ++ race)
    ∀ s ∈ g.spans, s.id = 3 → s.rev = 4 →
      ¬ ((∃ n, s.beginLog ≤ n ∧ n ≤ s.endLog ∧ Refuses (keyState gOld (g.wlog.take n) k) 4) ∨
         4 ≤ rewrites k ((g.wlog.take s.endLog).drop s.beginLog)) := by
  -- the same with the moments `n` of the span as a bounded quantifier, which evaluation decides
  have h : ∀ s ∈ (run gOld (pre ++ race)).spans, s.id = 3 → s.rev = 4 →
      (∀ n, n ≤ s.endLog → s.beginLog ≤ n →
        ¬ Refuses (keyState gOld ((run gOld (pre ++ race)).wlog.take n) k) 4) ∧
      ¬ 4 ≤ rewrites k (((run gOld (pre ++ race)).wlog.take s.endLog).drop s.beginLog) := by decide +kernel
  exact fun s hs hid hrev hj =>
    hj.elim (fun ⟨n, h1, h2, h3⟩ => (h s hs hid hrev).1 n h2 h1 h3) (h s hs hid hrev).2

/-- **When the repair was dealt its revision after the create (C = 3 < M = 4)** the rewritten record is a deletion
ABOVE the create's revision: nothing can be written below it (the per-key revision order, C02), but the key is absent
and stays so — since /repo 42e5238 the create is answered with an ERROR (the client tries again and is dealt a fresh
revision), not with "condition failed". Nothing is applied by it, its revision 3 is still reported to the sequencer
(an invalid, not uncertain, slot: the read revision passes it), and the key reads "absent" in every state of the run. -/
theorem create_error_when_repair_is_later :
    let g1 := run {} pre
    let g := run g1 raceLate
    g.done.map (fun d => (d.id, d.res)) = [(1, .ok 1), (2, .error .uncertain), (3, .error .other)] ∧
    g.wlog.map (fun w => (w.rev, w.val, w.exp)) = [(1, some [1], .absent), (2, none, .rev 1), (4, none, .rev 2)] ∧
    g.slots.map (fun w => (w.rev, w.valid, w.uncertain)) = [(4, true, false), (3, false, false)] ∧
    (run g [.seq, .seq]).committed = 4 ∧ (run g [.seq, .seq]).retryQ = [] ∧ (run g [.seq, .seq]).slots = [] ∧
    (∀ i, i ≤ raceLate.length → readAt (run g1 (raceLate.take i)) k = none) := by
  decide +kernel

/-- **Refutation for the creator before 42e5238** (`gMid`). Same schedule: "condition failed" at revision 3 although the
key reads "absent" in every state of the run and only the delete and its rewrite were ever applied to it: at no moment
of the request's span was the key live, and one write (not 4) was applied meanwhile — the conclusion of
`create_cf_justified_under_repair` fails for it (only the weaker `create_cf_justified_before_42e5238` holds: deleted
at 4 ≥ 3 at the moment after the rewrite). -/
theorem old_creator_cf_when_repair_is_later :
    let g1 := run gMid pre
    let g := run g1 raceLate
    g.done.map (fun d => (d.id, d.res)) = [(1, .ok 1), (2, .error .uncertain), (3, .condFailed 3 none)] ∧
    (∀ i, i ≤ raceLate.length → readAt (run g1 (raceLate.take i)) k = none) ∧
    g.wlog.map (fun w => (w.rev, w.val, w.exp)) = [(1, some [1], .absent), (2, none, .rev 1), (4, none, .rev 2)] ∧
    g.spans = [⟨1, 1, 0, 1⟩, ⟨2, 2, 1, 2⟩, ⟨3, 3, 2, 3⟩] ∧
    ¬ Live (keyState gMid (g.wlog.take 2) k) ∧ ¬ Live (keyState gMid (g.wlog.take 3) k) ∧
    rewrites k ((g.wlog.take 3).drop 2) = 1 ∧
    keyState gMid (g.wlog.take 3) k = some (4, true) ∧ Refuses (keyState gMid (g.wlog.take 3) k) 3 := by
  decide +kernel

/-! Non-vacuity of the implications: the hypotheses of `create_cf_justified_under_repair` /
`create_cf_names_the_interferer` hold of a run in which a live key is created again (a reachable state with a create
answered "condition failed", the repaired creator); those of `create_cf_justified_before_42e5238` of the late-repair
run of the creator before 42e5238; those of `recreate_branch_needs_compaction` of a state with a request in flight. -/
set_option maxRecDepth 1000000 in
example : ∃ (g0 g : G) (d : Done) (k' v : Bytes) (hdr : Nat) (kv : Option (Bytes × Bytes × Nat)),
    C02.Init g0 ∧ C02.StoreOK g0 ∧ Reachable g0 g ∧ g.dealt < 2 ^ 64 ∧ g0.cfg.creatorNoReeval = false ∧
      g0.cfg.creatorTombAboveIsCf = false ∧ d ∈ g.done ∧ d.kind = .create k' v ∧ d.res = .condFailed hdr kv :=
  ⟨{}, run {} overLive, ⟨3, .create k [2], .condFailed 2 none, 2, 1, 2⟩, k, [2], 2, none,
    init_empty.1, init_empty.2, ⟨_, rfl⟩, by decide +kernel⟩

set_option maxRecDepth 1000000 in
example : ∃ (g0 g : G) (d : Done) (k' v : Bytes) (hdr : Nat) (kv : Option (Bytes × Bytes × Nat)),
    C02.Init g0 ∧ C02.StoreOK g0 ∧ Reachable g0 g ∧ g.dealt < 2 ^ 64 ∧ g0.cfg.creatorNoReeval = false ∧
      g0.cfg.creatorTombAboveIsCf = true ∧ d ∈ g.done ∧ d.kind = .create k' v ∧ d.res = .condFailed hdr kv :=
  ⟨gMid, run gMid (pre ++ raceLate), ⟨3, .create k [2], .condFailed 3 none, 3, 2, 4⟩, k, [2], 3, none,
    (init_cfg _).1, (init_cfg _).2, ⟨_, rfl⟩, by decide +kernel⟩

set_option maxRecDepth 1000000 in
example : ∃ (g0 g : G) (c : Client), C02.Init g0 ∧ C02.StoreOK g0 ∧ Reachable g0 g ∧ g.dealt < 2 ^ 64 ∧
    g0.cfg.creatorNoReeval = false ∧ c ∈ g.clients ∧ c.pc = .createRecheck 4 0 :=
  ⟨{}, run {} (pre ++ race.take 6), ⟨3, .create k [2], .createRecheck 4 0, 3⟩,
    init_empty.1, init_empty.2, ⟨_, rfl⟩, by decide +kernel⟩

#print axioms create_cf_justified_under_repair
#print axioms create_cf_names_the_interferer
#print axioms recreate_branch_needs_compaction
#print axioms sequential_creator_is_one_shot
#print axioms init_empty
#print axioms create_over_repaired_deletion_succeeds
#print axioms old_creator_cf_on_still_deleted_key
#print axioms old_creator_not_justified
#print axioms create_cf_justified_before_42e5238
#print axioms create_error_when_repair_is_later
#print axioms old_creator_cf_when_repair_is_later

end KB.C01Repair
