/-
  C17 — Expiry removes only event keys, wholly, and only after the TTL.
  Model: `expiry` / `expireStep` (scanner.compactIfExpired, with the event key the worker remembers as alive,
  `liveEventRawKey`, and the one it removed as a whole, `goneEventRawKey`; the removal of an expired Event is ONE write
  batch, `Act.expire`, since /repo 74218cc) inside the worker loop `passLoop`, `timeoutRev`
  (scanner.getTimeoutRevision over the compaction marks) with a model clock, `createHasTTL`
  (backend.create). The event-key tests are DEFINED through facts regenerated from the source
  (`Generated.eventsMatchScanner`, `eventsMatchTxn`, `eventsPrefixShape`, `eventsPattern`): if the code
  goes back to a substring match these theorems stop checking.
-/
import KB.Lemmas.Expire
import KB.Lemmas.Pass
namespace KB.C17
open KB Generated

/-- The events resource directory directly under the configured prefix: `<prefix>/events/`. -/
def eventsDir (pfx : Bytes) : Bytes := pfx ++ [47, 101, 118, 101, 110, 116, 115, 47]

/-- Only event keys: whatever expiry removes lies in the events directory (engine without native TTL) — whatever
the worker remembers. -/
theorem only_event_keys (c : WCfg) (live gone : Bytes) (snap : List Rec) (r : Rec) (acts : List Act)
    (h : expireStep c live gone snap r = some acts) :
    hasPrefix r.key c.eventsPfx = true ∧ c.eventsPfx ≠ [] := by
  exact (isEventKey_iff.1 (expireStep_some h).2.2.1).symm

/-- ... and the directory the backend configures is exactly `<prefix>/events/`. -/
theorem events_prefix_is_dir (c : Cfg) : eventsPrefixOf c = eventsDir c.pfx := by
  rw [eventsPrefixOf_eq]; rfl

/-- Engines with native TTL: the TTL is passed on create exactly for keys in the events directory. -/
theorem ttl_only_for_event_keys (c : Cfg) (key : Bytes) :
    createHasTTL c key = true ↔ hasPrefix key (eventsDir c.pfx) = true := by
  rw [createHasTTL_eq]; exact Iff.rfl

/-- A pod in a namespace called `events` is not an Event: `/registry/pods/events/p1` never expires. -/
theorem lookalike_never_expires :
    let pfx : Bytes := [47, 114, 101, 103, 105, 115, 116, 114, 121]               -- "/registry"
    let key : Bytes := pfx ++ [47, 112, 111, 100, 115, 47, 101, 118, 101, 110, 116, 115, 47, 112, 49]  -- "/pods/events/p1"
    ∀ (cw : WCfg) (live gone : Bytes) (snap : List Rec) (r : Rec), cw.eventsPfx = eventsDir pfx → r.key = key →
      expireStep cw live gone snap r = none := by
  intro pfx key cw live gone snap r hpfx hkey
  have hk : isEventKey cw r.key = false := by
    rw [isEventKey_eq, hpfx, hkey]; decide
  unfold expireStep
  rw [expiry_nonevent hk]

/-- The timeout revision is the revision of a compaction mark that is at least TTL old. -/
theorem timeout_rev_old (c : Cfg) (marks : List (Nat × Nat)) (now : Nat) (T : Nat)
    (h : (timeoutRev c marks now).1 = T) (hT : T ≠ 0) : ∃ t, (T, t) ∈ marks ∧ c.ttl ≤ now - t := by
  unfold timeoutRev at h
  by_cases hs : c.q.supportTTL = true
  · rw [if_pos hs] at h; exact absurd h.symm hT
  · rw [if_neg hs] at h
    simp only at h
    cases hl : (marks.takeWhile (fun m => decide (now - m.2 ≥ c.ttl))).getLast? with
    | none => rw [hl] at h; exact absurd h.symm hT
    | some x =>
      rw [hl] at h
      simp only [Option.map_some, Option.getD_some] at h
      have hmem := mem_takeWhile_imp' (List.mem_of_getLast? hl)
      refine ⟨x.2, ?_, ?_⟩
      · rw [← h]; exact hmem.1
      · simpa using hmem.2

/-- Never before the TTL: a revision record expires only if the revision it names is at or below the timeout
revision — i.e. at or below a revision that was already committed when a mark at least TTL old was taken; a key whose
newest change is younger than that survives. A version expires on its own (`compactKey`) only at or below the timeout
revision and only if its key is not the one the worker remembers as alive; the only other way a version goes is as a
part of the batch that removed its key's EXPIRED revision record (`expire_batch_only_own_versions`): then the worker
remembers the key as gone and makes no call for the version. -/
theorem young_survive (c : WCfg) (live gone : Bytes) (snap : List Rec) (r : Rec) (acts : List Act)
    (h : expireStep c live gone snap r = some acts) (hnp : acts ≠ [.panic]) :
    (r.rev = 0 → fromBE (r.val.take 8) ≤ c.timeout) ∧
    (r.rev ≠ 0 → (r.key = gone ∧ acts = []) ∨ (r.rev ≤ c.timeout ∧ r.key ≠ live ∧ acts = [.del r.ik r.key])) := by
  obtain ⟨_, _, _, ⟨rfl, _⟩ | ⟨rfl, hr, _, h5⟩ | ⟨rfl, hr, hg⟩ | ⟨rfl, hr, h5, h6, _⟩⟩ := expireStep_some h
  · exact absurd rfl hnp
  · exact ⟨fun _ => h5, fun hne => absurd hr hne⟩
  · exact ⟨fun h0 => absurd h0 hr, fun _ => .inl ⟨hg, rfl⟩⟩
  · exact ⟨fun h0 => absurd h0 hr, fun _ => .inr ⟨h5, h6, rfl⟩⟩

/-- The expiry batch is made only at a revision record that names a revision at or below the timeout revision, and
it names nothing but that record and versions of the SAME raw key the snapshot shows. -/
theorem expire_batch_only_own_versions (c : WCfg) (live gone : Bytes) (snap : List Rec) (r : Rec)
    (ik v : Bytes) (vers : List Bytes) (raw : Bytes) (acts : List Act)
    (h : expireStep c live gone snap r = some acts) (ha : .expire ik v vers raw ∈ acts) :
    r.rev = 0 ∧ fromBE (r.val.take 8) ≤ c.timeout ∧ isEventKey c r.key = true ∧
    ik = r.ik ∧ v = r.val ∧ raw = r.key ∧
    ∀ x ∈ vers, ∃ w ∈ snap, w.key = r.key ∧ w.rev ≠ 0 ∧ w.ik = x := by
  obtain ⟨_, _, hev, ⟨rfl, _⟩ | ⟨rfl, hr, _, h5⟩ | ⟨rfl, _⟩ | ⟨rfl, _⟩⟩ := expireStep_some h
  · simp at ha
  · simp only [List.mem_singleton, Act.expire.injEq] at ha
    obtain ⟨e1, e2, e3, e4⟩ := ha
    refine ⟨hr, h5, hev, e1, e2, e4, fun x hx => ?_⟩
    rw [e3] at hx
    obtain ⟨w, hw, hk, h0', _, e⟩ := mem_versionsOf.1 hx
    exact ⟨w, hw, hk, h0', e⟩
  · cases ha
  · simp at ha

/-- An Event whose newest change is younger than the TTL keeps ALL its versions: when its revision record `i` names
a revision above the timeout revision, the expiry step does nothing to `i` whatever the worker remembered before,
the worker then remembers the key (`expiry … = .noLive`: `passLoop` goes on with `live = i.key`), and with the
key remembered (and not the gone one: `goneEventRawKey` is only ever set at a revision record whose batch went
through) the expiry step produces no action for any version of that key — whatever the version's revision, at or
below the timeout revision included. -/
theorem young_event_keeps_all_versions (c : WCfg) (i : Rec) (hi0 : i.rev = 0) (h8 : 8 ≤ i.val.length)
    (hy : c.timeout < fromBE (i.val.take 8)) (snap : List Rec) :
    (∀ live gone, expireStep c live gone snap i = none) ∧
    (c.supportTTL = false → c.timeout ≠ 0 → isEventKey c i.key = true → ∀ live gone, expiry c live gone i = .noLive) ∧
    (∀ r : Rec, r.key = i.key → r.rev ≠ 0 → ∀ gone, gone ≠ i.key → expireStep c i.key gone snap r = none) := by
  refine ⟨fun live gone => ?_, fun hs hT hk live gone => expiry_noLive hs hT hk live gone hi0 h8 hy,
    fun r hk hr gone hg => ?_⟩
  · cases h : expireStep c live gone snap i with
    | none => rfl
    | some acts =>
      obtain ⟨_, _, _, ⟨_, _, h⟩ | ⟨_, _, _, h⟩ | ⟨_, h, _⟩ | ⟨_, h, _⟩⟩ := expireStep_some h
      · omega
      · omega
      · exact absurd hi0 h
      · exact absurd hi0 h
  · unfold expireStep
    rw [expiry_live_version c hr hk (hk ▸ hg.symm)]

/-- Wholly: for an event key whose index record says "newest change at m ≤ timeout", one pass makes ONE call at the
index record — a write batch naming the record (compare-and-delete) and every version of the key the snapshot shows —
and no further call for the versions when that batch went through (the key is the gone one); when it returned an
error the worker remembers the key as alive and none of its versions expires
(`KB.C07Expire.expired_index_failure_spares_versions`). A version of an event key that is neither gone nor alive
(its revision record was not seen by this worker) and lies at or below `m` is deleted on its own (`compactKey`). -/
theorem expire_whole (c : WCfg) (hc : c.supportTTL = false) (hT : c.timeout ≠ 0) (live gone : Bytes)
    (snap : List Rec) (r : Rec) (hk : isEventKey c r.key = true) (m : Nat)
    (hidx : r.rev = 0 → 8 ≤ r.val.length ∧ fromBE (r.val.take 8) = m) (hver : r.rev ≠ 0 → r.rev ≤ m)
    (hm : m ≤ c.timeout) :
    (r.rev = 0 → expireStep c live gone snap r = some [.expire r.ik r.val (versionsOf r.key snap) r.key] ∧
      ∀ w ∈ snap, w.key = r.key → w.rev ≠ 0 → w.rev < 2 ^ 64 - 1 → w.ik ∈ versionsOf r.key snap) ∧
    (r.rev ≠ 0 → r.key = gone → expireStep c live gone snap r = some []) ∧
    (r.rev ≠ 0 → r.key ≠ gone → r.key ≠ live → expireStep c live gone snap r = some [.del r.ik r.key]) := by
  refine ⟨fun hr => ?_, fun hr hg => ?_, fun hr hg hl => ?_⟩
  · obtain ⟨hl, hv⟩ := hidx hr
    refine ⟨?_, fun w hw h1 h2 h3 => mem_versionsOf.2 ⟨w, hw, h1, h2, h3, rfl⟩⟩
    unfold expireStep
    rw [expiry_idx hc hT hk live gone hr hl (hv ▸ hm)]
  · unfold expireStep
    rw [expiry_gone hc hT hk live gone hr hg]
  · unfold expireStep
    rw [expiry_ver hc hT hk live gone hr hg (Nat.le_trans (hver hr) hm) hl]

/-- Expired records produce no read result and no other action: the worker performs the call `acts` (none for a
version of the gone key) and `continue`s with `prev` unchanged (the record is neither emitted nor carried as `prev`). -/
theorem expired_not_emitted (c : WCfg) (mask : Nat → DelOutcome) (snap : List Rec) (p : Prev) (live gone : Bytes)
    (st : CompState) (r : Rec) (rs : List Rec) (acts : List Act) (h : expireStep c live gone snap r = some acts) :
    ∃ live' gone', passLoop c mask snap p live gone st (r :: rs) =
      (acts ++ (passLoop c mask snap p live' gone' (runActs mask st acts) rs).1,
       (passLoop c mask snap p live' gone' (runActs mask st acts) rs).2) := by
  obtain ⟨hst, hp⟩ := passStep_run c mask snap ⟨p, live, gone, st⟩ r
  rw [h] at hst hp
  exact ⟨_, _, by rw [passLoop_cons, h, hst, hp rfl]; rfl⟩

/-! Non-vacuity: an event key under `/registry/events/` with timeout revision 5. -/
def exCfg : WCfg := { R := 7, compact := true, timeout := 5, supportTTL := false,
                      eventsPfx := eventsDir [47, 114, 101, 103, 105, 115, 116, 114, 121] }
def exKey : Bytes := eventsDir [47, 114, 101, 103, 105, 115, 116, 114, 121] ++ [101]
/-- expired revision record (newest change at 4), its version at 3, and a young revision record (newest change at 9) -/
def exIdxOld : Rec := { key := exKey, rev := 0, val := be64 4, ik := encode exKey 0 }
def exVer : Rec := { key := exKey, rev := 3, val := [1], ik := encode exKey 3 }
def exIdxYoung : Rec := { key := exKey, rev := 0, val := be64 9, ik := encode exKey 0 }
/-- the batch at the expired revision record names the record and the version the snapshot shows -/
example : expireStep exCfg [] [] [exIdxOld, exVer] exIdxOld =
    some [.expire exIdxOld.ik exIdxOld.val [exVer.ik] exKey] := by
  unfold expireStep expiry; rw [isEventKey_eq]; decide +kernel
/-- the version: no call when the key went as a whole, left alone when the key is remembered as alive, deleted on its
own when the worker remembers neither -/
example : expireStep exCfg [] exKey [exIdxOld, exVer] exVer = some [] := by
  unfold expireStep expiry; rw [isEventKey_eq]; decide +kernel
example : expireStep exCfg [] [] [exIdxOld, exVer] exVer = some [.del exVer.ik exKey] := by
  unfold expireStep expiry; rw [isEventKey_eq]; decide +kernel
example : expireStep exCfg exKey [] [exIdxOld, exVer] exVer = none := by
  unfold expireStep expiry; rw [isEventKey_eq]; decide +kernel
example : exIdxYoung.rev = 0 ∧ 8 ≤ exIdxYoung.val.length ∧ exCfg.timeout < fromBE (exIdxYoung.val.take 8) ∧
    exCfg.supportTTL = false ∧ exCfg.timeout ≠ 0 ∧ isEventKey exCfg exIdxYoung.key = true := by
  rw [isEventKey_eq]; decide +kernel
example : isEventKey exCfg exVer.key = true ∧ (exVer.rev ≠ 0 → exVer.rev ≤ 4) ∧ 4 ≤ exCfg.timeout := by
  rw [isEventKey_eq]; decide +kernel

end KB.C17

#print axioms KB.C17.only_event_keys
#print axioms KB.C17.events_prefix_is_dir
#print axioms KB.C17.ttl_only_for_event_keys
#print axioms KB.C17.lookalike_never_expires
#print axioms KB.C17.timeout_rev_old
#print axioms KB.C17.young_survive
#print axioms KB.C17.expire_batch_only_own_versions
#print axioms KB.C17.young_event_keeps_all_versions
#print axioms KB.C17.expire_whole
#print axioms KB.C17.expired_not_emitted
