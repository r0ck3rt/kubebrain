/-
  C07Par — SEVERAL compaction workers racing each other and the writers: C07's "all interleavings" for the
  compactor as it really runs.

  scanner.go `scan` splits the range into partitions, moves the interior borders to index keys
  (`adjustPartitionsBorders`) and runs ONE GOROUTINE PER PARTITION (`go func(idx int)`). Every worker has its own
  `lastCompactFailedRawKey`, its own iterator snapshot and its own sequence of delete calls — and all of them
  delete from the one live store, concurrently with each other and with the writers' batch commits above `R`.
  (`KB.Backend.compactRange` runs the workers one after the other; `KB.C07Race` has one worker.)

  Model. `PState` = the shared store + a list of `Worker`s (skip key, own call counter, remaining actions;
  ghost: snapshot, trace). `Step.compDel w` = worker `w` performs its next action (one `KB.runDelete` with ITS
  mask `masks w`, indexed by ITS call counter, on the SHARED store); `Step.write ops` = a writer's commit.
    * `init R parts` — all snapshots are chunks `parts` of one snapshot `parts.flatten` (tikv: all iterators
      read at the one timestamp taken before the workers are forked), no raw key in two chunks
      (`KeyDisjoint`; that is what the border adjustment gives: `chunks_keyDisjoint`, `compact_chunks`).
    * `SStep.start w` — the STAGGERED race: worker `w` takes the records of its key range `dom w` in the live
      store AT THAT MOMENT as its snapshot (memkv, badger: the iterator is created when the goroutine gets
      to run); the ranges are fixed and pairwise disjoint (`DomDisjoint`; `rangeDoms_disjoint`,
      `iterAsc_eq_proj` for ranges between index-key borders). `init` is the staggered race in which all
      workers start first (`startWorker_chunk`).

  Results, for every interleaving, ALL failure masks (any mix of ok / error / failed-condition error on
  plain deletes and compare-and-deletes of every worker, hence every crash point of every worker), every
  engine quirk set:
    * `par_compDel_invisible` (`…_staggered`)     one more call of any worker changes no read at any
                              `R' ≥ R` and no key's logical index;
    * `par_race_equals_restored` (`…_staggered`)  in the final state reads at `R' ≥ R` equal the reads of the
                              store with every removed snapshot version (of every worker's snapshot) put back;
    * `par_reduces_to_single` (`…_staggered`)     the proof: the parallel race, restricted to the raw keys of
                              worker `i` (`proj`), IS the single-worker race `KB.C07Race` of worker `i`'s calls
                              and the writer batches on its keys (`projSteps`) — calls of other workers and
                              batches on other keys do not touch these records. So every theorem of
                              `KB.C07Race` holds per key range;
    * `PInv`, `inv_init`, `step_preserves_wf` (`writer_batch_preserves_wf`, `compDel_preserves_wf`),
      `inv_explicit`; `SInv`, `sinv_init`, `sstep_preserves_wf`: the invariant.

  Hypotheses: those of `KB.C07Race` on the snapshot, `KeyDisjoint parts`.
  The staggered statements need one more writer hypothesis, `IdxValOK`: no batch
  writes the deletion marker as an index VALUE — `WriterBatch.retry` allows arbitrary flag bytes, and a
  worker that snapshots such an index record deletes it unconditionally (`staggered_needs_idxValOK`). The
  backend never writes such a value. They also use `k ≠ []` of `Fresh` (a later snapshot must not contain
  the empty raw key, `KB.C07.empty_key_resurrects`).

  Not modelled: `runWithBackoffRetry` re-running `w.run` on the SAME worker after an iterator error (the
  skip key survives the retry there; `SStep.start` on a running worker starts a NEW worker, skip key empty).
-/
import KB.Lemmas.CompactPar
import KB.Lemmas.Partition
namespace KB.C07Par
open KB KB.Compact KB.Race KB.C07 KB.Par Generated
open KB.C07Race (WriterBatch Fresh RState)

structure Worker where
  /-- ghost: the snapshot this worker iterates over (`[]` = not started) -/
  snap : List Rec := []
  lastFailed : Bytes := []
  /-- this worker's own call counter: the index into ITS failure mask -/
  calls : Nat := 0
  /-- ghost: this worker's delete calls so far -/
  trace : List DelCall := []
  /-- the remaining actions, computed from the snapshot -/
  pending : List Act
  deriving Repr, DecidableEq

structure PState where
  /-- the one live store all workers and writers act on -/
  store : Store
  workers : List Worker
  deriving Repr, DecidableEq

inductive Step where
  /-- worker number `w` performs its next action (one `runDelete`) -/
  | compDel (w : Nat)
  /-- a writer's batch commit (atomic; a refused commit changes nothing) -/
  | write (ops : List BOp)
  deriving Repr, DecidableEq

/-- the worker's control state, with the shared store, as a `CompState` -/
def Worker.comp (w : Worker) (store : Store) : CompState :=
  { store := store, lastFailed := w.lastFailed, calls := w.calls, trace := w.trace }

def step (q : Quirks) (masks : Nat → Nat → DelOutcome) (s : PState) : Step → PState
  | .compDel i =>
    match s.workers[i]? with
    | none => s
    | some w =>
      match w.pending with
      | [] => s
      | a :: rest =>
        let c := runDelete (masks i) (w.comp s.store) a
        { store := c.store,
          workers := s.workers.set i
            { w with lastFailed := c.lastFailed, calls := c.calls, trace := c.trace, pending := rest } }
  | .write ops => { s with store := commitOr q s.store ops }

def run (q : Quirks) (masks : Nat → Nat → DelOutcome) (s : PState) (steps : List Step) : PState :=
  steps.foldl (step q masks) s

/-- all workers have taken their snapshots — the chunks `parts` of one snapshot `parts.flatten` — at
revision `R` and made no call yet -/
def init (R : Nat) (parts : List (List Rec)) : PState :=
  { store := encodeStore parts.flatten,
    workers := parts.map (fun p => { snap := p, pending := workerActs { R := R, compact := true } p }) }

/-- no raw key occurs in two chunks (what `adjustPartitionsBorders` is for: see `chunks_keyDisjoint`) -/
def KeyDisjoint (parts : List (List Rec)) : Prop :=
  parts.Pairwise (fun p1 p2 => ∀ a ∈ p1, ∀ b ∈ p2, a.key ≠ b.key)

instance (parts : List (List Rec)) : Decidable (KeyDisjoint parts) := by unfold KeyDisjoint; infer_instance

/-- a `write` step is a writer's batch for the store at the moment it is taken -/
def StepOK (R : Nat) (s : PState) : Step → Prop
  | .write ops => WriterBatch R s.store ops
  | .compDel _ => True

def Disciplined (q : Quirks) (masks : Nat → Nat → DelOutcome) (R : Nat) : PState → List Step → Prop
  | _, [] => True
  | s, st :: rest => StepOK R s st ∧ Disciplined q masks R (step q masks s st) rest

/-- a worker's step does nothing (no such worker, or nothing left to do) or performs its next action -/
theorem step_compDel_cases (q : Quirks) (masks : Nat → Nat → DelOutcome) (s : PState) (i : Nat) :
    (step q masks s (.compDel i) = s ∧ ∀ w, s.workers[i]? = some w → w.pending = []) ∨
    ∃ w a rest, s.workers[i]? = some w ∧ w.pending = a :: rest ∧
      step q masks s (.compDel i) =
        { store := (runDelete (masks i) (w.comp s.store) a).store,
          workers := s.workers.set i
            { w with lastFailed := (runDelete (masks i) (w.comp s.store) a).lastFailed,
                     calls := (runDelete (masks i) (w.comp s.store) a).calls,
                     trace := (runDelete (masks i) (w.comp s.store) a).trace, pending := rest } } := by
  cases h : s.workers[i]? with
  | none => exact .inl ⟨by simp [step, h], fun _ hw => by cases hw⟩
  | some w =>
    cases hp : w.pending with
    | nil => exact .inl ⟨by simp [step, h, hp], fun _ hw => by cases hw; exact hp⟩
    | cons a rest => exact .inr ⟨w, a, rest, rfl, hp, by simp [step, h, hp]⟩

theorem run_append (q : Quirks) (masks : Nat → Nat → DelOutcome) (s : PState) (l1 l2 : List Step) :
    run q masks s (l1 ++ l2) = run q masks (run q masks s l1) l2 := by
  simp [run, List.foldl_append]

/-! ### the invariant: every worker is in a single-worker race of its own -/

/-- the key ranges of different workers share no raw key -/
def DomDisjoint (dom : Nat → Bytes → Bool) : Prop := ∀ i j k, dom i k = true → dom j k = true → i = j

/-- Worker `w` with key range `K`, seen alone: there is a disciplined run `steps'` of the SINGLE-worker race
`KB.C07Race` from `w`'s snapshot whose state is exactly `w`'s control state together with the records of
`w`'s raw keys in the shared store. -/
def Reduces (q : Quirks) (R : Nat) (mask : Nat → DelOutcome) (K : Bytes → Bool) (store : Store)
    (w : Worker) : Prop :=
  SnapOK w.snap ∧ (∀ r ∈ w.snap, K r.key = true) ∧
    ∃ steps', C07Race.Disciplined q mask R (C07Race.init R w.snap) steps' ∧
      Sim K store w.lastFailed w.calls w.pending (C07Race.run q mask (C07Race.init R w.snap) steps')

/-- a worker has not started (no snapshot, nothing to do) or is in a single-worker race of its own -/
def WorkerOK (q : Quirks) (R : Nat) (mask : Nat → DelOutcome) (K : Bytes → Bool) (store : Store)
    (w : Worker) : Prop :=
  (w.snap = [] ∧ w.pending = []) ∨ Reduces q R mask K store w

/-- The invariant of reachable states: the live store is a sorted association list of well-formed internal
keys, and every worker `i` satisfies `WorkerOK` for its key range `dom i` — which, through
`KB.C07Race.Inv`, says: versions `≤ R` of its range come from its snapshot, and it is in step with its
shadow (same skip key, same call counter, the same snapshot versions gone). -/
def PInv (q : Quirks) (R : Nat) (masks : Nat → Nat → DelOutcome) (dom : Nat → Bytes → Bool) (s : PState) : Prop :=
  s.store.Sorted ∧ GoodKeys s.store ∧
    ∀ i w, s.workers[i]? = some w → WorkerOK q R (masks i) (dom i) s.store w

/-- the single-worker invariant `KB.C07Race.Inv`, for the records of the worker's own key range -/
theorem Reduces.inv {q : Quirks} {R : Nat} {mask : Nat → DelOutcome} {K : Bytes → Bool} {store : Store}
    {w : Worker} (h : Reduces q R mask K store w) :
    C07Race.Inv R w.snap mask
      { comp := { store := proj K store, lastFailed := w.lastFailed, calls := w.calls }, pending := w.pending } := by
  obtain ⟨⟨hs, hw, hk, _, hidx⟩, _, steps', hd, h1, h2, h3, h4⟩ := h
  have hI := C07Race.inv_run hs hw hk hidx steps' (C07Race.inv_init hs hk R mask) hd
  obtain ⟨i1, i2, i3, done, hacts, hlf, hc, hag⟩ := hI
  rw [h1] at i1 i2 i3
  refine ⟨i1, i2, i3, done, ?_, ?_, ?_, ?_⟩
  · rw [hacts, h4]
  · rw [← hlf, h2]
  · rw [← hc, h3]
  · intro x hx h0; rw [← hag x hx h0, h1]

theorem WorkerOK.targets {q : Quirks} {R : Nat} {mask : Nat → DelOutcome} {K : Bytes → Bool} {store : Store}
    {w : Worker} (h : WorkerOK q R mask K store w) : TargetsIn K w.pending := by
  rcases h with ⟨_, hp⟩ | h
  · rw [hp]; intro a ha; cases ha
  · obtain ⟨_, _, _, done, hacts, _⟩ := h.inv
    obtain ⟨⟨_, hw, hk, _, _⟩, hK, _⟩ := h
    have := workerActs_targetsIn (R := R) hw hk K hK
    rw [hacts] at this
    exact this.of_append

/-- the single-worker steps one parallel step amounts to for worker `i` with key range `K`: its own calls,
and the writer batches on its raw keys -/
def projStep (K : Bytes → Bool) (i : Nat) : Step → List C07Race.Step
  | .compDel j => if j = i then [.compDel] else []
  | .write ops => if (batchRaw ops).any K = true then [.write ops] else []

def projSteps (K : Bytes → Bool) (i : Nat) (steps : List Step) : List C07Race.Step :=
  steps.flatMap (projStep K i)

theorem step_workers_length (q : Quirks) (masks : Nat → Nat → DelOutcome) (s : PState) (st : Step) :
    (step q masks s st).workers.length = s.workers.length := by
  cases st with
  | write ops => rfl
  | compDel j =>
    rcases step_compDel_cases q masks s j with ⟨e, _⟩ | ⟨_, _, _, _, _, e⟩ <;> rw [e]
    exact List.length_set

/-- a worker with nothing to do is not changed by any step -/
theorem step_worker_idle (q : Quirks) (masks : Nat → Nat → DelOutcome) {s : PState} (st : Step) {i : Nat}
    {w : Worker} (hw : s.workers[i]? = some w) (hp : w.pending = []) :
    (step q masks s st).workers[i]? = some w := by
  cases st with
  | write ops => exact hw
  | compDel j =>
    rcases step_compDel_cases q masks s j with ⟨e, _⟩ | ⟨wj, a, rest, hj, hpj, e⟩ <;> rw [e]
    · exact hw
    · have hji : j ≠ i := by
        intro e; subst e
        rw [hw] at hj; injection hj with hj
        rw [hj, hpj] at hp; cases hp
      simp only
      rw [List.getElem?_set_ne hji]; exact hw

theorem step_store_wf {q : Quirks} {masks : Nat → Nat → DelOutcome} {R : Nat} {s : PState}
    (hs : s.store.Sorted) (hg : GoodKeys s.store) (st : Step) (hok : StepOK R s st) :
    (step q masks s st).store.Sorted ∧ GoodKeys (step q masks s st).store := by
  cases st with
  | write ops =>
    exact commitOr_wf (C07Race.WriterBatch.raceBatch hok) hs hg
  | compDel j =>
    rcases step_compDel_cases q masks s j with ⟨e, _⟩ | ⟨wj, a, _, _, _, e⟩ <;> rw [e]
    · exact ⟨hs, hg⟩
    · exact ⟨runDelete_sorted _ (st := wj.comp s.store) hs a, runDelete_goodKeys _ (st := wj.comp s.store) hg a⟩

/-- **One parallel step, seen by worker `i`.** If `u` is worker `i`'s view of the state (`Sim`), then after
any disciplined parallel step its view is `u` after the projected single-worker steps — which are
disciplined single-worker steps. -/
theorem sim_step {q : Quirks} {masks : Nat → Nat → DelOutcome} {R : Nat} {dom : Nat → Bytes → Bool}
    {s : PState} (hP : PInv q R masks dom s) (hdisj : DomDisjoint dom) (st : Step) (hok : StepOK R s st)
    {i : Nat} {w : Worker} (hw : s.workers[i]? = some w) {u : RState}
    (hsim : Sim (dom i) s.store w.lastFailed w.calls w.pending u) :
    ∃ w', (step q masks s st).workers[i]? = some w' ∧ w'.snap = w.snap ∧
      C07Race.Disciplined q (masks i) R u (projStep (dom i) i st) ∧
      Sim (dom i) (step q masks s st).store w'.lastFailed w'.calls w'.pending
        (C07Race.run q (masks i) u (projStep (dom i) i st)) := by
  cases st with
  | compDel j =>
    rcases step_compDel_cases q masks s j with ⟨e, hidle⟩ | ⟨wj, a, rest, hj, hp, e⟩ <;> rw [e]
    · -- nothing happens, in the single-worker race neither
      refine ⟨w, hw, rfl, ?_⟩
      by_cases hji : j = i
      · subst hji
        simp only [projStep, if_true]
        refine ⟨trivial, ?_⟩
        show Sim _ _ _ _ _ (C07Race.step q (masks j) u .compDel)
        rw [C07Race.step_compDel_nil (hsim.2.2.2.trans (hidle w hw))]
        exact hsim
      · simp only [projStep, if_neg hji]
        exact ⟨trivial, hsim⟩
    · have htg := (hP.2.2 j wj hj).targets
      have hin : ∀ ik, actTarget a = some ik → inDom (dom j) ik = true :=
        fun ik h => htg a (by rw [hp]; exact List.mem_cons_self ..) ik h
      by_cases hji : j = i
      · subst hji
        rw [hw] at hj; injection hj with hj; subst hj
        obtain ⟨hlt, _⟩ := List.getElem?_eq_some_iff.1 hw
        simp only [projStep, if_true]
        refine ⟨_, List.getElem?_set_self hlt, rfl, trivial, ?_⟩
        show Sim _ _ _ _ _ (C07Race.step q (masks j) u .compDel)
        exact sim_compDel (st := w.comp s.store) hP.1 (hp ▸ hsim) hin
      · simp only [projStep, if_neg hji]
        refine ⟨w, by rw [List.getElem?_set_ne hji]; exact hw, rfl, trivial, ?_⟩
        have hout : ∀ ik, actTarget a = some ik → inDom (dom i) ik = false :=
          fun ik h => inDom_disjoint (fun k h1 h2 => hji (hdisj j i k h1 h2)) (hin ik h)
        have := compDel_out (K' := dom i) (masks j) (st := wj.comp s.store) hP.1 hout
        exact ⟨hsim.1.trans this.symm, hsim.2⟩
  | write ops =>
    obtain ⟨k, _, hb⟩ := writerBatch_batchOn hok
    refine ⟨w, hw, rfl, ?_⟩
    simp only [projStep, batchRaw_batchOn hb, Option.any_some]
    cases hK : dom i k with
    | true =>
      simp only [if_true]
      refine ⟨⟨?_, trivial⟩, ?_⟩
      · rw [hsim.1]; exact writerBatch_proj (dom i) hok
      · exact sim_write_in (mask := masks i) hP.1 hsim hb hK
    | false =>
      simp only [Bool.false_eq_true, if_false]
      refine ⟨trivial, ?_⟩
      have := commitOr_proj_out (q := q) hb (dom i) hK hP.1
      exact ⟨hsim.1.trans this.symm, hsim.2⟩

/-- **4. A disciplined step (a worker's call, or a writer batch — committed or refused) preserves the
invariant.** -/
theorem step_preserves_wf {q : Quirks} {masks : Nat → Nat → DelOutcome} {R : Nat} {dom : Nat → Bytes → Bool}
    {s : PState} (hP : PInv q R masks dom s) (hdisj : DomDisjoint dom) (st : Step) (hok : StepOK R s st) :
    PInv q R masks dom (step q masks s st) := by
  obtain ⟨h1, h2⟩ := step_store_wf (q := q) (masks := masks) hP.1 hP.2.1 st hok
  refine ⟨h1, h2, ?_⟩
  intro i w' hw'
  have hlt : i < s.workers.length := by
    rw [← step_workers_length q masks s st]
    exact (List.getElem?_eq_some_iff.1 hw').1
  have hw : s.workers[i]? = some s.workers[i] := List.getElem?_eq_getElem hlt
  rcases hP.2.2 i _ hw with ⟨hsn, hp⟩ | ⟨hsn, hK, steps', hd, hsim⟩
  · have := step_worker_idle q masks st hw hp
    rw [this] at hw'; injection hw' with hw'
    subst hw'
    exact .inl ⟨hsn, hp⟩
  · obtain ⟨w'', e1, e2, hd', hsim'⟩ := sim_step hP hdisj st hok hw hsim
    rw [e1] at hw'; injection hw' with hw'
    subst hw'
    right
    unfold Reduces
    rw [e2]
    refine ⟨hsn, hK, steps' ++ projStep (dom i) i st, C07Race.disciplined_append hd hd', ?_⟩
    rw [C07Race.run_append]; exact hsim'

theorem inv_run {q : Quirks} {masks : Nat → Nat → DelOutcome} {R : Nat} {dom : Nat → Bytes → Bool}
    (hdisj : DomDisjoint dom) (steps : List Step) {s : PState} (hP : PInv q R masks dom s)
    (hd : Disciplined q masks R s steps) : PInv q R masks dom (run q masks s steps) := by
  induction steps generalizing s with
  | nil => exact hP
  | cons st rest ih => exact ih (step_preserves_wf hP hdisj st hd.1) hd.2

/-- **4b.** A writer batch (committed or refused) preserves the invariant. -/
theorem writer_batch_preserves_wf {q : Quirks} {masks : Nat → Nat → DelOutcome} {R : Nat}
    {dom : Nat → Bytes → Bool} {s : PState} (hP : PInv q R masks dom s) (hdisj : DomDisjoint dom)
    {ops : List BOp} (hb : WriterBatch R s.store ops) : PInv q R masks dom (step q masks s (.write ops)) :=
  step_preserves_wf hP hdisj (.write ops) hb

/-- **4c.** A call of any worker preserves the invariant. -/
theorem compDel_preserves_wf {q : Quirks} {masks : Nat → Nat → DelOutcome} {R : Nat}
    {dom : Nat → Bytes → Bool} {s : PState} (hP : PInv q R masks dom s) (hdisj : DomDisjoint dom) (w : Nat) :
    PInv q R masks dom (step q masks s (.compDel w)) :=
  step_preserves_wf hP hdisj (.compDel w) trivial

/-- **4d. The invariant, explicitly.** For every worker that has started, the records of its key range in
the shared store, with its control state, satisfy the single-worker invariant `KB.C07Race.Inv` w.r.t. its own
snapshot and its own mask: sorted, well-formed keys, every version `≤ R` of the range comes from the
snapshot, and (`KB.Race.Tracks`) the worker is in step with its shadow — for the prefix `done` of its pass
already executed, its skip key and call counter are those of `done` run against its quiescent snapshot, and
a snapshot version is missing from the live store iff it is missing from the shadow store. -/
theorem inv_explicit {q : Quirks} {masks : Nat → Nat → DelOutcome} {R : Nat} {dom : Nat → Bytes → Bool}
    {s : PState} (hP : PInv q R masks dom s) (i : Nat) (w : Worker) (hi : s.workers[i]? = some w) :
    (w.snap = [] ∧ w.pending = []) ∨
    (SnapOK w.snap ∧ (∀ r ∈ w.snap, dom i r.key = true) ∧
      Store.Sorted (proj (dom i) s.store) ∧ GoodKeys (proj (dom i) s.store) ∧
      OldFromSnapshot R w.snap (proj (dom i) s.store) ∧
      Tracks R w.snap (masks i)
        { store := proj (dom i) s.store, lastFailed := w.lastFailed, calls := w.calls } w.pending) := by
  rcases hP.2.2 i w hi with h | h
  · exact .inl h
  · exact .inr ⟨h.1, h.2.1, h.inv⟩

/-- **A whole parallel run, seen by worker `i`**: its view after the run is its view before, after the
projected single-worker run. -/
theorem sim_run {q : Quirks} {masks : Nat → Nat → DelOutcome} {R : Nat} {dom : Nat → Bytes → Bool}
    (hdisj : DomDisjoint dom) (steps : List Step) {s : PState} (hP : PInv q R masks dom s)
    (hd : Disciplined q masks R s steps) {i : Nat} {w : Worker} (hw : s.workers[i]? = some w) {u : RState}
    (hsim : Sim (dom i) s.store w.lastFailed w.calls w.pending u) :
    ∃ w', (run q masks s steps).workers[i]? = some w' ∧ w'.snap = w.snap ∧
      C07Race.Disciplined q (masks i) R u (projSteps (dom i) i steps) ∧
      Sim (dom i) (run q masks s steps).store w'.lastFailed w'.calls w'.pending
        (C07Race.run q (masks i) u (projSteps (dom i) i steps)) := by
  induction steps generalizing s u w with
  | nil => exact ⟨w, hw, rfl, trivial, hsim⟩
  | cons st rest ih =>
    obtain ⟨w1, e1, e2, hd1, hsim1⟩ := sim_step hP hdisj st hd.1 hw hsim
    obtain ⟨w2, f1, f2, hd2, hsim2⟩ := ih (step_preserves_wf hP hdisj st hd.1) hd.2 e1 hsim1
    refine ⟨w2, f1, f2.trans e2, ?_, ?_⟩
    · show C07Race.Disciplined q (masks i) R u (projStep (dom i) i st ++ projSteps (dom i) i rest)
      exact C07Race.disciplined_append hd1 hd2
    · show Sim _ _ _ _ _ (C07Race.run q (masks i) u (projStep (dom i) i st ++ projSteps (dom i) i rest))
      rw [C07Race.run_append]; exact hsim2

/-- In a state satisfying the invariant one more call of any worker changes no read at any `R' ≥ R` and no
key's logical index. -/
theorem invisible_of_inv {q : Quirks} {masks : Nat → Nat → DelOutcome} {R : Nat} {dom : Nat → Bytes → Bool}
    {s : PState} (hP : PInv q R masks dom s) (j : Nat) :
    (∀ R', R ≤ R' → ∀ k, readS R' (step q masks s (.compDel j)).store k = readS R' s.store k) ∧
    (∀ k, logicalIdx (step q masks s (.compDel j)).store k = logicalIdx s.store k) := by
  rcases step_compDel_cases q masks s j with ⟨e, _⟩ | ⟨wj, a, rest, hj, hp, e⟩ <;> rw [e]
  · exact ⟨fun _ _ _ => rfl, fun _ => rfl⟩
  · have hok := hP.2.2 j wj hj
    have hin : ∀ ik, actTarget a = some ik → inDom (dom j) ik = true :=
      fun ik h => hok.targets a (by rw [hp]; exact List.mem_cons_self ..) ik h
    rcases hok with ⟨_, hp0⟩ | ⟨⟨hs, hw, hk, hne, hidx⟩, hK, steps', hd, hsim⟩
    · rw [hp] at hp0; cases hp0
    simp only
    have hS' := runDelete_sorted (masks j) (st := wj.comp s.store) hP.1 a
    have hG' := runDelete_goodKeys (masks j) (st := wj.comp s.store) hP.2.1 a
    obtain ⟨i1, i2⟩ := C07Race.compDel_invisible hs hw hk hne hidx R q (masks j) steps' hd
    have hsim' := sim_compDel (q := q) (mask := masks j) (st := wj.comp s.store) hP.1 (hp ▸ hsim) hin
    have hout := compDel_out (K' := fun k => !dom j k) (masks j) (st := wj.comp s.store) hP.1
      (fun ik h => inDom_disjoint (fun k h1 h2 => by simp [h1] at h2) (hin ik h))
    constructor
    · intro R' hR k
      cases hKk : dom j k with
      | true =>
        rw [← readS_proj (dom j) hS' hG' R' hKk, ← hsim'.1, i1 R' hR k, hsim.1,
          readS_proj (dom j) hP.1 hP.2.1 R' hKk]
      | false =>
        exact (reads_of_proj_eq (fun k => !dom j k) hS' hG' hP.1 hP.2.1 hout (by simp [hKk])).1 R'
    · intro k
      cases hKk : dom j k with
      | true =>
        rw [← logicalIdx_proj (dom j) hS' hKk, ← hsim'.1, i2 k, hsim.1, logicalIdx_proj (dom j) hP.1 hKk]
      | false =>
        exact (reads_of_proj_eq (fun k => !dom j k) hS' hG' hP.1 hP.2.1 hout (by simp [hKk])).2

/-- the snapshots of all workers -/
def allSnaps (s : PState) : List Rec := s.workers.flatMap (·.snap)

theorem mem_allSnaps {s : PState} {r : Rec} :
    r ∈ allSnaps s ↔ ∃ (i : Nat) (w : Worker), s.workers[i]? = some w ∧ r ∈ w.snap := by
  unfold allSnaps
  rw [List.mem_flatMap]
  constructor
  · rintro ⟨w, hw, hr⟩
    obtain ⟨i, hi⟩ := List.mem_iff_getElem?.1 hw
    exact ⟨i, w, hi, hr⟩
  · rintro ⟨i, w, hi, hr⟩
    exact ⟨w, List.mem_of_getElem? hi, hr⟩

/-- In a state satisfying the invariant every read at `R' ≥ R` equals the read of the store with every
removed version of every worker's snapshot put back. -/
theorem restored_of_inv {q : Quirks} {masks : Nat → Nat → DelOutcome} {R : Nat} {dom : Nat → Bytes → Bool}
    {s : PState} (hP : PInv q R masks dom s) (hdisj : DomDisjoint dom)
    (R' : Nat) (hR : R ≤ R') (k : Bytes) :
    readS R' s.store k = readS R' (restored (allSnaps s) s.store) k := by
  -- every snapshot record belongs to a worker that is in a single-worker race
  have hall : ∀ r ∈ allSnaps s, ∃ i w, s.workers[i]? = some w ∧ r ∈ w.snap ∧
      Reduces q R (masks i) (dom i) s.store w := by
    intro r hr
    obtain ⟨i, w, hi, hrw⟩ := mem_allSnaps.1 hr
    rcases hP.2.2 i w hi with ⟨h0, _⟩ | h
    · rw [h0] at hrw; cases hrw
    · exact ⟨i, w, hi, hrw, h⟩
  have hwA : WellKeyed (allSnaps s) := by
    intro r hr
    obtain ⟨i, w, _, hrw, ⟨_, hw, _⟩, _⟩ := hall r hr
    exact hw r hrw
  have hkA : ∀ r ∈ allSnaps s, Alphabet r.key ∧ r.rev < 2 ^ 64 := by
    intro r hr
    obtain ⟨i, w, _, hrw, ⟨_, _, hk, _⟩, _⟩ := hall r hr
    exact hk r hrw
  -- a snapshot record with a raw key in worker `i`'s range is in worker `i`'s snapshot
  have hback : ∀ i w, s.workers[i]? = some w → ∀ y ∈ allSnaps s, dom i y.key = true → y ∈ w.snap := by
    intro i w hi y hy hKy
    obtain ⟨i', w', hi', hyw', hred'⟩ := hall y hy
    have : i' = i := hdisj i' i y.key (hred'.2.1 y hyw') hKy
    subst this
    rw [hi] at hi'; injection hi' with hi'
    rw [hi']; exact hyw'
  have huniqA : ∀ a ∈ allSnaps s, ∀ b ∈ allSnaps s, a.ik = b.ik → a.val = b.val := by
    intro a ha b hb e
    obtain ⟨i, w, hi, hbw, hred⟩ := hall b hb
    have hkey : a.key = b.key := by
      rw [hwA a ha, hwA b hb] at e
      exact (encode_inj (hkA a ha).2 (hkA b hb).2 e).1
    have haw := hback i w hi a ha (hkey ▸ hred.2.1 b hbw)
    obtain ⟨⟨hs, hw, hk, _⟩, _⟩ := hred
    rw [recs_ik_uniq hs hw hk a haw b hbw e]
  have hRS := restored_sorted (allSnaps s) hP.1
  have hRG := restored_goodKeys hwA hkA hP.2.1
  by_cases hex : ∃ r ∈ allSnaps s, r.key = k
  · obtain ⟨r, hr, hrk⟩ := hex
    obtain ⟨i, w, hi, hrw, hred⟩ := hall r hr
    obtain ⟨⟨hs, hw, hk, hne, hidx⟩, hK, steps', hd, hsim⟩ := hred
    have hKk : dom i k = true := hrk ▸ hK r hrw
    have hpS := proj_sorted (dom i) hP.1
    have hpG := proj_goodKeys (dom i) hP.2.1
    rw [← readS_proj (dom i) hP.1 hP.2.1 R' hKk, ← hsim.1,
      C07Race.race_equals_restored hs hw hk hne hidx R q (masks i) steps' hd R' hR k, hsim.1]
    unfold readS
    apply readAt_congr_key (storeRecs_sorted (restored_sorted _ hpS) (restored_goodKeys hw hk hpG))
      (storeRecs_sorted hRS hRG)
    intro x hx _
    exact restored_local (dom i) (fun y hy => mem_allSnaps.2 ⟨i, w, hi, hy⟩) (hback i w hi)
      hwA hkA huniqA hP.1 hP.2.1 (hx ▸ hKk)
  · apply (readAt_congr_key (storeRecs_sorted hRS hRG) (storeRecs_sorted hP.1 hP.2.1) R' k ?_).symm
    intro x hx _
    exact restored_absent hwA hkA huniqA hP.1 hP.2.1 (fun y hy e => hex ⟨y, hy, e.trans hx⟩)

theorem set_same {α : Type} {l : List α} {i : Nat} {a : α} (h : l[i]? = some a) : l.set i a = l := by
  obtain ⟨h', rfl⟩ := List.getElem?_eq_some_iff.1 h
  exact List.set_getElem_self h'

/-- no step changes a worker's (ghost) snapshot -/
theorem allSnaps_step (q : Quirks) (masks : Nat → Nat → DelOutcome) (s : PState) (st : Step) :
    allSnaps (step q masks s st) = allSnaps s := by
  cases st with
  | write ops => rfl
  | compDel j =>
    rcases step_compDel_cases q masks s j with ⟨e, _⟩ | ⟨wj, a, rest, hj, hp, e⟩ <;> rw [e]
    unfold allSnaps
    simp only [List.flatMap_def, List.map_set]
    rw [set_same]
    rw [List.getElem?_map, hj]; rfl

theorem allSnaps_run (q : Quirks) (masks : Nat → Nat → DelOutcome) (s : PState) (steps : List Step) :
    allSnaps (run q masks s steps) = allSnaps s := by
  induction steps generalizing s with
  | nil => rfl
  | cons st rest ih => exact (ih (step q masks s st)).trans (allSnaps_step q masks s st)

/-! ### all workers iterate over chunks of ONE snapshot -/

/-- the raw keys of chunk `i` -/
def chunkDom (parts : List (List Rec)) (i : Nat) (k : Bytes) : Bool :=
  match parts[i]? with
  | some p => p.any (fun r => r.key == k)
  | none => false

theorem chunkDom_iff {parts : List (List Rec)} {i : Nat} {k : Bytes} :
    chunkDom parts i k = true ↔ ∃ p, parts[i]? = some p ∧ ∃ r ∈ p, r.key = k := by
  unfold chunkDom
  cases h : parts[i]? with
  | none => simp
  | some p => simp [List.any_eq_true]

theorem chunkDom_disjoint {parts : List (List Rec)} (h : KeyDisjoint parts) : DomDisjoint (chunkDom parts) := by
  intro i j k hi hj
  obtain ⟨p, hp, a, ha, hak⟩ := chunkDom_iff.1 hi
  obtain ⟨p', hp', b, hb, hbk⟩ := chunkDom_iff.1 hj
  obtain ⟨li, ei⟩ := List.getElem?_eq_some_iff.1 hp
  obtain ⟨lj, ej⟩ := List.getElem?_eq_some_iff.1 hp'
  have hpw := List.pairwise_iff_getElem.1 h
  rcases Nat.lt_trichotomy i j with hlt | heq | hgt
  · exact absurd (hak.trans hbk.symm) (hpw i j li lj hlt a (ei ▸ ha) b (ej ▸ hb))
  · exact heq
  · exact absurd (hbk.trans hak.symm) (hpw j i lj li hgt b (ej ▸ hb) a (ei ▸ ha))

theorem filter_flatten_chunk {α : Type} (P : α → Bool) (parts : List (List α)) (i : Nat) (p : List α)
    (hi : parts[i]? = some p) (hin : ∀ r ∈ p, P r = true)
    (hout : ∀ j p', parts[j]? = some p' → j ≠ i → ∀ r ∈ p', ¬ P r = true) :
    parts.flatten.filter P = p := by
  induction parts generalizing i with
  | nil => simp at hi
  | cons p0 ps ih =>
    rw [List.flatten_cons, List.filter_append]
    cases i with
    | zero =>
      simp only [List.getElem?_cons_zero, Option.some.injEq] at hi
      subst hi
      rw [List.filter_eq_self.2 hin]
      have : ps.flatten.filter P = [] := by
        rw [List.filter_eq_nil_iff]
        intro r hr
        obtain ⟨p', hp', hrp⟩ := List.mem_flatten.1 hr
        obtain ⟨j, hj⟩ := List.mem_iff_getElem?.1 hp'
        exact hout (j + 1) p' (by simpa using hj) (by omega) r hrp
      rw [this, List.append_nil]
    | succ i' =>
      simp only [List.getElem?_cons_succ] at hi
      have : p0.filter P = [] := by
        rw [List.filter_eq_nil_iff]
        exact hout 0 p0 (by simp) (by omega)
      rw [this, List.nil_append]
      exact ih i' hi (fun j p' hj hne => hout (j + 1) p' (by simpa using hj) (by omega))

theorem snapOK_chunk {parts : List (List Rec)} (h : SnapOK parts.flatten) {p : List Rec} (hp : p ∈ parts) :
    SnapOK p := by
  obtain ⟨hs, hw, hk, hne, hidx⟩ := h
  have hm : ∀ r ∈ p, r ∈ parts.flatten := fun r hr => List.mem_flatten.2 ⟨p, hp, hr⟩
  exact ⟨List.Pairwise.sublist (List.sublist_flatten_of_mem hp) hs, fun r hr => hw r (hm r hr),
    fun r hr => hk r (hm r hr), fun r hr => hne r (hm r hr), fun r hr => hidx r (hm r hr)⟩

/-- worker `i`'s view of the initial state is the initial state of the single-worker race over chunk `i` -/
theorem sim_init {parts : List (List Rec)} (hk : ∀ r ∈ parts.flatten, Alphabet r.key ∧ r.rev < 2 ^ 64)
    (hdisj : KeyDisjoint parts) (R : Nat) {i : Nat} {p : List Rec} (hi : parts[i]? = some p) :
    Sim (chunkDom parts i) (init R parts).store [] 0 (workerActs { R := R, compact := true } p)
      (C07Race.init R p) := by
  refine ⟨?_, rfl, rfl, rfl⟩
  show encodeStore p = proj (chunkDom parts i) (encodeStore parts.flatten)
  rw [proj_encodeStore _ (fun r hr => (hk r hr).2)]
  congr 1
  symm
  apply filter_flatten_chunk _ parts i p hi
  · intro r hr; exact chunkDom_iff.2 ⟨p, hi, r, hr, rfl⟩
  · intro j p' hj hne r hr hc
    exact hne (chunkDom_disjoint hdisj j i r.key (chunkDom_iff.2 ⟨p', hj, r, hr, rfl⟩) hc)

theorem init_worker {R : Nat} {parts : List (List Rec)} {i : Nat} {w : Worker}
    (h : (init R parts).workers[i]? = some w) :
    ∃ p, parts[i]? = some p ∧ w = { snap := p, pending := workerActs { R := R, compact := true } p } := by
  simp only [init, List.getElem?_map] at h
  cases hp : parts[i]? with
  | none => rw [hp] at h; cases h
  | some p => rw [hp] at h; injection h with h; exact ⟨p, rfl, h.symm⟩

/-- **4a.** The initial state satisfies the invariant. -/
theorem inv_init {parts : List (List Rec)} (hok : SnapOK parts.flatten) (hdisj : KeyDisjoint parts)
    (q : Quirks) (R : Nat) (masks : Nat → Nat → DelOutcome) :
    PInv q R masks (chunkDom parts) (init R parts) := by
  refine ⟨encodeStore_sorted hok.1 hok.2.2.1, goodKeys_init hok.2.2.1, ?_⟩
  intro i w hw
  obtain ⟨p, hp, rfl⟩ := init_worker hw
  right
  refine ⟨snapOK_chunk hok (List.mem_of_getElem? hp), fun r hr => chunkDom_iff.2 ⟨p, hp, r, hr, rfl⟩,
    [], trivial, ?_⟩
  exact sim_init hok.2.2.1 hdisj R hp

theorem allSnaps_init (R : Nat) (parts : List (List Rec)) : allSnaps (init R parts) = parts.flatten := by
  simp [allSnaps, init, List.flatMap_def, Function.comp_def]

section main
variable {parts : List (List Rec)} (hs : SortedRecs parts.flatten) (hw : WellKeyed parts.flatten)
  (hk : ∀ r ∈ parts.flatten, Alphabet r.key ∧ r.rev < 2 ^ 64) (hne : ∀ r ∈ parts.flatten, r.key ≠ [])
  (hidx : IdxWF parts.flatten) (hdisj : KeyDisjoint parts)
include hs hw hk hne hidx hdisj

/-- every state reachable by a disciplined run satisfies the invariant -/
theorem inv_reachable (R : Nat) (q : Quirks) (masks : Nat → Nat → DelOutcome) (steps : List Step)
    (hd : Disciplined q masks R (init R parts) steps) :
    PInv q R masks (chunkDom parts) (run q masks (init R parts) steps) :=
  inv_run (chunkDom_disjoint hdisj) steps (inv_init ⟨hs, hw, hk, hne, hidx⟩ hdisj q R masks) hd

/-- **1. One call of any worker is invisible.** In every state reachable by a disciplined run — any
interleaving of the calls of all workers and of writer batches, any failure masks — one more call of
worker `w` leaves every read at every revision `R' ≥ R` of every
key unchanged, and leaves the logical index of every key unchanged. -/
theorem par_compDel_invisible (R : Nat) (q : Quirks) (masks : Nat → Nat → DelOutcome)
    (steps : List Step)
    (hd : Disciplined q masks R (init R parts) steps) (w : Nat) :
    let s := run q masks (init R parts) steps
    let s' := step q masks s (.compDel w)
    (∀ R', R ≤ R' → ∀ k, readS R' s'.store k = readS R' s.store k) ∧
    (∀ k, logicalIdx s'.store k = logicalIdx s.store k) :=
  invisible_of_inv (inv_reachable hs hw hk hne hidx hdisj R q masks steps hd) w

/-- **2. Whole run.** In the final state of any disciplined run every read at every revision `R' ≥ R`
equals the read of the store in which every version record of the snapshot that is missing is put back. -/
theorem par_race_equals_restored (R : Nat) (q : Quirks) (masks : Nat → Nat → DelOutcome)
    (steps : List Step)
    (hd : Disciplined q masks R (init R parts) steps) (R' : Nat) (hR : R ≤ R') (k : Bytes) :
    readS R' (run q masks (init R parts) steps).store k =
      readS R' (restored parts.flatten (run q masks (init R parts) steps).store) k := by
  have := restored_of_inv (inv_reachable hs hw hk hne hidx hdisj R q masks steps hd)
    (chunkDom_disjoint hdisj) R' hR k
  rwa [allSnaps_run, allSnaps_init] at this

/-- **3. The parallel race of worker `i` IS a single-worker race.** Project the schedule on worker `i`:
keep its own calls and the writer batches on raw keys of its chunk (`projSteps`). That is a disciplined
schedule of the single-worker race `KB.C07Race` over chunk `i` alone, and its final state is exactly what
the parallel run leaves of chunk `i`'s raw keys in the shared store, together with worker `i`'s skip key,
call counter and remaining actions. (All of `KB.C07Race` — `compDel_invisible`, `race_equals_restored`,
`race_equals_keep`, `Inv` — therefore holds of every worker's key range.) -/
theorem par_reduces_to_single (R : Nat) (q : Quirks) (masks : Nat → Nat → DelOutcome) (steps : List Step)
    (hd : Disciplined q masks R (init R parts) steps) (i : Nat) (p : List Rec) (hi : parts[i]? = some p) :
    let s := run q masks (init R parts) steps
    let steps' := projSteps (chunkDom parts i) i steps
    let u := C07Race.run q (masks i) (C07Race.init R p) steps'
    C07Race.Disciplined q (masks i) R (C07Race.init R p) steps' ∧
    ∃ w, s.workers[i]? = some w ∧ w.snap = p ∧
      u.comp.store = proj (chunkDom parts i) s.store ∧
      u.comp.lastFailed = w.lastFailed ∧ u.comp.calls = w.calls ∧ u.pending = w.pending := by
  intro s steps' u
  have hw0 : (init R parts).workers[i]? =
      some { snap := p, pending := workerActs { R := R, compact := true } p } := by
    simp [init, List.getElem?_map, hi]
  obtain ⟨w, e1, e2, hd', hsim⟩ := sim_run (chunkDom_disjoint hdisj) steps
    (inv_init ⟨hs, hw, hk, hne, hidx⟩ hdisj q R masks) hd hw0 (sim_init hk hdisj R hi)
  exact ⟨hd', w, e1, e2, hsim⟩

end main

/-! ### staggered snapshots: every worker iterates over its key range of the store AS OF THE MOMENT IT STARTS

  memkv and badger create the iterator when the worker goroutine runs `w.run` (scanner.go: `w.store.Iter`), i.e. at a
  different moment for every worker, after other workers' calls and writers' commits. (tikv iterates at the
  one timestamp taken before the workers are forked: the model above.) The key ranges `dom i` are fixed —
  the partition borders are computed before the workers are forked — and pairwise disjoint. -/

inductive SStep where
  /-- worker `w` creates its iterator: it takes the records of its key range in the live store as its
  snapshot and computes its actions from it. (On a worker that already runs: its remaining actions are
  abandoned and a NEW worker starts on the same range — a second pass at the same revision; skip key empty,
  call counter 0, i.e. the failure mask `masks w` is used from its start again.) -/
  | start (w : Nat)
  /-- a worker's call or a writer's commit -/
  | act (st : Step)
  deriving Repr, DecidableEq

/-- a fresh worker over the key range `K` of the live store -/
def startWorker (R : Nat) (K : Bytes → Bool) (store : Store) : Worker :=
  { snap := storeRecs (proj K store),
    pending := workerActs { R := R, compact := true } (storeRecs (proj K store)) }

def sstep (q : Quirks) (masks : Nat → Nat → DelOutcome) (R : Nat) (dom : Nat → Bytes → Bool) (s : PState) :
    SStep → PState
  | .start i =>
    match s.workers[i]? with
    | none => s
    | some _ => { s with workers := s.workers.set i (startWorker R (dom i) s.store) }
  | .act st => step q masks s st

def srun (q : Quirks) (masks : Nat → Nat → DelOutcome) (R : Nat) (dom : Nat → Bytes → Bool) (s : PState)
    (steps : List SStep) : PState :=
  steps.foldl (sstep q masks R dom) s

/-- the store holds `recs0`; `n` workers, none started -/
def sinit (recs0 : List Rec) (n : Nat) : PState :=
  { store := encodeStore recs0, workers := List.replicate n { pending := [] } }

/-- writers commit `WriterBatch`es that write no deletion marker as an index VALUE (the backend's `retry`
batch copies the flag `[]` or `[0]`; `WriterBatch.retry` allows any flag bytes — see
`staggered_needs_idxValOK`) -/
def SStepOK (R : Nat) (s : PState) : SStep → Prop
  | .act (.write ops) => WriterBatch R s.store ops ∧ IdxValOK ops
  | _ => True

def SDisciplined (q : Quirks) (masks : Nat → Nat → DelOutcome) (R : Nat) (dom : Nat → Bytes → Bool) :
    PState → List SStep → Prop
  | _, [] => True
  | s, st :: rest => SStepOK R s st ∧ SDisciplined q masks R dom (sstep q masks R dom s st) rest

/-- the invariant of the staggered race: `PInv`, and the live store is fit to be snapshotted by a worker
that starts now (no empty raw key, no deletion marker as an index value) -/
def SInv (q : Quirks) (R : Nat) (masks : Nat → Nat → DelOutcome) (dom : Nat → Bytes → Bool) (s : PState) : Prop :=
  PInv q R masks dom s ∧ KeysWF s.store

/-- a worker that creates its iterator before anything else has happened takes exactly its chunk: the race
over the chunks of one snapshot is the staggered race in which all workers start first -/
theorem startWorker_chunk {parts : List (List Rec)} (hw : WellKeyed parts.flatten)
    (hk : ∀ r ∈ parts.flatten, Alphabet r.key ∧ r.rev < 2 ^ 64) (hdisj : KeyDisjoint parts) (R : Nat)
    {i : Nat} {p : List Rec} (hi : parts[i]? = some p) :
    startWorker R (chunkDom parts i) (encodeStore parts.flatten) =
      { snap := p, pending := workerActs { R := R, compact := true } p } := by
  have hm : ∀ r ∈ p, r ∈ parts.flatten := fun r hr => List.mem_flatten.2 ⟨p, List.mem_of_getElem? hi, hr⟩
  have h1 : proj (chunkDom parts i) (encodeStore parts.flatten) = encodeStore p := (sim_init hk hdisj R hi).1.symm
  unfold startWorker
  rw [h1, storeRecs_encodeStore (fun r hr => hw r (hm r hr)) (fun r hr => hk r (hm r hr))]

theorem sinv_init {recs0 : List Rec} (hok : SnapOK recs0) (n : Nat) (q : Quirks) (R : Nat)
    (masks : Nat → Nat → DelOutcome) (dom : Nat → Bytes → Bool) : SInv q R masks dom (sinit recs0 n) := by
  refine ⟨⟨encodeStore_sorted hok.1 hok.2.2.1, goodKeys_init hok.2.2.1, ?_⟩, keysWF_encodeStore hok⟩
  intro i w hw
  simp only [sinit, List.getElem?_replicate] at hw
  split at hw
  · injection hw with hw; subst hw; exact .inl ⟨rfl, rfl⟩
  · cases hw

theorem step_keysWF {q : Quirks} {masks : Nat → Nat → DelOutcome} {R : Nat} {s : PState}
    (hs : s.store.Sorted) (hwf : KeysWF s.store) (st : Step) (hok : SStepOK R s (.act st)) :
    KeysWF (step q masks s st).store := by
  cases st with
  | write ops =>
    obtain ⟨k, hne, hb⟩ := writerBatch_batchOn hok.1
    exact keysWF_commitOr hb hne hok.2 hs hwf
  | compDel j =>
    rcases step_compDel_cases q masks s j with ⟨e, _⟩ | ⟨wj, a, _, _, _, e⟩ <;> rw [e]
    · exact hwf
    · exact runDelete_keysWF _ (st := wj.comp s.store) hwf a

theorem stepOK_of_sstepOK {R : Nat} {s : PState} {st : Step} (h : SStepOK R s (.act st)) : StepOK R s st := by
  cases st with
  | write ops => exact h.1
  | compDel j => trivial

/-- **4 (staggered).** A step — a worker starting, a worker's call, a writer batch — preserves the invariant. -/
theorem sstep_preserves_wf {q : Quirks} {masks : Nat → Nat → DelOutcome} {R : Nat} {dom : Nat → Bytes → Bool}
    {s : PState} (hI : SInv q R masks dom s) (hdisj : DomDisjoint dom) (st : SStep) (hok : SStepOK R s st) :
    SInv q R masks dom (sstep q masks R dom s st) := by
  cases st with
  | act st =>
    exact ⟨step_preserves_wf hI.1 hdisj st (stepOK_of_sstepOK hok), step_keysWF hI.1.1 hI.2 st hok⟩
  | start i =>
    cases hi : s.workers[i]? with
    | none => simp only [sstep, hi]; exact hI
    | some w0 =>
      simp only [sstep, hi]
      refine ⟨⟨hI.1.1, hI.1.2.1, ?_⟩, hI.2⟩
      intro j w hj
      simp only at hj
      rw [List.getElem?_set] at hj
      by_cases hij : i = j
      · subst hij
        rw [if_pos rfl, if_pos (List.getElem?_eq_some_iff.1 hi).1] at hj
        injection hj with hj; subst hj
        right
        refine ⟨snapOK_storeRecs_proj (dom i) hI.1.1 hI.1.2.1 hI.2,
          storeRecs_proj_keys (dom i) hI.1.1 hI.1.2.1, [], trivial, ?_, rfl, rfl, rfl⟩
        exact encodeStore_storeRecs (proj_goodKeys (dom i) hI.1.2.1)
      · rw [if_neg hij] at hj
        exact hI.1.2.2 j w hj

theorem sinv_run {q : Quirks} {masks : Nat → Nat → DelOutcome} {R : Nat} {dom : Nat → Bytes → Bool}
    (hdisj : DomDisjoint dom) (steps : List SStep) {s : PState} (hI : SInv q R masks dom s)
    (hd : SDisciplined q masks R dom s steps) : SInv q R masks dom (srun q masks R dom s steps) := by
  induction steps generalizing s with
  | nil => exact hI
  | cons st rest ih => exact ih (sstep_preserves_wf hI hdisj st hd.1) hd.2

section staggered
variable {recs0 : List Rec} (hs : SortedRecs recs0) (hw : WellKeyed recs0)
  (hk : ∀ r ∈ recs0, Alphabet r.key ∧ r.rev < 2 ^ 64) (hne : ∀ r ∈ recs0, r.key ≠ [])
  (hidx : IdxWF recs0) {dom : Nat → Bytes → Bool} (hdisj : DomDisjoint dom)
include hs hw hk hne hidx hdisj

theorem sinv_reachable (n R : Nat) (q : Quirks) (masks : Nat → Nat → DelOutcome) (steps : List SStep)
    (hd : SDisciplined q masks R dom (sinit recs0 n) steps) :
    SInv q R masks dom (srun q masks R dom (sinit recs0 n) steps) :=
  sinv_run hdisj steps (sinv_init ⟨hs, hw, hk, hne, hidx⟩ n q R masks dom) hd

/-- **1 (staggered).** Whenever the workers took their snapshots: in every reachable state one more call of
any worker leaves every read at every `R' ≥ R` and every key's logical index unchanged. -/
theorem par_compDel_invisible_staggered (n R : Nat) (q : Quirks) (masks : Nat → Nat → DelOutcome)
    (steps : List SStep)
    (hd : SDisciplined q masks R dom (sinit recs0 n) steps) (w : Nat) :
    let s := srun q masks R dom (sinit recs0 n) steps
    let s' := step q masks s (.compDel w)
    (∀ R', R ≤ R' → ∀ k, readS R' s'.store k = readS R' s.store k) ∧
    (∀ k, logicalIdx s'.store k = logicalIdx s.store k) :=
  invisible_of_inv (sinv_reachable hs hw hk hne hidx hdisj n R q masks steps hd).1 w

/-- **2 (staggered).** In the final state of any disciplined run every read at every `R' ≥ R` equals the
read of the store in which every missing version record of every (running) worker's snapshot — taken when
that worker started — is put back. -/
theorem par_race_equals_restored_staggered (n R : Nat) (q : Quirks) (masks : Nat → Nat → DelOutcome)
    (steps : List SStep)
    (hd : SDisciplined q masks R dom (sinit recs0 n) steps) (R' : Nat) (hR : R ≤ R') (k : Bytes) :
    let s := srun q masks R dom (sinit recs0 n) steps
    readS R' s.store k = readS R' (restored (allSnaps s) s.store) k :=
  restored_of_inv (sinv_reachable hs hw hk hne hidx hdisj n R q masks steps hd).1 hdisj R' hR k

/-- **3 (staggered).** Every worker of a reachable state has not started, or is in a single-worker race of
its own: there is a disciplined run of `KB.C07Race` from its snapshot (which satisfies the hypotheses of
the single-worker theorems) whose state is the worker's control state with the records of its key range
in the shared store. -/
theorem par_reduces_to_single_staggered (n R : Nat) (q : Quirks) (masks : Nat → Nat → DelOutcome)
    (steps : List SStep) (hd : SDisciplined q masks R dom (sinit recs0 n) steps) (i : Nat) (w : Worker)
    (hi : (srun q masks R dom (sinit recs0 n) steps).workers[i]? = some w) :
    (w.snap = [] ∧ w.pending = []) ∨
    (SnapOK w.snap ∧ (∀ r ∈ w.snap, dom i r.key = true) ∧
      ∃ steps', C07Race.Disciplined q (masks i) R (C07Race.init R w.snap) steps' ∧
        let u := C07Race.run q (masks i) (C07Race.init R w.snap) steps'
        u.comp.store = proj (dom i) (srun q masks R dom (sinit recs0 n) steps).store ∧
        u.comp.lastFailed = w.lastFailed ∧ u.comp.calls = w.calls ∧ u.pending = w.pending) :=
  (sinv_reachable hs hw hk hne hidx hdisj n R q masks steps hd).1.2.2 i w hi

end staggered

/-! ### the chunks and key ranges the real partitions give

  `scanner.scan` takes the engine's partitions of the range and moves every interior border to the INDEX key
  `encode k 0` of its raw key (`adjustPartitionsBorders`, `KB.adjustBorders`; `KB.scanPartitions_good`). All
  internal keys of one raw key lie on one side of such a border. -/

/-- the chunks of the snapshot `recs0` cut at the borders `p ≤ c₁ ≤ … ≤ cₙ ≤ e` -/
def chunksOf (recs0 : List Rec) (p : Bytes) (cs : List Bytes) (e : Bytes) : List (List Rec) :=
  (chain p cs e).map (fun pr => seg recs0 pr.1 pr.2)

theorem chunks_flatten {recs0 : List Rec} (hs : SortedRecs recs0) (hk : GoodRecs recs0) (p : Bytes)
    (cs : List Bytes) (e : Bytes) (hmono : (p :: cs ++ [e]).Pairwise (fun x y => ble x y = true)) :
    (chunksOf recs0 p cs e).flatten = seg recs0 p e := by
  induction cs generalizing p with
  | nil => simp [chunksOf, chain]
  | cons c cs ih =>
    rw [List.cons_append, List.pairwise_cons] at hmono
    have hpc : ble p c = true := hmono.1 c (by simp)
    have hce : ble c e = true := by
      have := hmono.2
      rw [List.cons_append, List.pairwise_cons] at this
      exact this.1 e (by simp)
    have := ih c hmono.2
    simp only [chunksOf, chain, List.map_cons, List.flatten_cons] at this ⊢
    rw [this, seg_split (sortedEnc_of_sortedRecs hs hk) p c e hpc hce]

/-- **Chunks cut at index keys are key-disjoint** — the hypothesis `KeyDisjoint` of the theorems above is
what `adjustPartitionsBorders` establishes. -/
theorem chunks_keyDisjoint {recs0 : List Rec} (hs : SortedRecs recs0) (hk : GoodRecs recs0) (p : Bytes)
    (cs : List Bytes) (e : Bytes) (hidx : ∀ c ∈ cs, ∃ k, Alphabet k ∧ c = encode k 0)
    (hmono : (p :: cs ++ [e]).Pairwise (fun x y => ble x y = true)) :
    KeyDisjoint (chunksOf recs0 p cs e) := by
  induction cs generalizing p with
  | nil => simp [chunksOf, chain, KeyDisjoint]
  | cons c cs ih =>
    rw [List.cons_append, List.pairwise_cons] at hmono
    obtain ⟨k, hkA, rfl⟩ := hidx c (by simp)
    show List.Pairwise _ (seg recs0 p (encode k 0) :: chunksOf recs0 (encode k 0) cs e)
    rw [List.pairwise_cons]
    refine ⟨?_, ih (encode k 0) (fun x hx => hidx x (by simp [hx])) hmono.2⟩
    intro part hpart a ha b hb
    have hb' : b ∈ seg recs0 (encode k 0) e := by
      rw [← chunks_flatten hs hk (encode k 0) cs e hmono.2]
      exact List.mem_flatten.2 ⟨part, hpart, hb⟩
    exact seg_keys_disjoint hk p e hkA a ha b hb'

/-- the snapshot the worker of partition `[lo, hi)` iterates over: the decoded iterator output -/
theorem partition_snapshot (q : Quirks) {recs0 : List Rec} (hw : WellKeyed recs0) (hk : GoodRecs recs0)
    (lo hi : Bytes) (hle : ble lo hi = true) :
    decodeRecs (iterate q (encodeStore recs0) lo hi 0) = some (seg recs0 lo hi) := by
  rw [iterate_of_le _ _ _ _ hle, iterAsc_encodeStore]
  exact decodeRecs_encodeStore_wellKeyed (fun r hr => hw r (List.mem_filter.1 hr).1) (fun r hr => (hk.seg _ _ r hr).2)

/-- **The partitions `compactRange` runs its workers over** (well-formed, sorted engine borders; range
`[encode a 0, encode b 0)` as `compactBorders` gives): every worker's snapshot of the store
`encodeStore recs0` is a chunk `seg recs0 lo hi`; the chunks are key-disjoint and concatenate to the records
of the range. -/
theorem compact_chunks (c : Cfg) (splits : List Bytes)
    (hsorted : splits.Pairwise (fun x y => cmp x y = .lt)) (hgood : ∀ b ∈ splits, IsEnc b)
    (a b : Bytes) (ha : Alphabet a) (hb : Alphabet b) (hab : cmp a b = .lt)
    {recs0 : List Rec} (hs : SortedRecs recs0) (hw : WellKeyed recs0) (hk : GoodRecs recs0) :
    ∃ prs, scanPartitions { c with splits := splits } (encode a 0) (encode b 0) = some prs ∧
      (∀ pr ∈ prs, decodeRecs (iterate c.q (encodeStore recs0) pr.1 pr.2 0) = some (seg recs0 pr.1 pr.2)) ∧
      KeyDisjoint (prs.map (fun pr => seg recs0 pr.1 pr.2)) ∧
      (prs.map (fun pr => seg recs0 pr.1 pr.2)).flatten = seg recs0 (encode a 0) (encode b 0) := by
  obtain ⟨cs, hparts, hidx, hmono⟩ := scanPartitions_good c splits hsorted hgood a b ha hb hab
  exact ⟨_, hparts,
    fun pr hpr => partition_snapshot c.q hw hk pr.1 pr.2 (chain_mem_le _ _ _ hmono pr hpr),
    chunks_keyDisjoint hs hk _ cs _ hidx hmono, chunks_flatten hs hk _ cs _ hmono⟩

/-- the raw keys of the partition `[encode a 0, encode b 0)` -/
def rangeDom (a b : Bytes) (k : Bytes) : Bool := ble a k && blt k b

/-- the iterator of a partition with index-key borders yields exactly the records of the raw keys in
`[a, b)`: the key range `proj (rangeDom a b)` of the staggered race -/
theorem iterAsc_eq_proj {s : Store} (hg : GoodKeys s) {a b : Bytes} (ha : Alphabet a) (hb : Alphabet b) :
    iterAsc s (encode a 0) (encode b 0) = proj (rangeDom a b) s := by
  unfold iterAsc proj
  apply List.filter_congr
  intro kv hkv
  obtain ⟨k, n, e, hkA, hn⟩ := hg kv hkv
  rw [e, inDom_encode _ _ hn, Bool.eq_iff_iff, rangeDom, Bool.and_eq_true, Bool.and_eq_true]
  exact C10.range_bounds_exact ha hb hkA hn

/-- the key ranges between consecutive borders `b₀ ≤ b₁ ≤ … ≤ bₙ` (raw keys) -/
def rangeDoms (bs : List Bytes) (i : Nat) (k : Bytes) : Bool :=
  match bs[i]?, bs[i + 1]? with
  | some a, some b => rangeDom a b k
  | _, _ => false

theorem rangeDoms_iff {bs : List Bytes} {i : Nat} {k : Bytes} :
    rangeDoms bs i k = true ↔
      ∃ a b, bs[i]? = some a ∧ bs[i + 1]? = some b ∧ ble a k = true ∧ blt k b = true := by
  unfold rangeDoms
  cases bs[i]? <;> cases bs[i + 1]? <;> simp [rangeDom]

theorem rangeDoms_disjoint {bs : List Bytes} (hmono : bs.Pairwise (fun x y => ble x y = true)) :
    DomDisjoint (rangeDoms bs) := by
  -- a key of range `i` is below the upper border of `i`, which is at or below the lower border of any later range
  have key : ∀ i j k, i < j → rangeDoms bs i k = true → rangeDoms bs j k = true → False := by
    intro i j k hij hi hj
    obtain ⟨_, b, _, h2, _, hkb⟩ := rangeDoms_iff.1 hi
    obtain ⟨a', _, h3, _, hak, _⟩ := rangeDoms_iff.1 hj
    have hba' : ble b a' = true := by
      obtain ⟨l2, e2⟩ := List.getElem?_eq_some_iff.1 h2
      obtain ⟨l3, e3⟩ := List.getElem?_eq_some_iff.1 h3
      rcases Nat.lt_or_ge (i + 1) j with h | h
      · rw [← e2, ← e3]; exact List.pairwise_iff_getElem.1 hmono (i + 1) j l2 l3 h
      · have : i + 1 = j := by omega
        subst this
        rw [h2] at h3; injection h3 with h3
        rw [h3, ble_iff, cmp_refl]; decide
    have := blt_of_blt_of_ble (blt_of_blt_of_ble hkb hba') hak
    rw [blt_iff, cmp_refl] at this; cases this
  intro i j k hi hj
  rcases Nat.lt_trichotomy i j with h | h | h
  · exact (key i j k h hi hj).elim
  · exact h
  · exact (key j i k h hj hi).elim

/-! ### non-vacuity: two workers, a deleted key re-created in between their calls -/

def ka : Bytes := [47, 97]
def kb : Bytes := [47, 98]

/-- chunk 0: `ka` live with versions 4, 5 -/
def chunkA : List Rec :=
  [ { key := ka, rev := 0, val := be64 5, ik := encode ka 0 },
    { key := ka, rev := 4, val := [2], ik := encode ka 4 },
    { key := ka, rev := 5, val := [3], ik := encode ka 5 } ]

/-- chunk 1: `kb` deleted: version 3, deletion marker 7, index `(7, flag)` -/
def chunkB : List Rec :=
  [ { key := kb, rev := 0, val := be64 7 ++ [0], ik := encode kb 0 },
    { key := kb, rev := 3, val := [1], ik := encode kb 3 },
    { key := kb, rev := 7, val := tombstone, ik := encode kb 7 } ]

def parts2 : List (List Rec) := [chunkA, chunkB]

theorem parts2_hyps :
    SortedRecs parts2.flatten ∧ WellKeyed parts2.flatten ∧
      (∀ r ∈ parts2.flatten, Alphabet r.key ∧ r.rev < 2 ^ 64) ∧ (∀ r ∈ parts2.flatten, r.key ≠ []) ∧
      IdxWF parts2.flatten ∧ KeyDisjoint parts2 := by decide +kernel

/-- the two passes at `R = 8`: worker 0 has one delete call, worker 1 three — the first is the
compare-and-delete of `kb`'s index record -/
theorem parts2_acts :
    (init 8 parts2).workers.map (·.pending) =
      [ [.del (encode ka 4) ka, .emit ka [3] 5],
        [.delcur (idxKey kb) (be64 7 ++ [0]) kb, .del (encode kb 3) kb, .del (encode kb 7) kb] ] := by decide +kernel

def okMasks : Nat → Nat → DelOutcome := fun _ _ => .ok

/-- worker 1's first call fails with a non-CAS error: it skips `kb` from then on; worker 0 is not affected -/
def failMasks : Nat → Nat → DelOutcome := fun w i => if w = 1 ∧ i = 0 then .fail else .ok

/-- worker 1's compare-and-delete (its call 0) and its plain delete of `kb`'s version 3 (its call 1) fail
with an error of the failed-condition class -/
def casMasks : Nat → Nat → DelOutcome := fun w i => if w = 1 ∧ (i = 0 ∨ i = 1) then .failCas else .ok

def createOps : List BOp := [.pine (idxKey kb) (be8 10), .put (encode kb 10) [9]]
def recreateOps : List BOp := [.cas (idxKey kb) (be8 10) (be64 7 ++ [0]), .put (encode kb 10) [9]]

/-- Order A: the workers alternate; the writer re-creates `kb` at revision 10 BEFORE worker 1's
compare-and-delete of `kb`'s index record (`PutIfNotExist` conflicts with the flagged record, the `CAS` over
it succeeds), which then fails. -/
def runA : List Step :=
  [.compDel 0, .write createOps, .write recreateOps, .compDel 1, .compDel 0, .compDel 1, .compDel 0, .compDel 1]

/-- Order B: worker 1's compare-and-delete removes `kb`'s index record first; then the re-create
(`PutIfNotExist` succeeds); the workers go on alternating. -/
def runB : List Step :=
  [.compDel 0, .compDel 1, .write createOps, .compDel 0, .compDel 1, .compDel 0, .compDel 1]

def sA : PState := run .tikv okMasks (init 8 parts2) runA
def sB : PState := run .tikv okMasks (init 8 parts2) runB
def sF : PState := run .tikv failMasks (init 8 parts2) runB

theorem runA_disciplined : Disciplined .tikv okMasks 8 (init 8 parts2) runA :=
  ⟨trivial, .create kb [9] 10 (by decide +kernel), .recreate kb [9] (be64 7 ++ [0]) 10 (by decide +kernel),
    trivial, trivial, trivial, trivial, trivial, trivial⟩

theorem runB_disciplined : Disciplined .tikv okMasks 8 (init 8 parts2) runB :=
  ⟨trivial, trivial, .create kb [9] 10 (by decide +kernel), trivial, trivial, trivial, trivial, trivial⟩

theorem runF_disciplined : Disciplined .tikv failMasks 8 (init 8 parts2) runB :=
  ⟨trivial, trivial, .create kb [9] 10 (by decide +kernel), trivial, trivial, trivial, trivial, trivial⟩

def sC : PState := run .tikv casMasks (init 8 parts2) runB

theorem runC_disciplined : Disciplined .tikv casMasks 8 (init 8 parts2) runB :=
  ⟨trivial, trivial, .create kb [9] 10 (by decide +kernel), trivial, trivial, trivial, trivial, trivial⟩

/-- failed-condition errors: the failed compare-and-delete is not remembered, the failed plain delete is —
worker 1 skips the marker of `kb`; worker 0 is not affected -/
theorem runC_facts :
    (run .tikv casMasks (init 8 parts2) [.compDel 0, .compDel 1]).workers.map (·.lastFailed) = [[], []] ∧
    sC.workers.map (·.lastFailed) = [[], kb] ∧
    sC.workers.map (·.trace) = [ [.del (encode ka 4)], [.delcur (idxKey kb), .del (encode kb 3)] ] ∧
    sC.workers.map (·.pending) = [[], []] ∧
    sC.store.get (encode ka 4) = none ∧ sC.store.get (encode kb 3) = some [1] ∧
    sC.store.get (encode kb 7) = some tombstone ∧
    sC.store.get (idxKey kb) = some (be64 7 ++ [0]) ∧
    readS 8 sC.store kb = none ∧ readS (2 ^ 64 - 1) sC.store kb = none ∧
    readS 8 sC.store ka = some ([3], 5) := by
  decide +kernel

theorem runA_facts :
    -- both workers are done; each made its own calls
    sA.workers.map (·.pending) = [[], []] ∧
    sA.workers.map (·.trace) =
      [ [.del (encode ka 4)], [.delcur (idxKey kb), .del (encode kb 3), .del (encode kb 7)] ] ∧
    sA.workers.map (·.calls) = [1, 3] ∧
    -- worker 1's compare-and-delete failed: the index record is there, with the writer's value
    sA.store.get (idxKey kb) = some (be8 10) ∧
    logicalIdx sA.store kb = some 10 ∧ logicalIdx sA.store ka = some 5 ∧
    -- the superseded version of `ka` and the old history of `kb` are gone
    sA.store.get (encode ka 4) = none ∧ sA.store.get (encode kb 3) = none ∧
    sA.store.get (encode kb 7) = none ∧
    -- reads of `kb`: deleted at 8 and 9, the new object from 10 on
    readS 8 sA.store kb = none ∧ readS 9 sA.store kb = none ∧
    readS 10 sA.store kb = some ([9], 10) ∧ readS (2 ^ 64 - 1) sA.store kb = some ([9], 10) ∧
    -- reads of `ka`: untouched
    readS 8 sA.store ka = some ([3], 5) ∧ readS 9 sA.store ka = some ([3], 5) ∧
    readS 10 sA.store ka = some ([3], 5) ∧ readS (2 ^ 64 - 1) sA.store ka = some ([3], 5) ∧
    -- the restored store has the whole history again, and the same reads
    (storeRecs (restored parts2.flatten sA.store)).map (fun r => (r.key, r.rev)) =
      [(ka, 0), (ka, 4), (ka, 5), (kb, 0), (kb, 3), (kb, 7), (kb, 10)] ∧
    readS 8 (restored parts2.flatten sA.store) kb = none ∧
    readS 10 (restored parts2.flatten sA.store) kb = some ([9], 10) := by
  decide +kernel

theorem runB_facts :
    -- worker 1's compare-and-delete removed the index record of `kb`, so the create commits at once
    (run .tikv okMasks (init 8 parts2) [.compDel 0, .compDel 1]).store.get (idxKey kb) = none ∧
    sB.workers.map (·.pending) = [[], []] ∧
    sB.workers.map (·.trace) =
      [ [.del (encode ka 4)], [.delcur (idxKey kb), .del (encode kb 3), .del (encode kb 7)] ] ∧
    logicalIdx sB.store kb = some 10 ∧ logicalIdx sB.store ka = some 5 ∧
    readS 8 sB.store kb = none ∧ readS 9 sB.store kb = none ∧
    readS 10 sB.store kb = some ([9], 10) ∧ readS (2 ^ 64 - 1) sB.store kb = some ([9], 10) ∧
    readS 8 sB.store ka = some ([3], 5) ∧ readS (2 ^ 64 - 1) sB.store ka = some ([3], 5) ∧
    -- both orders end in the same store
    sB.store = sA.store := by
  decide +kernel

/-- the skip key is per worker: worker 1's failed call makes it skip all of `kb`; worker 0 compacts `ka` -/
theorem runF_facts :
    sF.workers.map (·.lastFailed) = [[], kb] ∧
    sF.workers.map (·.trace) = [ [.del (encode ka 4)], [.delcur (idxKey kb)] ] ∧
    sF.store.get (encode ka 4) = none ∧ sF.store.get (encode kb 3) = some [1] ∧
    sF.store.get (encode kb 7) = some tombstone ∧
    -- the create conflicts with the flagged index record, which is still there
    sF.store.get (idxKey kb) = some (be64 7 ++ [0]) ∧
    readS 8 sF.store kb = none ∧ readS (2 ^ 64 - 1) sF.store kb = none ∧
    readS 8 sF.store ka = some ([3], 5) := by
  decide +kernel

/-- the theorems apply to the runs (their hypotheses are satisfiable) -/
example (R' : Nat) (hR : 8 ≤ R') (k : Bytes) :
    readS R' sA.store k = readS R' (restored parts2.flatten sA.store) k :=
  par_race_equals_restored parts2_hyps.1 parts2_hyps.2.1 parts2_hyps.2.2.1 parts2_hyps.2.2.2.1
    parts2_hyps.2.2.2.2.1 parts2_hyps.2.2.2.2.2 8 .tikv okMasks runA runA_disciplined R' hR k

example := par_compDel_invisible parts2_hyps.1 parts2_hyps.2.1 parts2_hyps.2.2.1 parts2_hyps.2.2.2.1
    parts2_hyps.2.2.2.2.1 parts2_hyps.2.2.2.2.2 8 .tikv failMasks runB runF_disciplined 1

example (R' : Nat) (hR : 8 ≤ R') (k : Bytes) :
    readS R' sC.store k = readS R' (restored parts2.flatten sC.store) k :=
  par_race_equals_restored parts2_hyps.1 parts2_hyps.2.1 parts2_hyps.2.2.1 parts2_hyps.2.2.2.1
    parts2_hyps.2.2.2.2.1 parts2_hyps.2.2.2.2.2 8 .tikv casMasks runB runC_disciplined R' hR k

/-- the projection of `runA` on worker 1 is the single-worker race of `KB.C07Race` over chunk 1 -/
theorem runA_projected :
    projSteps (chunkDom parts2 1) 1 runA =
      [.write createOps, .write recreateOps, .compDel, .compDel, .compDel] ∧
    projSteps (chunkDom parts2 0) 0 runA = [.compDel, .compDel, .compDel] ∧
    (C07Race.run .tikv (okMasks 1) (C07Race.init 8 chunkB) (projSteps (chunkDom parts2 1) 1 runA)).comp.store =
      proj (chunkDom parts2 1) sA.store := by
  decide +kernel

example := par_reduces_to_single parts2_hyps.1 parts2_hyps.2.1 parts2_hyps.2.2.1 parts2_hyps.2.2.2.1
    parts2_hyps.2.2.2.2.1 parts2_hyps.2.2.2.2.2 8 .tikv okMasks runA runA_disciplined 1 chunkB rfl

/-! ### non-vacuity of the staggered race -/

/-- worker 0 owns `ka`, worker 1 owns `kb` -/
def dom2 : Nat → Bytes → Bool := fun i k => (i == 0 && k == ka) || (i == 1 && k == kb)

theorem dom2_disjoint : DomDisjoint dom2 := by
  intro i j k hi hj
  simp only [dom2, Bool.or_eq_true, Bool.and_eq_true, beq_iff_eq] at hi hj
  rcases hi with ⟨rfl, rfl⟩ | ⟨rfl, rfl⟩ <;> rcases hj with ⟨rfl, h⟩ | ⟨rfl, h⟩ <;>
    first | rfl | (exact absurd h (by decide +kernel))

/-- Worker 1 is scheduled before it has an iterator (nothing happens); worker 0 starts and deletes `ka`'s
version 4; the writer re-creates `kb` at 10; only THEN worker 1 takes its snapshot — which already has the
new index record and version 10 — and removes the old history of `kb`. -/
def runS : List SStep :=
  [.act (.compDel 1), .start 0, .act (.compDel 0), .act (.write createOps), .act (.write recreateOps),
   .start 1, .act (.compDel 1), .act (.compDel 0), .act (.compDel 1), .act (.compDel 1)]

def sS : PState := srun .tikv okMasks 8 dom2 (sinit parts2.flatten 2) runS

theorem runS_disciplined : SDisciplined .tikv okMasks 8 dom2 (sinit parts2.flatten 2) runS :=
  ⟨trivial, trivial, trivial, ⟨.create kb [9] 10 (by decide +kernel), by decide +kernel⟩,
    ⟨.recreate kb [9] (be64 7 ++ [0]) 10 (by decide +kernel), by decide +kernel⟩, trivial, trivial, trivial, trivial,
    trivial, trivial⟩

theorem runS_facts :
    -- worker 1's snapshot, taken after the re-create: live index record, versions 3, 7, 10
    (sS.workers.map (fun w => w.snap.map (fun r => (r.key, r.rev, r.val)))) =
      [ [(ka, 0, be64 5), (ka, 4, [2]), (ka, 5, [3])],
        [(kb, 0, be8 10), (kb, 3, [1]), (kb, 7, tombstone), (kb, 10, [9])] ] ∧
    -- so it has no compare-and-delete to make: two unconditional deletes
    sS.workers.map (·.trace) = [ [.del (encode ka 4)], [.del (encode kb 3), .del (encode kb 7)] ] ∧
    sS.workers.map (·.pending) = [[], []] ∧
    logicalIdx sS.store kb = some 10 ∧ logicalIdx sS.store ka = some 5 ∧
    readS 8 sS.store kb = none ∧ readS 9 sS.store kb = none ∧
    readS 10 sS.store kb = some ([9], 10) ∧ readS (2 ^ 64 - 1) sS.store kb = some ([9], 10) ∧
    readS 8 sS.store ka = some ([3], 5) ∧ readS (2 ^ 64 - 1) sS.store ka = some ([3], 5) ∧
    -- the same final store as with simultaneous snapshots
    sS.store = sA.store ∧
    -- starting all workers first IS the race over the chunks of one snapshot
    srun .tikv okMasks 8 dom2 (sinit parts2.flatten 2) [.start 0, .start 1] = init 8 parts2 := by
  decide +kernel

example (R' : Nat) (hR : 8 ≤ R') (k : Bytes) :
    readS R' sS.store k = readS R' (restored (allSnaps sS) sS.store) k :=
  par_race_equals_restored_staggered parts2_hyps.1 parts2_hyps.2.1 parts2_hyps.2.2.1 parts2_hyps.2.2.2.1
    parts2_hyps.2.2.2.2.1 dom2_disjoint 2 8 .tikv okMasks runS runS_disciplined R' hR k

/-! ### what is not true -/

/-- the revision whose 8 bytes are the first 8 bytes of the deletion marker -/
def tombRev : Nat := fromBE (tombstone.take 8)

/-- `ka` deleted at 3, its index record flagged with the byte `101` (any 9-byte index value reads as
"deleted": `coder.ParseRevision`) -/
def oddRecs : List Rec :=
  [ { key := ka, rev := 0, val := be64 3 ++ [101], ik := encode ka 0 },
    { key := ka, rev := 3, val := tombstone, ik := encode ka 3 } ]

/-- `WriterBatch.retry` with the flag bytes `[101]`: the rewritten index value IS the deletion marker -/
def oddRetry : List BOp :=
  [.cas (idxKey ka) (be8 tombRev ++ [101]) (be8 3 ++ [101]), .put (encode ka tombRev) tombstone]

/-- a later re-create of `ka` over the (flagged) index value -/
def oddRecreate : List BOp :=
  [.cas (idxKey ka) (be8 (tombRev + 1)) tombstone, .put (encode ka (tombRev + 1)) [7]]

/-- **`IdxValOK` is needed in the staggered race.** `KB.C07Race.WriterBatch.retry` allows ANY flag bytes.
With the flag `[101]` a retry batch can write the deletion marker `"tombstone"` itself as an index VALUE. In
the race over one snapshot that is harmless (the workers decide from the snapshot, which satisfies `IdxWF`);
but a worker that takes its snapshot AFTER that commit sees an index record with the marker value and issues
the unconditional "delete tombstone data" call (scanner.go `worker.run`) for it — which later removes the index record
of the key a writer has re-created in between: its logical index changes from `live at tombRev + 1` to
`absent`. (The backend's retry copies the flag `[]` / `[0]` it read, so it never writes such a value.) -/
theorem staggered_needs_idxValOK :
    let dom : Nat → Bytes → Bool := fun i k => i == 0 && k == ka
    let s0 := sinit oddRecs 1
    let s1 := sstep .tikv okMasks 8 dom s0 (.act (.write oddRetry))
    let s2 := sstep .tikv okMasks 8 dom s1 (.start 0)
    let s3 := sstep .tikv okMasks 8 dom s2 (.act (.write oddRecreate))
    let s4 := step .tikv okMasks s3 (.compDel 0)
    SortedRecs oddRecs ∧ WellKeyed oddRecs ∧ (∀ r ∈ oddRecs, Alphabet r.key ∧ r.rev < 2 ^ 64) ∧
      (∀ r ∈ oddRecs, r.key ≠ []) ∧ IdxWF oddRecs ∧
      -- both commits are `WriterBatch`es (`retry` and `recreate`) at fresh revisions, and both commit
      Fresh 8 s0.store ka tombRev ∧ Fresh 8 s2.store ka (tombRev + 1) ∧
      s1.store.get (idxKey ka) = some tombstone ∧ s3.store.get (idxKey ka) = some (be8 (tombRev + 1)) ∧
      -- only the first violates `IdxValOK`
      ¬ IdxValOK oddRetry ∧ IdxValOK oddRecreate ∧
      -- the worker's snapshot has the marker as an index value; its first action is an UNCONDITIONAL delete
      -- of the index record
      ¬ IdxWF (s2.workers.flatMap (·.snap)) ∧
      s2.workers.map (·.pending) = [[.del (idxKey ka) ka, .del (encode ka 3) ka]] ∧
      -- which changes the logical index of the re-created key
      logicalIdx s3.store ka = some (tombRev + 1) ∧ logicalIdx s4.store ka = none := by
  decide +kernel

theorem oddRetry_writerBatch : WriterBatch 8 (sinit oddRecs 1).store oddRetry :=
  .retry ka tombstone [101] tombRev 3 (by decide +kernel)

end KB.C07Par
