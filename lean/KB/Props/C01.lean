/-
  C01 — Conditional writes never lose an update.
  Model: KB.Sys — all interleavings of any number of clients issuing create / update / delete with
  arbitrary expected revisions (and the retry loop's rewrites), from every well-formed initial store
  (keys never existed, live, deleted, deleted-and-compacted), with storage faults, for every `Quirks`.
  Ghost: `wlog` = the batches the engine applied, in commit order, each with the condition it was
  committed under.
-/
import KB.Lemmas.SysStore
import KB.Props.C02
namespace KB.C01
open KB.SysStore

/-- The last applied write to `k` before position `i` of the log. -/
def predecessor (l : List WLog) (i : Nat) (k : Bytes) : Option WLog :=
  ((l.take i).filter (fun w => w.key == k)).getLast?

/-- State of key `k` in the initial store as its index record tells: absent, live at m, deleted at m. -/
def initIndex (g0 : G) (k : Bytes) : Option (Nat × Bool) :=
  (g0.store.get (idxKey k)).bind parseRevision

/-- The chain property: every applied write extends its key's history exactly as it was conditioned. -/
def ChainAt (g0 : G) (l : List WLog) (i : Nat) (w : WLog) : Prop :=
  match predecessor l i w.key, w.exp with
  | some p, .rev e => p.rev = e ∧ p.rev < w.rev
  | some p, .absent => p.val = none ∧ p.rev < w.rev
  | none, .rev e => ∃ t, initIndex g0 w.key = some (e, t) ∧ e < w.rev
  | none, .absent => initIndex g0 w.key = none ∨ ∃ m, initIndex g0 w.key = some (m, true) ∧ m < w.rev

/-- For every key the applied creates, updates and deletes form one chain in revision order: each
update / guarded delete (and each rewrite) named exactly the revision written by its predecessor and
each create found the key absent or deleted.
`hb`: revisions are uint64 in the implementation; past `2 ^ 64` the 8-byte index record wraps and the
property is false (`KB.SysStore.index_agrees_needs_bound` is a proved witness for `index_agrees`). -/
theorem chain {g0 g : G} (h0 : C02.Init g0) (hs : C02.StoreOK g0) (hr : Reachable g0 g)
    (hb : g.dealt < 2 ^ 64)
    (i : Nat) (w : WLog) (hw : g.wlog[i]? = some w) : ChainAt g0 g.wlog i w :=
  -- `ChainAt` / `predecessor` / `initIndex` unfold to `SysStore.ChainCond` / `lastW (l.take i)` / `initIdx`
  (SInv.reachable h0 hs hr).core.chain hb i w hw

/-- Two writers conditioned on the same revision of the same key never both succeed. -/
theorem no_double_success {g0 g : G} (h0 : C02.Init g0) (hs : C02.StoreOK g0) (hr : Reachable g0 g)
    (hb : g.dealt < 2 ^ 64)
    (i j : Nat) (wi wj : WLog) (hi : g.wlog[i]? = some wi) (hj : g.wlog[j]? = some wj) (hij : i < j)
    (hk : wi.key = wj.key) (e : Nat) (hei : wi.exp = .rev e) (hej : wj.exp = .rev e) : False :=
  chain_no_double (chain h0 hs hr hb) i j wi wj hi hj hij hk e hei hej

/-- A step that applies no batch leaves the whole store unchanged: in particular every request that
ends in a failed condition or an error (not "unknown outcome, applied") left its key unchanged. -/
theorem failed_leaves_unchanged (g : G) (a : Action) (h : (act g a).wlog = g.wlog) :
    (act g a).store = g.store :=
  act_store_of_wlog g a h

/-- The index record is the optimistic lock: in every reachable state the index record of a key
written during the run holds exactly the revision (and deletion flag) of the last applied write. -/
theorem index_agrees {g0 g : G} (h0 : C02.Init g0) (hs : C02.StoreOK g0) (hr : Reachable g0 g)
    (hb : g.dealt < 2 ^ 64)
    (w : WLog) (hw : (g.wlog.filter (fun x => x.key == w.key)).getLast? = some w) :
    (g.store.get (idxKey w.key)).bind parseRevision = some (w.rev, w.val.isNone) ∧
    g.store.get (encode w.key w.rev) = some (w.val.getD Generated.tombstone) := by
  have h := (SInv.reachable h0 hs hr).core
  have hl : lastW g.wlog w.key = some w := hw
  have hi := h.idx hb w.key
  rw [hl] at hi
  exact ⟨by rw [hi.1, Option.bind_some, parseRevision_be8_flag (h.idx_some hb hl).2.2], hi.2⟩

/-- A condition is reported failed by a guarded update / delete only when the engine's
compare-and-swap really found the index different from the expectation at that step
(the clause "a reported failed condition is justified" of DESIGN.md §5 C01 in its local form: the moment is the failing
commit step itself; for creates, over the whole request: `KB.C01Repair`). -/
theorem cas_conflict_justified (q : Quirks) (s : Store) (k new old : Bytes) (rest : List BOp)
    (idx : Option Nat) (v : Option Bytes) (h : commit q s (.cas k new old :: rest) = .error (.conflict idx v))
    (hidx : idx = some (0 + q.idxOffset)) : s.get k ≠ some old := by
  intro hget
  subst hidx
  simp only [commit, applyOps, applyOp, hget, if_true] at h
  have := applyOps_conflict_idx h
  omega

/-! Non-vacuity: two updates conditioned on the same revision race; exactly one is applied. -/
def ex0 : G :=
  { dealt := 1001, committed := 1001,
    store := encodeStore [ { key := [47, 97], rev := 0, val := be64 1001, ik := [] },
                           { key := [47, 97], rev := 1001, val := [1], ik := [] } ] }
def exSched : List Action :=
  [ .begin 1 (.update [47, 97] [2] 1001), .begin 2 (.update [47, 97] [3] 1001),
    .step 1 .none, .step 2 .none, .step 2 .none, .step 1 .none, .step 1 .none ]
set_option maxRecDepth 100000 in
example : ((run ex0 exSched).wlog.map (fun w => (w.rev, w.exp))) = [(1003, .rev 1001)] := by decide +kernel
set_option maxRecDepth 100000 in
example : ((run ex0 exSched).done.map (fun d => (d.id, d.res))) =
    [(2, .ok 1003), (1, .condFailed 1003 (some ([47, 97], [3], 1003)))] := by decide +kernel

/-! Non-vacuity of the rewrite case: a delete applied with unknown outcome is rewritten by the retry loop;
the rewrite is conditioned on (and chained to) the delete itself, both logged as deletions. -/
def exSchedRetry : List Action :=
  [ .begin 1 (.delete [47, 97] 1001), .step 1 .none, .step 1 .none, .step 1 .uncApplied, .seq, .retry .none ]
set_option maxRecDepth 100000 in
example : ((run ex0 exSchedRetry).wlog.map (fun w => (w.rev, w.val, w.exp))) =
    [(1002, none, .rev 1001), (1003, none, .rev 1002)] := by decide +kernel

end KB.C01
