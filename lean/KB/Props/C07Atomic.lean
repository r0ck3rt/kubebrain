/-
  C07 / C17 — the ttl pass removes an expired Event in ONE write batch (/repo 74218cc `worker.expireEvent`): an
  interrupted or partly failing pass never leaves versions without their revision record.
  Model: `KB.passLoop` / `KB.passRun` with `Act.expire` (the batch: compare-and-delete of the revision record + deletes
  of the versions the snapshot shows; executed by `KB.runExpire` through the reference engine's `KB.commit`, all or
  nothing) and the bookkeeping `goneEventRawKey` / `liveEventRawKey`; failure masks on the sequence of engine calls; a
  crash after n calls is `KB.Race.cut mask n` (every call from n on fails: nothing more is applied). The pass as it
  was before 74218cc (compare-and-delete of the revision record, then one plain delete per version, one loop
  iteration later each) is `KB.passLoopOld` / `KB.passRunOld`.

  What is proved, for every sorted store, every `R`, every `T ≠ 0`, every mask and every crash point:
  * `expired_event_all_or_nothing`: an Event whose revision record is expired is, after the pass, either gone with all
    its records or still has its revision record, unchanged, and has lost nothing but what the ordinary compaction rules
    remove (reads at every revision ≥ R unchanged) — never versions without their revision record;
  * `index_present_iff_versions_present`: for a live Event (revision record without the deletion flag, naming its
    newest version) the revision record is there after the pass iff a version is, iff the version it names is;
  * `writable_after_interrupted_pass`: lifted to the backend model — on a store whose revision records name the newest
    version of their key (`RecsWF`), after a pass interrupted at ANY point a key that `bget` reports present at revision
    r accepts the guarded update naming r (`doUpdate … = ok`), and a key that reads absent accepts a create;
  * `old_pass_interrupted_leaves_orphan_versions`: the refutation of the per-record pass, by `decide`.
-/
import KB.Props.C07Expire
import KB.Lemmas.Atomic
namespace KB.C07Atomic
open KB KB.Compact KB.ExpirePass KB.C07Expire KB.Race KB.Atomic

/-- the mask of a pass that dies after `n` calls -/
abbrev crashAfter (mask : Nat → DelOutcome) (n : Nat) : Nat → DelOutcome := cut mask n

/-- a live key: its revision record `i` carries no deletion flag and names the revision of the version `v`, which is
not a deletion marker and is the newest version of the key -/
structure LiveKey (recs : List Rec) (k : Bytes) (i v : Rec) : Prop where
  im : i ∈ recs
  ik : i.key = k
  i0 : i.rev = 0
  ilen : i.val.length = 8
  vm : v ∈ recs
  vk : v.key = k
  vrev : v.rev = fromBE (i.val.take 8)
  vpos : 0 < v.rev
  vlive : isTomb v.val = false
  top : ∀ w ∈ recs, w.key = k → w.rev ≤ v.rev

/-- the ordinary compaction rules never remove the revision record of a live key, nor the version it names -/
theorem liveKey_not_deletable {recs : List Rec} {k : Bytes} {i v : Rec} (hl : LiveKey recs k i v) (R : Nat) :
    ¬ Deletable R recs i ∧ ¬ Deletable R recs v := by
  constructor
  · intro ⟨_, h0, _⟩
    have := h0 hl.i0; have := hl.ilen; omega
  · intro ⟨_, _, hpos⟩
    rcases hpos hl.vpos with h | ⟨r', hr', hkey, hlt, _⟩
    · rw [hl.vlive] at h; cases h
    · have := hl.top r' hr' (hkey.trans hl.vk); omega

section
variable {recs : List Rec} (hs : SortedRecs recs) (hw : WellKeyed recs)
  (hk : ∀ r ∈ recs, Alphabet r.key ∧ r.rev < 2 ^ 64) (hne : ∀ r ∈ recs, r.key ≠ [])
  (c : WCfg) (hcomp : c.compact = true) (httl : c.supportTTL = false) (hT : c.timeout ≠ 0)
include hs hw hk

theorem pass_sub_store (mask : Nat → DelOutcome) (b : Bytes) :
    (finalStore c mask recs).get b = none ∨ (finalStore c mask recs).get b = (encodeStore recs).get b := by
  unfold finalStore
  rw [passRun_store]
  exact (fold_get hw hk recs (fun _ h => h) _ (start_wf hs hk) b).symm.imp (·.1) id

theorem pass_only_removes (mask : Nat → DelOutcome) (r : Rec) (hr : r ∈ recs) :
    (finalStore c mask recs).get r.ik = none ∨ (finalStore c mask recs).get r.ik = some r.val := by
  rcases pass_sub_store hs hw hk c mask r.ik with h | h
  · exact .inl h
  · right; rw [h, hw r hr]; exact encodeStore_get hs hk hr

theorem finalStore_eq (mask : Nat → DelOutcome) : finalStore c mask recs = encodeStore (after c mask recs) := by
  have hso : Store.Sorted (finalStore c mask recs) := by
    unfold finalStore
    rw [passRun_store]
    exact (fold_wf recs _ (start_wf hs hk) (fun r hr => (hk r hr).2)).so
  exact store_eq_encodeStore_filter hs hw hk hso (pass_sub_store hs hw hk c mask)

include hne hcomp httl hT

/-- **All or nothing.** The Event `k` has an EXPIRED revision record `i` in the snapshot (the revision it names is at
or below the timeout revision). Under EVERY failure mask — in particular for every crash point: `crashAfter mask n`
— after the pass either NO record of `k` is left (revision record and every version the snapshot showed), or its
revision record is still there, unchanged, every record of `k` that is still there is unchanged, whatever is gone
of it is what the ordinary compaction rules remove (a superseded version ≤ R, a deletion marker) and every read of
`k` at every revision ≥ R returns what it returned before. Never versions without their revision record.
(`hmax`: `expireEvent` iterates the versions below revision `MaxUint64`; no revision that large is ever dealt.) -/
theorem expired_event_all_or_nothing (mask : Nat → DelOutcome) (k : Bytes) (hev : isEventKey c k = true)
    (i : Rec) (hi : i ∈ recs) (hik : i.key = k) (hi0 : i.rev = 0) (h8 : 8 ≤ i.val.length)
    (hexp : fromBE (i.val.take 8) ≤ c.timeout) (hmax : ∀ w ∈ recs, w.key = k → w.rev < 2 ^ 64 - 1) :
    (∀ w ∈ recs, w.key = k → (finalStore c mask recs).get w.ik = none) ∨
    ((finalStore c mask recs).get i.ik = some i.val ∧
      (∀ w ∈ recs, w.key = k → (finalStore c mask recs).get w.ik = none ∨
        (finalStore c mask recs).get w.ik = some w.val) ∧
      (∀ w ∈ recs, w.key = k → (finalStore c mask recs).get w.ik = none → Deletable c.R recs w) ∧
      ∀ R', c.R ≤ R' → readAt R' (after c mask recs) k = readAt R' recs k) := by
  have hall := pass_all_or_nothing (c := c) (mask := mask) hs hw hk httl hT hev hi hik hi0 h8 hexp hmax recs
    (fun _ h => h) _ (start_wf hs hk) (.inr (by rw [hw i hi]; exact encodeStore_get hs hk hi))
  rw [← passRun_store] at hall
  rcases hall with h | h
  · exact .inl h
  · right
    have hkept : (finalStore c mask recs).get i.ik ≠ none := by
      show (passRun c mask { store := encodeStore recs } recs).2.store.get i.ik ≠ none
      rw [h]; simp
    obtain ⟨h1, h2⟩ := expired_index_failure_spares_versions hs hw hk hne c hcomp httl hT mask i hi hi0 h8 hexp hkept
    refine ⟨h, fun w hwm _ => pass_only_removes hs hw hk c mask w hwm, ?_, ?_⟩
    · intro w hwm hwk; exact h1 w hwm (hwk.trans hik.symm)
    · intro R' hR; rw [← hik]; exact h2 R' hR

/-- … for every crash point: the pass dies after `n` calls (any `n`, any outcomes of the calls before) -/
theorem expired_event_all_or_nothing_crash (mask : Nat → DelOutcome) (n : Nat) (k : Bytes)
    (hev : isEventKey c k = true) (i : Rec) (hi : i ∈ recs) (hik : i.key = k) (hi0 : i.rev = 0)
    (h8 : 8 ≤ i.val.length) (hexp : fromBE (i.val.take 8) ≤ c.timeout)
    (hmax : ∀ w ∈ recs, w.key = k → w.rev < 2 ^ 64 - 1) :
    (∀ w ∈ recs, w.key = k → (finalStore c (crashAfter mask n) recs).get w.ik = none) ∨
    ((finalStore c (crashAfter mask n) recs).get i.ik = some i.val ∧
      ∀ w ∈ recs, w.key = k → (finalStore c (crashAfter mask n) recs).get w.ik = none →
        Deletable c.R recs w) := by
  rcases expired_event_all_or_nothing hs hw hk hne c hcomp httl hT (crashAfter mask n) k hev i hi hik hi0 h8 hexp
    hmax with h | ⟨h1, _, h3, _⟩
  · exact .inl h
  · exact .inr ⟨h1, h3⟩

/-- **Never versions without their revision record.** If ANY record of the expired Event `k` is left after the pass,
its revision record is. -/
theorem versions_imply_index (mask : Nat → DelOutcome) (k : Bytes) (hev : isEventKey c k = true)
    (i : Rec) (hi : i ∈ recs) (hik : i.key = k) (hi0 : i.rev = 0) (h8 : 8 ≤ i.val.length)
    (hexp : fromBE (i.val.take 8) ≤ c.timeout) (hmax : ∀ w ∈ recs, w.key = k → w.rev < 2 ^ 64 - 1)
    (w : Rec) (hwm : w ∈ recs) (hwk : w.key = k) (hthere : (finalStore c mask recs).get w.ik ≠ none) :
    (finalStore c mask recs).get i.ik = some i.val := by
  rcases expired_event_all_or_nothing hs hw hk hne c hcomp httl hT mask k hev i hi hik hi0 h8 hexp hmax with h | h
  · exact absurd (h w hwm hwk) hthere
  · exact h.1

/-- **The invariant.** For a live Event — before the pass its revision record and the version it names are there —
after the pass, under EVERY failure mask and crash point: the revision record is there iff the version it names
is, iff any version at all is. (For a DELETED Event — revision record with the deletion flag — only
`versions_imply_index` holds: the ordinary rules remove the deletion marker and the superseded versions below it
while the flagged record stays, which reads absent and accepts a create.) -/
theorem index_present_iff_versions_present (mask : Nat → DelOutcome) (k : Bytes) (hev : isEventKey c k = true)
    (i v : Rec) (hl : LiveKey recs k i v) (hmax : ∀ w ∈ recs, w.key = k → w.rev < 2 ^ 64 - 1) :
    ((finalStore c mask recs).get i.ik = some i.val ↔ (finalStore c mask recs).get v.ik = some v.val) ∧
    ((finalStore c mask recs).get i.ik = some i.val ↔
      ∃ w ∈ recs, w.key = k ∧ w.rev ≠ 0 ∧ (finalStore c mask recs).get w.ik ≠ none) := by
  have h8 : 8 ≤ i.val.length := by rw [hl.ilen]; exact Nat.le_refl _
  have hnd := liveKey_not_deletable hl c.R
  -- of a spared key nothing undeletable is removed
  have hkeeps : Spared c mask recs k → ∀ x ∈ recs, x.key = k → ¬ Deletable c.R recs x →
      (finalStore c mask recs).get x.ik = some x.val := fun hsp x hx hxk hx' =>
    (pass_only_removes hs hw hk c mask x hx).resolve_left fun h =>
      hx' (spared_removed_is_deletable hs hw hk hne c hcomp httl hT mask k hsp x hx hxk h)
  -- the revision record kept: the key is spared, so the version it names is kept too
  have hv : (finalStore c mask recs).get i.ik = some i.val → (finalStore c mask recs).get v.ik = some v.val :=
    fun h => hkeeps (.inr ⟨i, hl.im, hl.ik, hl.i0, h8, by rw [h]; simp⟩) v hl.vm hl.vk hnd.2
  -- young: spared; expired: all or nothing
  have hi : (∀ w ∈ recs, w.key = k → (finalStore c mask recs).get w.ik = none) ∨
      (finalStore c mask recs).get i.ik = some i.val := by
    by_cases hy : c.timeout < fromBE (i.val.take 8)
    · exact .inr (hkeeps (.inl (.inr ⟨i, hl.im, hl.ik, hl.i0, h8, hy⟩)) i hl.im hl.ik hnd.1)
    · exact (expired_event_all_or_nothing hs hw hk hne c hcomp httl hT mask k hev i hl.im hl.ik hl.i0 h8 (by omega)
        hmax).imp id (·.1)
  have hof : ∀ w ∈ recs, w.key = k → (finalStore c mask recs).get w.ik ≠ none →
      (finalStore c mask recs).get i.ik = some i.val := fun w hwm hwk hne' =>
    hi.resolve_left fun h => hne' (h w hwm hwk)
  exact ⟨⟨hv, fun h => hof v hl.vm hl.vk (by rw [h]; simp)⟩,
    ⟨fun h => ⟨v, hl.vm, hl.vk, by have := hl.vpos; omega, by rw [hv h]; simp⟩,
      fun ⟨w, hwm, hwk, _, hne'⟩ => hof w hwm hwk hne'⟩⟩

end

/-- the revision records of the store name the newest version of their key: every key with a record has a revision
record; it holds the big-endian revision of the key's newest version — bare when that version is a value, with the
deletion flag (9 bytes) when it is a deletion marker. (What the backend's writes maintain: C01 / C02Lag `KeyWF`.) -/
structure RecsWF (recs : List Rec) : Prop where
  hasIdx : ∀ w ∈ recs, ∃ i ∈ recs, i.key = w.key ∧ i.rev = 0
  named : ∀ i ∈ recs, i.rev = 0 → ∃ v ∈ recs, v.key = i.key ∧ 0 < v.rev ∧
    (∀ w ∈ recs, w.key = i.key → w.rev ≤ v.rev) ∧
    ((i.val = be8 v.rev ∧ isTomb v.val = false) ∨
     (i.val.length = 9 ∧ fromBE (i.val.take 8) = v.rev ∧ isTomb v.val = true))

instance (recs : List Rec) : Decidable (RecsWF recs) :=
  decidable_of_iff ((∀ w ∈ recs, ∃ i ∈ recs, i.key = w.key ∧ i.rev = 0) ∧
    (∀ i ∈ recs, i.rev = 0 → ∃ v ∈ recs, v.key = i.key ∧ 0 < v.rev ∧
      (∀ w ∈ recs, w.key = i.key → w.rev ≤ v.rev) ∧
      ((i.val = be8 v.rev ∧ isTomb v.val = false) ∨
       (i.val.length = 9 ∧ fromBE (i.val.take 8) = v.rev ∧ isTomb v.val = true))))
    ⟨fun h => ⟨h.1, h.2⟩, fun h => ⟨h.1, h.2⟩⟩

/-- in a store whose revision records name the newest versions, a key that reads present at the latest revision has
a bare revision record, naming the version read -/
theorem recsWF_read_some {recs : List Rec} (hs : SortedRecs recs) (hwf : RecsWF recs) (hmax : ∀ w ∈ recs, w.rev < 2 ^ 64 - 1) {k v : Bytes} {m : Nat}
    (h : readAt (2 ^ 64 - 1) recs k = some (v, m)) :
    ∃ i ∈ recs, i.key = k ∧ i.rev = 0 ∧ i.val = be8 m ∧ 0 < m ∧ ∃ x ∈ recs, x.rev = m := by
  obtain ⟨x, hx, hxk, hxv, hxn, hx0, _, hxl, hmax'⟩ := (readAt_some_iff hs).1 h
  obtain ⟨i, hi, hik, hi0⟩ := hwf.hasIdx x hx
  obtain ⟨v0, hv0, hv0k, hv0pos, hv0top, hcase⟩ := hwf.named i hi hi0
  have hle := hmax' v0 hv0 (hv0k.trans (hik.trans hxk)) hv0pos (by have := hmax v0 hv0; omega)
  have hge := hv0top x hx hik.symm
  obtain rfl : x = v0 := recs_unique hs hx hv0 (hik.symm.trans hv0k.symm) (by omega)
  rcases hcase with ⟨hival, _⟩ | ⟨_, _, htomb⟩
  · exact ⟨i, hi, hik.trans hxk, hi0, hxn ▸ hival, hxn ▸ hx0, x, hx, hxn⟩
  · rw [hxl] at htomb; cases htomb

theorem recsWF_read_none {recs : List Rec} (hs : SortedRecs recs) (hwf : RecsWF recs) (hmax : ∀ w ∈ recs, w.rev < 2 ^ 64 - 1) {i : Rec} (hi : i ∈ recs)
    (hi0 : i.rev = 0) (h : readAt (2 ^ 64 - 1) recs i.key = none) :
    i.val.length = 9 ∧ ∃ x ∈ recs, fromBE (i.val.take 8) = x.rev := by
  obtain ⟨v0, hv0, hv0k, hv0pos, hv0top, hcase⟩ := hwf.named i hi hi0
  rcases hcase with ⟨_, hlive⟩ | ⟨hlen, hrev, _⟩
  · have := (readAt_some_iff hs (R := 2 ^ 64 - 1)).2 ⟨v0, hv0, hv0k, rfl, rfl, hv0pos, by have := hmax v0 hv0; omega, hlive,
      fun x hx hxk _ _ => hv0top x hx hxk⟩
    rw [h] at this; cases this
  · exact ⟨hlen, v0, hv0, hrev⟩

section
variable {recs : List Rec} (hs : SortedRecs recs) (hw : WellKeyed recs)
  (hk : ∀ r ∈ recs, Alphabet r.key ∧ r.rev < 2 ^ 64) (hne : ∀ r ∈ recs, r.key ≠ [])
  (c : WCfg) (hcomp : c.compact = true) (httl : c.supportTTL = false) (hT : c.timeout ≠ 0)
include hs hw hk hne hcomp httl hT

/-- every key is, after the pass, either gone with all its records or one the ttl pass of this run spared -/
theorem gone_or_spared (hwf : RecsWF recs) (hmax : ∀ w ∈ recs, w.rev < 2 ^ 64 - 1) (mask : Nat → DelOutcome)
    (k : Bytes) :
    (∀ w ∈ recs, w.key = k → (finalStore c mask recs).get w.ik = none) ∨ Spared c mask recs k := by
  by_cases hev : isEventKey c k = true
  · by_cases hrec : ∃ w ∈ recs, w.key = k
    · obtain ⟨w, hwm, hwk⟩ := hrec
      obtain ⟨i, hi, hik, hi0⟩ := hwf.hasIdx w hwm
      have hik' : i.key = k := hik.trans hwk
      have h8 : 8 ≤ i.val.length := by
        obtain ⟨v, _, _, _, _, h | h⟩ := hwf.named i hi hi0
        · rw [h.1]; exact Nat.le_of_eq (beN_length 8 _).symm
        · omega
      by_cases hy : c.timeout < fromBE (i.val.take 8)
      · exact .inr (.inl (.inr ⟨i, hi, hik', hi0, h8, hy⟩))
      · rcases expired_event_all_or_nothing hs hw hk hne c hcomp httl hT mask k hev i hi hik' hi0 h8 (by omega)
          (fun w hwm _ => hmax w hwm) with h | h
        · exact .inl h
        · exact .inr (.inr ⟨i, hi, hik', hi0, h8, by rw [h.1]; simp⟩)
    · exact .inl (fun w hwm hwk => absurd ⟨w, hwm, hwk⟩ hrec)
  · exact .inr (.inl (.inl (by simpa using hev)))

/-- **Every key stays writable with normal semantics** — lifted to the backend model. The store's revision records
name the newest version of their key (`RecsWF`); a compaction pass at `R` with the ttl pass riding on it runs under ANY
failure mask — for every crash point `n`: `crashAfter mask n` — and leaves `finalStore`. On a backend over that
store (any engine quirks; every revision of the store was dealt): a key that a read at the latest revision reports
PRESENT at revision `m` accepts the guarded update naming `m`, and a key that reads ABSENT accepts a create. -/
theorem writable_after_interrupted_pass (hwf : RecsWF recs) (hmax : ∀ w ∈ recs, w.rev < 2 ^ 64 - 1)
    (hR : c.R < 2 ^ 64) (mask : Nat → DelOutcome) (cb : Cfg) (s : BState)
    (hst : s.store = finalStore c mask recs) (hdealt : ∀ w ∈ recs, w.rev ≤ s.dealt)
    (k : Bytes) (hka : Alphabet k) (val : Bytes) :
    (∀ v m, bget cb s.store k 0 = .found v m → (doUpdate cb s k val m []).1 = .ok (s.dealt + 1)) ∧
    (∀ m, bget cb s.store k 0 = .notFound m → (doCreate cb s k val []).1 = .ok (s.dealt + 1)) := by
  have hfin := finalStore_eq hs hw hk c mask
  have hsA : SortedRecs (after c mask recs) := List.Pairwise.sublist List.filter_sublist hs
  have hkA : ∀ r ∈ after c mask recs, Alphabet r.key ∧ r.rev < 2 ^ 64 :=
    fun r hr => hk r (List.mem_filter.1 hr).1
  rw [hst]
  rcases gone_or_spared hs hw hk hne c hcomp httl hT hwf hmax mask k with hgone | hsp
  · -- nothing of `k` is left: it reads absent and has no revision record
    constructor
    · intro v m hb
      rw [hfin, bget_found_iff cb hsA hkA k hka] at hb
      obtain ⟨x, hx, hxk, _⟩ := (readAt_some_iff hsA).1 hb
      have hx' := List.mem_filter.1 hx
      rw [hgone x hx'.1 hxk] at hx'
      cases hx'.2
    · intro m _
      apply doCreate_ok_of_no_index
      rw [hst]
      cases hg : (finalStore c mask recs).get (idxKey k) with
      | none => rfl
      | some old =>
        obtain ⟨i, hi, hik, _, _, hiik⟩ := index_of_sub_store hw hk (pass_sub_store hs hw hk c mask) hg
        rw [← hiik, hgone i hi hik] at hg; cases hg
  · -- a spared key: reads at the latest revision are what they were, the ordinary rules removed what is gone
    have hread : readAt (2 ^ 64 - 1) (after c mask recs) k = readAt (2 ^ 64 - 1) recs k :=
      spared_reads_unchanged hs hw hk hne c hcomp httl hT mask k hsp _ (by omega)
    constructor
    · intro v m hb
      rw [hfin, bget_found_iff cb hsA hkA k hka, hread] at hb
      obtain ⟨i, hi, hik, hi0, hival, hm0, x, hx, hxm⟩ := recsWF_read_some hs hwf hmax hb
      -- the bare revision record is not deletable, so it is still there
      have hkept : (finalStore c mask recs).get i.ik = some i.val := by
        refine (pass_only_removes hs hw hk c mask i hi).resolve_left fun h => ?_
        have := (spared_removed_is_deletable hs hw hk hne c hcomp httl hT mask k hsp i hi hik h).2.1 hi0
        rw [hival] at this
        exact absurd ((beN_length 8 m).symm.trans this) (by decide)
      apply doUpdate_ok_of_index cb s k val m hm0 (hxm ▸ hdealt x hx)
      rw [hst, ← hival, ← hkept, hw i hi, hik, hi0]; rfl
    · intro m hb
      have hnone : readAt (2 ^ 64 - 1) recs k = none := by
        rw [← hread]
        exact (bget_notFound_iff cb hsA hkA k hka).1 ⟨m, hfin ▸ hb⟩
      cases hg : (finalStore c mask recs).get (idxKey k) with
      | none => exact doCreate_ok_of_no_index cb s k val (hst ▸ hg)
      | some old =>
        obtain ⟨i, hi, hik, hi0, hiv, _⟩ := index_of_sub_store hw hk (pass_sub_store hs hw hk c mask) hg
        obtain ⟨hlen, x, hx, hrev⟩ := recsWF_read_none hs hwf hmax hi hi0 (hik ▸ hnone)
        apply doCreate_ok_of_flagged_index cb s k val old (hst ▸ hg) (hiv ▸ hlen)
        rw [← hiv, hrev]
        have := hdealt x hx; omega

end

/-! ### the pass as it was before 74218cc -/

/-- the store after one worker's pass of the OLD loop (`passRunOld`: compare-and-delete of the revision record, then a
plain delete per version — separate engine calls) -/
def finalStoreOld (c : WCfg) (mask : Nat → DelOutcome) (recs : List Rec) : Store :=
  (passRunOld c mask { store := encodeStore recs } recs).2.store

def afterOld (c : WCfg) (mask : Nat → DelOutcome) (recs : List Rec) : List Rec :=
  recs.filter (fun r => ((finalStoreOld c mask recs).get r.ik).isSome)

/-- the Event `/e/x` was created at 2 (value `[1]`) and updated at 3 (value `[2]`): its revision record says 3 —
expired with the timeout revision 5 of `exCfg` (compaction at 7); `/n` was created at 4 and updated at 6 -/
def exExpired : List Rec :=
  [ { key := exE, rev := 0, val := be64 3, ik := encode exE 0 },
    { key := exE, rev := 2, val := [1], ik := encode exE 2 },
    { key := exE, rev := 3, val := [2], ik := encode exE 3 },
    { key := exN, rev := 0, val := be64 6, ik := encode exN 0 },
    { key := exN, rev := 4, val := [7], ik := encode exN 4 },
    { key := exN, rev := 6, val := [8], ik := encode exN 6 } ]

/-- every call succeeds until the pass dies after `n` calls -/
def dieAfter (n : Nat) : Nat → DelOutcome := crashAfter (fun _ => .ok) n

/-- a backend (any engine: the reference quirks) over the store `st`, 7 revisions dealt and committed -/
def exB : Cfg := { pfx := [47] }
def exState (st : Store) : BState := { store := st, dealt := 7, committed := 7, ring := Ring.new 4 }
theorem exState_store (st : Store) : (exState st).store = st := rfl

/-- **Refutation of the per-record pass.** The expired Event `/e/x` (revision record naming 3, versions at 2 and 3),
timeout revision 5, compaction at 7, the pass dies after its FIRST engine call.
OLD pass (`passRunOld`): the first call is the compare-and-delete of the revision record — it goes through, the
deletes of the versions never happen: the versions are left WITHOUT their revision record. A read still answers
"present at revision 3" (`readAt`, and the backend's `bget`), yet the guarded update naming 3 is refused, and so is
even an UNGUARDED delete: the key is not writable with normal semantics.
The pass as it is (`passRun`): its first call is the batch — revision record and both versions go together, the key
reads absent and can be created; dying BEFORE that call leaves the Event whole, and the update naming 3 is accepted.
The hypotheses of the theorems above hold for this store. -/
theorem old_pass_interrupted_leaves_orphan_versions :
    SortedRecs exExpired ∧ WellKeyed exExpired ∧ (∀ r ∈ exExpired, Alphabet r.key ∧ r.rev < 2 ^ 64) ∧
    (∀ r ∈ exExpired, r.key ≠ []) ∧ isEventKey exCfg exE = true ∧ fromBE ((be64 3).take 8) ≤ exCfg.timeout ∧
    readAt 7 exExpired exE = some ([2], 3) ∧
    -- the OLD pass, dying after its first call: revision record gone, versions there
    (afterOld exCfg (dieAfter 1) exExpired).map (fun r => (r.key, r.rev)) =
      [(exE, 2), (exE, 3), (exN, 0), (exN, 4), (exN, 6)] ∧
    (finalStoreOld exCfg (dieAfter 1) exExpired).get (encode exE 0) = none ∧
    readAt 7 (afterOld exCfg (dieAfter 1) exExpired) exE = some ([2], 3) ∧
    bget exB (finalStoreOld exCfg (dieAfter 1) exExpired) exE 0 = .found [2] 3 ∧
    (doUpdate exB (exState (finalStoreOld exCfg (dieAfter 1) exExpired)) exE [9] 3 []).1 =
      .condFailed 8 (some (exE, [2], 3)) ∧
    (doDelete exB (exState (finalStoreOld exCfg (dieAfter 1) exExpired)) exE 0 []).1 =
      .condFailed 8 (some (exE, [2], 3)) ∧
    -- the pass as it is, same crash point: everything of the Event is gone; it reads absent and can be created
    (after exCfg (dieAfter 1) exExpired).map (fun r => (r.key, r.rev)) = [(exN, 0), (exN, 4), (exN, 6)] ∧
    bget exB (finalStore exCfg (dieAfter 1) exExpired) exE 0 = .notFound 0 ∧
    (doCreate exB (exState (finalStore exCfg (dieAfter 1) exExpired)) exE [9] []).1 = .ok 8 ∧
    -- … dying before the batch: nothing of it is gone; the update naming 3 is accepted
    after exCfg (dieAfter 0) exExpired = exExpired ∧
    bget exB (finalStore exCfg (dieAfter 0) exExpired) exE 0 = .found [2] 3 ∧
    (doUpdate exB (exState (finalStore exCfg (dieAfter 0) exExpired)) exE [9] 3 []).1 = .ok 8 ∧
    -- … a failed-condition error on the batch: the same
    after exCfg (fun i => if i = 0 then .failCas else .ok) exExpired =
      exExpired.filter (fun r => !(r.key == exE && r.rev == 2) && !(r.key == exN && r.rev == 4)) ∧
    (doUpdate exB (exState (finalStore exCfg (fun i => if i = 0 then .failCas else .ok) exExpired)) exE [9] 3 []).1 =
      .ok 8 := by
  decide +kernel

/-! ### Non-vacuity: the hypotheses of the theorems hold for the store of the refutation -/

theorem exExpired_ok :
    SortedRecs exExpired ∧ WellKeyed exExpired ∧ (∀ r ∈ exExpired, Alphabet r.key ∧ r.rev < 2 ^ 64) ∧
    (∀ r ∈ exExpired, r.key ≠ []) ∧ isEventKey exCfg exE = true ∧ fromBE ((be64 3).take 8) ≤ exCfg.timeout :=
  have ⟨hs, hw, hk, hne, hev, hexp, _⟩ := old_pass_interrupted_leaves_orphan_versions
  ⟨hs, hw, hk, hne, hev, hexp⟩
theorem exExpired_wf :
    RecsWF exExpired ∧ (∀ w ∈ exExpired, w.rev < 2 ^ 64 - 1) ∧ exCfg.R < 2 ^ 64 ∧ Alphabet exE ∧ Alphabet exN := by
  decide +kernel
example : RecsWF exExpired ∧ (∀ w ∈ exExpired, w.rev < 2 ^ 64 - 1) ∧ exCfg.R < 2 ^ 64 ∧ Alphabet exE ∧ Alphabet exN :=
  exExpired_wf
theorem exE_live : LiveKey exExpired exE { key := exE, rev := 0, val := be64 3, ik := encode exE 0 }
    { key := exE, rev := 3, val := [2], ik := encode exE 3 } :=
  ⟨by decide, rfl, rfl, by decide, by decide, rfl, by decide, by decide, by decide, by decide⟩
example : LiveKey exExpired exE { key := exE, rev := 0, val := be64 3, ik := encode exE 0 }
    { key := exE, rev := 3, val := [2], ik := encode exE 3 } := exE_live

/-- all or nothing for `/e/x`, under any mask and any crash point -/
example (mask : Nat → DelOutcome) (n : Nat) :
    (∀ w ∈ exExpired, w.key = exE → (finalStore exCfg (crashAfter mask n) exExpired).get w.ik = none) ∨
    ((finalStore exCfg (crashAfter mask n) exExpired).get (encode exE 0) = some (be64 3) ∧
      ∀ w ∈ exExpired, w.key = exE → (finalStore exCfg (crashAfter mask n) exExpired).get w.ik = none →
        Deletable exCfg.R exExpired w) :=
  have ⟨hs, hw, hk, hne, hev, hexp⟩ := exExpired_ok
  expired_event_all_or_nothing_crash hs hw hk hne exCfg rfl rfl (by decide) mask n exE hev
    { key := exE, rev := 0, val := be64 3, ik := encode exE 0 } exE_live.im rfl rfl (by decide) hexp
    (fun w hw _ => exExpired_wf.2.1 w hw)

/-- the revision record of `/e/x` is there iff its version at 3 is, under any mask -/
example (mask : Nat → DelOutcome) :
    (finalStore exCfg mask exExpired).get (encode exE 0) = some (be64 3) ↔
      (finalStore exCfg mask exExpired).get (encode exE 3) = some [2] :=
  have ⟨hs, hw, hk, hne, hev, _⟩ := exExpired_ok
  (index_present_iff_versions_present hs hw hk hne exCfg rfl rfl (by decide) mask exE hev _ _ exE_live
    (fun w hw _ => exExpired_wf.2.1 w hw)).1

/-- every key of that store stays writable after a pass interrupted anywhere: on a backend that has dealt 7
revisions, whatever the mask and the crash point -/
example (mask : Nat → DelOutcome) (n : Nat) (k : Bytes) (hka : Alphabet k) (val : Bytes) :
    let s := exState (finalStore exCfg (crashAfter mask n) exExpired)
    (∀ v m, bget exB s.store k 0 = .found v m → (doUpdate exB s k val m []).1 = .ok 8) ∧
    (∀ m, bget exB s.store k 0 = .notFound m → (doCreate exB s k val []).1 = .ok 8) :=
  have ⟨hs, hw, hk, hne, _⟩ := exExpired_ok
  writable_after_interrupted_pass hs hw hk hne exCfg rfl rfl (by decide) exExpired_wf.1 exExpired_wf.2.1
    exExpired_wf.2.2.1 (crashAfter mask n) exB _ (exState_store _) (show ∀ w ∈ exExpired, w.rev ≤ 7 by decide) k hka
    val

end KB.C07Atomic

#print axioms KB.C07Atomic.pass_only_removes
#print axioms KB.C07Atomic.finalStore_eq
#print axioms KB.C07Atomic.expired_event_all_or_nothing
#print axioms KB.C07Atomic.expired_event_all_or_nothing_crash
#print axioms KB.C07Atomic.versions_imply_index
#print axioms KB.C07Atomic.index_present_iff_versions_present
#print axioms KB.C07Atomic.gone_or_spared
#print axioms KB.C07Atomic.writable_after_interrupted_pass
#print axioms KB.C07Atomic.old_pass_interrupted_leaves_orphan_versions
