/-
  C07 — Compaction never changes what a read at or above the compaction revision sees.
  Model: the worker loop with `compact = true` (KB.Scan.workerActs) and the execution of its delete
  actions against the live store under an arbitrary failure mask (KB.Scan.runDeletes). A crash after
  n deletions is the mask that fails every call from n on. The mask is arbitrary: every delete call —
  plain (`compactKey`) or compare-and-delete (`compactCurrent`) — may succeed, fail, or fail with an
  error of the failed-condition class (`storage.ErrCASFailed`; the TiKV adapter reports a write
  conflict that way, for a plain delete too).
  This file: the pass WITHOUT a timeout revision (`workerActs` is the whole loop then: `KB.passRun_expiry_off`).
  The pass with the ttl pass riding on it (engine without native ttl, `timeoutRevision ≠ 0`): `KB.Props.C07Expire`.
-/
import KB.Lemmas.Compact
namespace KB.C07
open KB KB.Compact Generated

/-- The internal keys successfully removed by a compaction pass at `R` over `recs` under `mask`
(expiry off). -/
def deleted (R : Nat) (mask : Nat → DelOutcome) (recs : List Rec) : List Bytes :=
  let st := runDeletes mask { store := encodeStore recs } (workerActs { R := R, compact := true } recs)
  (recs.filter (fun r => (st.store.get r.ik).isNone)).map (·.ik)

/-- The decoded store after the pass. -/
def after (R : Nat) (mask : Nat → DelOutcome) (recs : List Rec) : List Rec :=
  recs.filter (fun r => !(deleted R mask recs).contains r.ik)


/-- the store after the pass -/
def finalStore (R : Nat) (mask : Nat → DelOutcome) (recs : List Rec) : Store :=
  (runDeletes mask { store := encodeStore recs } (workerActs { R := R, compact := true } recs)).store

theorem mem_deleted_iff {R : Nat} {mask : Nat → DelOutcome} {recs : List Rec} {ik : Bytes} :
    ik ∈ deleted R mask recs ↔ (∃ r ∈ recs, r.ik = ik) ∧ (finalStore R mask recs).get ik = none := by
  simp only [deleted, finalStore, List.mem_map, List.mem_filter, Option.isNone_iff_eq_none]
  constructor
  · rintro ⟨r, ⟨hr, hn⟩, rfl⟩; exact ⟨⟨r, hr, rfl⟩, hn⟩
  · rintro ⟨⟨r, hr, rfl⟩, hn⟩; exact ⟨r, ⟨hr, hn⟩, rfl⟩

theorem deleted_deletable {recs : List Rec} (hs : SortedRecs recs) (hw : WellKeyed recs)
    (hk : ∀ r ∈ recs, Alphabet r.key ∧ r.rev < 2 ^ 64)
    (R : Nat) (mask : Nat → DelOutcome) (r : Rec) (hr : r ∈ recs) (hd : r.ik ∈ deleted R mask recs) :
    Deletable R recs r :=
  compact_deletable hs hw hk R mask hr (mem_deleted_iff.1 hd).2

/-- Without `hne` the two theorems below are false: the empty raw
key is (vacuously) over the alphabet, and `lastFailed.length > 0` disables the skip for it. -/
theorem empty_key_resurrects :
    let recs : List Rec :=
      [ { key := [], rev := 3, val := [1], ik := encode [] 3 },
        { key := [], rev := 7, val := tombstone, ik := encode [] 7 } ]
    let mask : Nat → DelOutcome := fun i => if i = 0 then .fail else .ok
    SortedRecs recs ∧ WellKeyed recs ∧ (∀ r ∈ recs, Alphabet r.key ∧ r.rev < 2 ^ 64) ∧
    readAt 9 recs [] = none ∧ readAt 9 (after 8 mask recs) [] = some ([1], 3) ∧
    scanRecs 9 recs = [] ∧ scanRecs 9 (after 8 mask recs) = [([], [1], 3)] := by
  decide +kernel

/-- Main theorem: whatever deletions succeed, fail (with whatever class of error, on whichever kind of
delete call — `mask` is arbitrary), or are cut short, every read at every
revision ≥ R of every key returns exactly what it returned before. (`hne`: raw keys are non-empty —
for the empty raw key the statement is FALSE, see `empty_key_resurrects`: the
`len(lastCompactFailedRawKey) > 0` guard never fires for it.) -/
theorem compact_preserves_reads {recs : List Rec} (hs : SortedRecs recs) (hw : WellKeyed recs)
    (hk : ∀ r ∈ recs, Alphabet r.key ∧ r.rev < 2 ^ 64) (hne : ∀ r ∈ recs, r.key ≠ [])
    (R : Nat) (mask : Nat → DelOutcome) (R' : Nat) (hR : R ≤ R') (k : Bytes) :
    readAt R' (after R mask recs) k = readAt R' recs k := by
  have hkeep : ∀ d ∈ recs, (!(deleted R mask recs).contains d.ik) = false ↔
      (finalStore R mask recs).get d.ik = none := by
    intro d hd
    simp only [Bool.not_eq_false', List.contains_iff_mem, mem_deleted_iff]
    exact ⟨fun h => h.2, fun h => ⟨⟨d, hd, rfl⟩, h⟩⟩
  unfold after
  apply readAt_filter hs _ R R' hR
  · intro d hd hkd
    exact compact_deletable hs hw hk R mask hd ((hkeep d hd).1 hkd)
  · intro t ht hkt htomb hpos w hw' hwk h0 hlt
    rw [hkeep w hw']
    exact compact_tombClosed hs hw hk hne R mask t ht ((hkeep t ht).1 hkt) htomb hpos w hw' hwk h0 hlt

/-- Range form of the same statement. -/
theorem compact_preserves_scan {recs : List Rec} (hs : SortedRecs recs) (hw : WellKeyed recs)
    (hk : ∀ r ∈ recs, Alphabet r.key ∧ r.rev < 2 ^ 64) (hne : ∀ r ∈ recs, r.key ≠ [])
    (R : Nat) (mask : Nat → DelOutcome) (R' : Nat) (hR : R ≤ R') :
    scanRecs R' (after R mask recs) = scanRecs R' recs :=
  scan_filter_of_readAt hs _ R'
    (fun k => compact_preserves_reads hs hw hk hne R mask R' hR k)

/-- Only records at or below R are ever removed, and a removed version is either superseded by a
newer version ≤ R of the same key or is a deletion marker / a deleted key's index record. -/
theorem deleted_only_le_R {recs : List Rec} (hs : SortedRecs recs) (hw : WellKeyed recs)
    (hk : ∀ r ∈ recs, Alphabet r.key ∧ r.rev < 2 ^ 64)
    (R : Nat) (mask : Nat → DelOutcome) (r : Rec) (hr : r ∈ recs) (hd : r.ik ∈ deleted R mask recs) :
    r.rev ≤ R :=
  (deleted_deletable hs hw hk R mask r hr hd).1

/-- A live key (index record of 8 bytes, newest version not a tombstone) keeps its index record and
its newest version: it stays writable with normal compare-and-swap semantics. -/
theorem live_key_untouched {recs : List Rec} (hs : SortedRecs recs) (hw : WellKeyed recs)
    (hk : ∀ r ∈ recs, Alphabet r.key ∧ r.rev < 2 ^ 64)
    (R : Nat) (mask : Nat → DelOutcome) (r : Rec) (hr : r ∈ recs)
    (hlive : (r.rev = 0 ∧ r.val.length = 8) ∨
             (0 < r.rev ∧ ¬ isTomb r.val = true ∧ ∀ r' ∈ recs, r'.key = r.key → r'.rev ≤ r.rev)) :
    r.ik ∉ deleted R mask recs := by
  intro hd
  obtain ⟨_, h0, hpos⟩ := deleted_deletable hs hw hk R mask r hr hd
  rcases hlive with ⟨h1, h2⟩ | ⟨h1, h2, h3⟩
  · have := h0 h1; omega
  · rcases hpos h1 with h | ⟨r', hr', hkey, hlt, _⟩
    · exact h2 h
    · have := h3 r' hr' hkey; omega

/-! ### the pre-fix behaviour (before "fix: a failed delete of a version always stops the compaction
of that key"): `compactKey` went through `updateSkippedRawKey` like `compactCurrent` does -/

/-- `runDelete` as the code was BEFORE the fix: a plain delete failing with an error of the
failed-condition class is not applied and its raw key is NOT remembered. Every other arm is
`runDelete`'s. -/
def runDeleteOld (mask : Nat → DelOutcome) (st : CompState) : Act → CompState
  | .del ik raw =>
    if st.lastFailed.length > 0 && st.lastFailed == raw then st
    else match mask st.calls with
      | .failCas => { st with calls := st.calls + 1, trace := st.trace ++ [.del ik] }
      | _ => runDelete mask st (.del ik raw)
  | a => runDelete mask st a

/-- the decoded store after a pass executed with `runDeleteOld` -/
def afterOld (R : Nat) (mask : Nat → DelOutcome) (recs : List Rec) : List Rec :=
  let st := (workerActs { R := R, compact := true } recs).foldl (runDeleteOld mask) { store := encodeStore recs }
  recs.filter (fun r => (st.store.get r.ik).isSome)

/-- the two executions differ in nothing but the `.del` / `.failCas` arm -/
theorem runDeleteOld_eq {mask : Nat → DelOutcome} {st : CompState} {a : Act}
    (h : mask st.calls ≠ .failCas ∨ ∀ ik raw, a ≠ .del ik raw) :
    runDeleteOld mask st a = runDelete mask st a := by
  cases a with
  | del ik raw =>
    rcases h with h | h
    · simp only [runDeleteOld, runDelete]
      split
      · rfl
      · cases hmc : mask st.calls <;> simp_all
    · exact absurd rfl (h ik raw)
  | emit k v r => rfl
  | delcur ik v raw => rfl
  | expire ik v vers raw => rfl
  | panic => rfl

/-- Witness for the fix. The plain delete of the older version fails with a failed-condition error (a
TiKV write conflict). Pre-fix (`runDeleteOld`): the failure is not remembered, the deletion marker above
goes, and the deleted key REAPPEARS — in the point read and in the range read. With `runDelete` (the code
as it is) the same mask stops the compaction of that key: nothing of it is removed, reads are unchanged. -/
theorem cas_on_del_resurrected_before_fix :
    let recs : List Rec :=
      [ { key := [47, 97], rev := 3, val := [1], ik := encode [47, 97] 3 },
        { key := [47, 97], rev := 7, val := tombstone, ik := encode [47, 97] 7 } ]
    let mask : Nat → DelOutcome := fun i => if i = 0 then .failCas else .ok
    SortedRecs recs ∧ WellKeyed recs ∧ (∀ r ∈ recs, Alphabet r.key ∧ r.rev < 2 ^ 64) ∧
    (∀ r ∈ recs, r.key ≠ []) ∧
    -- before the pass: the key is deleted
    readAt 9 recs [47, 97] = none ∧ scanRecs 9 recs = [] ∧
    -- pre-fix: it reappears
    readAt 9 (afterOld 8 mask recs) [47, 97] = some ([1], 3) ∧
    scanRecs 9 (afterOld 8 mask recs) = [([47, 97], [1], 3)] ∧
    -- now: unchanged (and nothing of the key was removed)
    readAt 9 (after 8 mask recs) [47, 97] = none ∧ scanRecs 9 (after 8 mask recs) = [] ∧
    after 8 mask recs = recs := by
  decide +kernel

/-! Non-vacuity -/
def exRecs : List Rec :=
  [ { key := [47, 97], rev := 0, val := be64 7 ++ [0], ik := encode [47, 97] 0 },
    { key := [47, 97], rev := 3, val := [1], ik := encode [47, 97] 3 },
    { key := [47, 97], rev := 7, val := tombstone, ik := encode [47, 97] 7 },
    { key := [47, 98], rev := 0, val := be64 5, ik := encode [47, 98] 0 },
    { key := [47, 98], rev := 4, val := [2], ik := encode [47, 98] 4 },
    { key := [47, 98], rev := 5, val := [3], ik := encode [47, 98] 5 } ]
example : SortedRecs exRecs ∧ WellKeyed exRecs := by decide +kernel
example : (after 8 (fun _ => .ok) exRecs).map (fun r => (r.key, r.rev)) = [([47, 98], 0), ([47, 98], 5)] := by decide +kernel
example : (after 8 (fun i => if i = 0 then .fail else .ok) exRecs).length = 5 := by decide +kernel
/-- a mask mixing all three outcomes on both kinds of delete call: the compare-and-delete of `/a`'s index
record (call 0) and the plain delete of `/b`'s superseded version (call 3) fail with a failed-condition
error, the plain delete of `/a`'s marker (call 2) fails otherwise -/
def mixedMask : Nat → DelOutcome := fun i => if i = 0 ∨ i = 3 then .failCas else if i = 2 then .fail else .ok
example : (runDeletes mixedMask { store := encodeStore exRecs } (workerActs { R := 8, compact := true } exRecs)).trace.map
      (fun t => match t with | .delcur _ => true | _ => false)
    = [true, false, false, false] := by decide +kernel
example : (after 8 mixedMask exRecs).map (fun r => (r.key, r.rev)) =
    [([47, 97], 0), ([47, 97], 7), ([47, 98], 0), ([47, 98], 4), ([47, 98], 5)] := by decide +kernel
example (R' : Nat) (hR : 8 ≤ R') (k : Bytes) : readAt R' (after 8 mixedMask exRecs) k = readAt R' exRecs k :=
  compact_preserves_reads (by decide +kernel) (by decide +kernel) (by decide +kernel) (by decide +kernel) 8 mixedMask R' hR k

end KB.C07
