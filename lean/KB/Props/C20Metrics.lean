/-
  C20 (metrics part) — "… does not panic (including inside metric emission, where a metric name must
  always be emitted with the same set of label names) …".

  Two layers:
  * GENERIC (all tables, all emission sequences): `consistent_no_panic` — if a table of emission sites
    is `Consistent` (same formatted name ⇒ same raw name, kind, label names) and `WellNamed` (valid
    Prometheus identifiers, no duplicate / reserved label), then NO sequence of emissions drawn from the
    table makes the modelled client (`KB.Metrics.emit`: first use fixes the label set, a later use with
    a different set — or a second registration of a formatted name — is a panic) panic.  Induction on
    the sequence with a registry invariant; not `decide`.
  * INSTANCE (finite quantifier: all emission call sites of the program, regenerated from /repo by
    harness/cmd/kbextract/metrics.go on every run): `metric_labels_consistent`, `metric_names_valid`,
    `metric_sites_resolved`, `metric_dynamic_label_sites`, `metric_sanitised_label_sites` by `decide`,
    and their combination `metrics_never_panic`: NO data a client can send reaches a label value
    unsanitised (the Watch key is passed through strings.ToValidUTF8 since 9c4361e — before that a
    Watch with a non-UTF-8 key killed the node); the only run-time label values left are the leader
    address at seven sites of the election / follower code, which is operator data (see
    `metric_dynamic_label_sites`) and appears as the one explicit hypothesis `LeaderAddressValid`.
  Trusted: the extractor's syntactic resolution of names / labels (fail closed: anything it cannot
  resolve is in `metricSitesUnresolved`, required to be empty), the reading of client_golang v1.12.1
  in KB/Metrics.lean, and that the program's emissions are exactly the calls of the table
  (tied dynamically by the `metrics` harness suite: every site replayed on the real client).
-/
import KB.Metrics
import KB.Generated.MetricSites
namespace KB.C20Metrics
open KB.Metrics KB.Generated

/-! ### generic part -/

theorem agreeB_iff (a b : Site) :
    agreeB a b = true ↔ a.name = b.name ∧ a.kind = b.kind ∧ a.labelNames = b.labelNames := by
  simp [agreeB, and_assoc]

/-- the linear-scan check implies pairwise consistency -/
theorem consistent_of_check (sites : List Site) (h : consistentB sites = true) : Consistent sites := by
  intro a ha b hb hab
  have key : ∀ s ∈ sites, ∃ f, sites.find? (fun f => formatName f.name == formatName s.name) = some f ∧
      agreeB f s = true := by
    intro s hs
    have := (List.all_eq_true.mp h) s hs
    split at this
    · next f hf => exact ⟨f, hf, this⟩
    · exact absurd this (by simp)
  obtain ⟨fa, hfa, haa⟩ := key a ha
  obtain ⟨fb, hfb, hbb⟩ := key b hb
  rw [hab] at hfa
  rw [hfa] at hfb
  cases hfb
  rw [agreeB_iff] at haa hbb
  obtain ⟨h1, h2, h3⟩ := haa
  obtain ⟨h4, h5, h6⟩ := hbb
  exact ⟨h1.symm.trans h4, h2.symm.trans h5, h3.symm.trans h6⟩

theorem sameSet_self (a : List Name) : sameSet a a = true := by
  simp [sameSet]

/-- registry invariant: every vector stems from a site of the table, every registered name from a vector -/
def Inv (global : List Name) (sites : List Site) (r : Registry) : Prop :=
  (∀ v ∈ r.vecs, ∃ s ∈ sites, v.kind = s.kind ∧ v.name = s.name ∧ v.labels = fullLabels global s) ∧
  (∀ n ∈ r.fq, ∃ v ∈ r.vecs, formatName v.name = n)

theorem emit_ok (global : List Name) (sites : List Site)
    (hc : Consistent sites) (hw : WellNamed global sites)
    (r : Registry) (hr : Inv global sites r) (s : Site) (hs : s ∈ sites) :
    ∃ r', emitSite global r s = some r' ∧ Inv global sites r' := by
  -- a vector of the registry with the formatted name of `s` stems from a site that agrees with `s`
  have key : ∀ v ∈ r.vecs, formatName v.name = formatName s.name →
      v.kind = s.kind ∧ v.name = s.name ∧ v.labels = fullLabels global s := by
    intro v hv hn
    obtain ⟨s0, hs0, hk, hn0, hl⟩ := hr.1 v hv
    obtain ⟨h1, h2, h3⟩ := hc s0 hs0 s hs (hn0 ▸ hn)
    exact ⟨hk.trans h2, hn0.trans h1, by rw [hl, fullLabels, h3, fullLabels]⟩
  unfold emitSite
  split
  · next v hv =>
    have hp := List.find?_some hv
    simp only [Bool.and_eq_true, beq_iff_eq] at hp
    rw [(key v (List.mem_of_find?_eq_some hv) (by rw [hp.2])).2.2, sameSet_self]
    exact ⟨r, rfl, hr⟩
  · next hnone =>
    -- the formatted name is not registered: its vector would have been found
    have hfq : r.fq.contains (formatName s.name) = false := by
      refine Bool.eq_false_iff.mpr fun hcon => ?_
      obtain ⟨v, hv, hvn⟩ := hr.2 _ (by simpa using hcon)
      obtain ⟨hk, hn, _⟩ := key v hv hvn
      exact List.find?_eq_none.mp hnone v hv (by simp [hk, hn])
    rw [hw s hs, hfq]
    refine ⟨_, rfl, ?_, ?_⟩
    · intro v hv
      rcases List.mem_cons.mp hv with rfl | hv
      · exact ⟨s, hs, rfl, rfl, rfl⟩
      · exact hr.1 v hv
    · intro n hn
      rcases List.mem_cons.mp hn with rfl | hn
      · exact ⟨_, List.mem_cons_self, rfl⟩
      · obtain ⟨v, hv, hvn⟩ := hr.2 n hn
        exact ⟨v, List.mem_cons_of_mem _ hv, hvn⟩

theorem run_ok (global : List Name) (sites : List Site)
    (hc : Consistent sites) (hw : WellNamed global sites) (seq : List Emission) :
    ∀ r, Inv global sites r → (∀ e ∈ seq, e.site ∈ sites ∧ e.valuesValid = true) →
      (run global r seq).isSome = true := by
  induction seq with
  | nil => intro r _ _; rfl
  | cons e rest ih =>
    intro r hr hs
    obtain ⟨hmem, hval⟩ := hs e List.mem_cons_self
    obtain ⟨r', he, hr'⟩ := emit_ok global sites hc hw r hr e.site hmem
    simp only [run, emit, hval, if_true, he]
    exact ih r' hr' (fun x hx => hs x (List.mem_cons_of_mem _ hx))

/-- GENERIC: for ANY sequence of emissions drawn from a consistent, well-named table and carrying valid
label values, the modelled client (first use fixes the label set; later use with a different set, a
second registration of a formatted name, or a non-UTF-8 label value = panic) never panics. -/
theorem consistent_no_panic (global : List Name) (sites : List Site)
    (hc : Consistent sites) (hw : WellNamed global sites)
    (seq : List Emission) (hs : ∀ e ∈ seq, e.site ∈ sites ∧ e.valuesValid = true) :
    (run global Registry.empty seq).isSome = true :=
  run_ok global sites hc hw seq Registry.empty
    ⟨fun _ h => absurd h (by simp [Registry.empty]), fun _ h => absurd h (by simp [Registry.empty])⟩ hs

/-- GENERIC, with run-time label values: an admissible sequence (static / sanitised values are valid) whose
emissions at sites with a run-time label value carry valid values never panics. -/
theorem admissible_no_panic (global : List Name) (sites : List Site)
    (hc : Consistent sites) (hw : WellNamed global sites)
    (seq : List Emission) (hs : ∀ e ∈ seq, Admissible sites e)
    (hdyn : ∀ e ∈ seq, e.site.dynamicLabels ≠ [] → e.valuesValid = true) :
    (run global Registry.empty seq).isSome = true := by
  refine consistent_no_panic global sites hc hw seq fun e he => ⟨(hs e he).1, ?_⟩
  by_cases h : e.site.dynamicLabels = []
  · exact (hs e he).2 h
  · exact hdyn e he h

/-- GENERIC corollary: if moreover no site of the table has a run-time label value, every admissible
sequence is panic free (no assumption on run-time data is left). -/
theorem static_consistent_no_panic (global : List Name) (sites : List Site)
    (hc : Consistent sites) (hw : WellNamed global sites) (hst : ∀ s ∈ sites, s.dynamicLabels = [])
    (seq : List Emission) (hs : ∀ e ∈ seq, Admissible sites e) :
    (run global Registry.empty seq).isSome = true :=
  admissible_no_panic global sites hc hw seq hs fun e he hne => absurd (hst _ (hs e he).1) hne

/-! ### the instance: the emission call sites of the current tree -/

/-- every emission call site was resolved by the extractor -/
theorem metric_sites_resolved : metricSitesUnresolved = [] := by decide

/-- any two emission sites with the same formatted name have the same raw name, the same kind and the
same label-name list (finite quantifier: the regenerated table of all emission call sites) -/
theorem metric_labels_consistent : Consistent metricSites :=
  consistent_of_check metricSites (by decide +kernel)

/-- every formatted name is a valid Prometheus identifier outside the reserved families; label names
(including the wrapper's global labels) are valid, pairwise distinct within a site, and no histogram
carries an `le` label -/
theorem metric_names_valid : ∀ g ∈ metricGlobalLabels, WellNamed g metricSites := by
  have h : (metricGlobalLabels.all fun g => metricSites.all fun s => wellNamedB g s) = true := by decide +kernel
  intro g hg s hs
  exact List.all_eq_true.mp (List.all_eq_true.mp h g hg) s hs

/-- there is exactly one place where the production client is constructed -/
theorem metric_client_unique : metricGlobalLabels.length = 1 := by decide

/-- label names are valid and not duplicated within a site (restated without the global labels) -/
theorem metric_site_labels_nodup : ∀ s ∈ metricSites, s.labelNames.Nodup ∧ ∀ l ∈ s.labelNames, ValidLabel l := by
  intro s hs
  obtain ⟨g, hg⟩ : ∃ g, g ∈ metricGlobalLabels :=
    List.exists_mem_of_length_pos (by rw [metric_client_unique]; decide)
  have := metric_names_valid g hg s hs
  simp only [wellNamedB, fullLabels, Bool.and_eq_true, List.all_eq_true] at this
  exact ⟨(List.nodup_append.mp (of_decide_eq_true this.1.2)).2.1,
    fun l hl => this.1.1.2 l (List.mem_append_right _ hl)⟩

/-- the sites that pass UNSANITISED run-time data as a label value: (file, metric name, dynamic labels) -/
def dynamicSites (sites : List Site) : List (String × Name × List Name) :=
  (sites.filter (fun s => !s.dynamicLabels.isEmpty)).map (fun s => (s.file, s.name, s.dynamicLabels))

/-- the sites that pass run-time data through strings.ToValidUTF8 -/
def sanitisedSites (sites : List Site) : List (String × Name × List Name) :=
  (sites.filter (fun s => !s.sanitisedLabels.isEmpty)).map (fun s => (s.file, s.name, s.sanitisedLabels))

/-- TABLE-CHECKED FACT (finite quantifier: the regenerated table): exactly these seven sites pass unsanitised
run-time data as a label value, and in all of them it is the LEADER ADDRESS:
`leaderAddr, version, _ := l.getLeaderAndVersion()` = the election record's `HolderIdentity` as rendered by
`resourceLock.Describe()` (pkg/backend/election). Why this is not client-controlled: the record is the value
of the raw storage key `<prefix>/election`, written only by `resourceLock.Create/Update` with the peers'
own `Identity` configuration (host:port from the command line); every key a client can write through either
API is stored under the coder's magic prefix `57 fb 80 8b …` (C10), so no request can write that key.
It is therefore operator data; its validity is the hypothesis `LeaderAddressValid` below. -/
theorem metric_dynamic_label_sites : dynamicSites metricSites =
    [ ("pkg/server/service/leader/leader.go", b!"leader.election.initial.version", [b!"addr"]),
      ("pkg/server/service/leader/leader.go", b!"leader.election.lost", [b!"addr"]),
      ("pkg/server/service/revision/revision.go", b!"follower.getleader", [b!"leader"]),
      ("pkg/server/service/revision/revision.go", b!"member.round_trip", [b!"leader"]),
      ("pkg/server/service/revision/revision.go", b!"follower.get.revision.err", [b!"leader"]),
      ("pkg/server/service/revision/revision.go", b!"follower.get.revision.failed", [b!"leader"]),
      ("pkg/server/service/revision/revision.go", b!"follower.get.revision", [b!"leader"]) ] := by
  decide +kernel

/-- TABLE-CHECKED FACT: the one label that carries client bytes — the key of a Watch request, label `prefix`
of `watcherhub.events_chan.closed` (pkg/backend/watch.go) — is sanitised. -/
theorem metric_sanitised_label_sites : sanitisedSites metricSites =
    [ ("pkg/backend/watch.go", b!"watcherhub.events_chan.closed", [b!"prefix"]) ] := by
  decide +kernel

/-- every site outside pkg/server/service/{leader,revision} has only static or sanitised label values -/
theorem metric_request_paths_static : ∀ s ∈ metricSites,
    s.file ≠ "pkg/server/service/leader/leader.go" → s.file ≠ "pkg/server/service/revision/revision.go" →
    s.dynamicLabels = [] := by
  intro s hs h1 h2
  -- a site with a dynamic label is one of the seven of `metric_dynamic_label_sites`
  apply Classical.byContradiction
  intro hne
  have hmem : (s.file, s.name, s.dynamicLabels) ∈ dynamicSites metricSites :=
    List.mem_map.mpr ⟨s, List.mem_filter.mpr ⟨hs, by simpa using hne⟩, rfl⟩
  rw [metric_dynamic_label_sites] at hmem
  simp only [List.mem_cons, Prod.mk.injEq, List.not_mem_nil, or_false] at hmem
  rcases hmem with h | h | h | h | h | h | h <;> first | exact h1 h.1 | exact h2 h.1

/-- THE ENVIRONMENT HYPOTHESIS of C20's metrics part: wherever an emission carries the leader address (the
only unsanitised run-time label value, by `metric_dynamic_label_sites`), it is valid UTF-8. -/
def LeaderAddressValid (seq : List Emission) : Prop :=
  ∀ e ∈ seq, e.site.dynamicLabels ≠ [] → e.valuesValid = true

/-- C20 (metrics part): whatever the requests and the background loops do — for ANY sequence of executions of
emission call sites of the program, with ARBITRARY client data — the production metrics client does not
panic, given only that the leader address is valid UTF-8. -/
theorem metrics_never_panic (g : List Name) (hg : g ∈ metricGlobalLabels)
    (seq : List Emission) (hs : ∀ e ∈ seq, Admissible metricSites e) (hleader : LeaderAddressValid seq) :
    (run g Registry.empty seq).isSome = true :=
  admissible_no_panic g metricSites metric_labels_consistent (metric_names_valid g hg) seq hs hleader

/-- … and with NO hypothesis for every execution that does not pass through the seven leader-address sites
(all request handlers of a node that is leader, the backend, the storage wrapper, the retry loop, the scanner). -/
theorem metrics_never_panic_request_paths (g : List Name) (hg : g ∈ metricGlobalLabels)
    (seq : List Emission) (hs : ∀ e ∈ seq, Admissible metricSites e)
    (hpath : ∀ e ∈ seq, e.site.file ≠ "pkg/server/service/leader/leader.go" ∧
      e.site.file ≠ "pkg/server/service/revision/revision.go") :
    (run g Registry.empty seq).isSome = true :=
  metrics_never_panic g hg seq hs (fun e he hne =>
    absurd (metric_request_paths_static e.site (hs e he).1 (hpath e he).1 (hpath e he).2) hne)

/-- The hypothesis `LeaderAddressValid` cannot be dropped IN THE MODEL: an emission at a leader-address site
with an invalid value panics (this is what the real client does; whether such a value can occur is outside
the model — see `metric_dynamic_label_sites`). -/
theorem leader_address_hypothesis_needed :
    ∃ s ∈ metricSites, s.dynamicLabels ≠ [] ∧ run [b!"cluster"] Registry.empty [⟨s, false⟩] = none := by
  have hsome : (metricSites.find? (fun s => !s.dynamicLabels.isEmpty)).isSome = true := by decide +kernel
  obtain ⟨s, hs⟩ := Option.isSome_iff_exists.mp hsome
  refine ⟨s, List.mem_of_find?_eq_some hs, ?_, by simp [run, emit]⟩
  have := List.find?_some hs
  intro hnil
  simp [hnil] at this

/-! ### hypotheses are satisfiable / the predicate is not vacuous -/

private def exA : Site := ⟨"a.go", 1, .counter, b!"x.y", [b!"m"], [], [], false, "direct", ""⟩
private def exB : Site := ⟨"b.go", 2, .counter, b!"x.y", [b!"m", b!"n"], [], [], false, "direct", ""⟩
private def exC : Site := ⟨"c.go", 3, .gauge, b!"x_y", [b!"m"], [], [], false, "direct", ""⟩
private def ok (s : Site) : Emission := ⟨s, true⟩

example : consistentB [exA, exA] = true ∧ WellNamed [b!"cluster"] [exA, exA] := by
  constructor
  · decide
  · intro s hs; simp at hs; subst hs; decide
example : (run [b!"cluster"] Registry.empty [ok exA, ok exA]).isSome = true := by decide
/-- the same name with a different label set: the second emission panics -/
example : consistentB [exA, exB] = false ∧ run [] Registry.empty [ok exA, ok exB] = none := by decide
/-- two raw names with one formatted name (x.y / x_y), different kind: the second registration panics -/
example : consistentB [exA, exC] = false ∧ run [] Registry.empty [ok exA, ok exC] = none := by decide
example : formatName b!"watch.list_stream.push" = b!"watch_list_stream_push" := by decide
example : validPromNameB (formatName b!"1abc") = false ∧ validLabelB b!"__x" = false ∧ validLabelB b!"" = false ∧
    validLabelB b!"_x" = true := by decide

end KB.C20Metrics
