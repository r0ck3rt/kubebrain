/-
  C11 / C01 — a TiKV WRITE CONFLICT is not a failed condition (/repo 182e06c).

  Model: KB.EngineTxn (one optimistic transaction attempt of the TiKV adapter: snapshot, prewrite conflict check
  against write records AND rollback marks, the loop of `Commit`). The theorems say what the adapter's `Commit`
  guarantees now, and that it did not before:

  * `rollback_mark_is_not_a_change`   data that satisfy the batch's conditions + ANY rollback marks (and any write
                                      records) ⇒ the batch is applied, the answer is `ok` - never "condition failed"
  * `real_change_fails_condition`     data that violate a condition ⇒ the answer is the conflict of THAT condition
                                      (index, value now stored), nothing is applied; also when the change happened
                                      while the transaction was open (`real_change_in_flight_fails_condition`)
  * `old_commit_spurious`             before the repair: a rollback mark above the start timestamp, data satisfying
                                      the condition ⇒ "condition failed"
  * `retry_bounded`, `retry_second_attempt_succeeds`, `commitRetry_agrees_with_sequential`
  * `casFailed_only_if_condition_false` (ANY interference between the attempts), `condition_failed_never_reported_
    if_conditions_hold_throughout`, `persistent_conflict_is_error_and_applies_nothing` - what /repo ce077f1 adds;
    `nine_abandoned_writers_still_spurious_before_ce077f1` refutes the loop of 182e06c alone
-/
import KB.Lemmas.EngineTxn
namespace KB.C11Conflict
open KB.C11 KB.EngineTxn

/-- an abandoned writer changes no data -/
theorem abandon_data (q : Quirks) (s : TStore) (ops : List BOp) : (abandon q s ops).1.data = s.data := by
  simp only [abandon]
  split <;> rfl

/-! ### (1) a rollback mark is not a change of the key -/

/-- The conditions of the batch held when the transaction began and hold on the data now; the store may carry ANY
rollback marks (and any write records - e.g. a value that was rewritten with the same bytes): `Commit` applies the
batch and answers `ok`. At most two attempts are made. -/
theorem rollback_mark_is_not_a_change (q : Quirks) (s : TStore) (t : Txn) (ops : List BOp)
    (hwf : s.WF) (hstart : t.start ≤ s.clock)
    (hsnap : allHold t.snap ops = true) (hdata : allHold s.data ops = true) :
    (commitRetry q s t ops).2 = .ok ∧ (commitRetry q s t ops).1.data = ops.foldl effect s.data := by
  unfold commitRetry
  cases hc : writeConflict s t ops with
  | false =>
    rw [commitLoop_applies q _ _ s t ops hsnap hc]
    exact ⟨rfl, rfl⟩
  | true =>
    rw [show maxConflictRetry = 7 + 1 from rfl, commitLoop_second_applies q 7 s t ops hwf hstart hsnap hc hdata]
    exact ⟨rfl, rfl⟩

/-- the same in the words of C01's last clause: the key did not change while the request was in flight (the
snapshot IS the data) and the conditions hold - whatever rollback marks there are, the answer is never
"condition failed" -/
theorem rollback_mark_never_casFailed (q : Quirks) (s : TStore) (t : Txn) (ops : List BOp)
    (hwf : s.WF) (hstart : t.start ≤ s.clock) (hsnap : t.snap = s.data) (hdata : allHold s.data ops = true) :
    (commitRetry q s t ops).2.asResult = .ok () := by
  rw [(rollback_mark_is_not_a_change q s t ops hwf hstart (hsnap ▸ hdata) hdata).1]
  rfl

example : ∃ (s : TStore) (t : Txn) (ops : List BOp), s.WF ∧ t.start ≤ s.clock ∧ t.snap = s.data ∧
    allHold s.data ops = true ∧ writeConflict s t ops = true :=
  ⟨{ data := [([107], [1])], writes := [([107], 1)], marks := [([107], 5)], clock := 5 },
   { start := 3, snap := [([107], [1])] }, [.cas [107] [2] [1]],
   ⟨by decide, by decide⟩, by decide, rfl, by decide, by decide⟩

/-! ### (2) a real change fails the condition it violates -/

/-- The data violate a condition of the batch (the key had changed before the transaction began): the answer is the
conflict of that condition - the index and the value the sequential engine model reports for the data as they are -
and the store is exactly as before, rollback marks or not. -/
theorem real_change_fails_condition (q : Quirks) (s : TStore) (t : Txn) (ops : List BOp) (e : CommitErr)
    (hsnap : t.snap = s.data) (h : commit q s.data ops = .error e) :
    commitRetry q s t ops = (s, .failed e) :=
  commitRetry_fails q s t ops e (hsnap ▸ h)

/-- … and that error is a failed condition with its index (no bare "condition failed", no other error) on an engine
whose `Quirks` are contractual (tikv since its `fix:` commits) -/
theorem real_change_is_reported_as_condition (q : Quirks) (hq : Contractual q) (s : TStore) (t : Txn)
    (ops : List BOp) (e : CommitErr) (hsnap : t.snap = s.data) (h : commit q s.data ops = .error e) :
    ∃ idx val, commitRetry q s t ops = (s, .failed (.conflict idx val)) := by
  obtain ⟨idx, val, rfl⟩ := commit_fail_is_condition q hq s.data ops e h
  exact ⟨idx, val, real_change_fails_condition q s t ops _ hsnap h⟩

example : ∃ (s : TStore) (t : Txn) (ops : List BOp) (e : CommitErr), t.snap = s.data ∧
    commit Quirks.tikv s.data ops = .error e :=
  ⟨{ data := [([107], [9])], marks := [([107], 5)], clock := 5 }, { start := 6, snap := [([107], [9])] },
   [.cas [107] [2] [1]], .conflict (some 1) (some [9]), rfl, by decide⟩

example : Contractual Quirks.tikv := ⟨rfl, rfl⟩

/-- The change happened WHILE the transaction was open: the conditions held on its snapshot, the data now violate
one. The first attempt meets a write conflict (the changed key carries a newer write record), the batch is run again
on a fresh snapshot and answers the conflict of the violated condition; the data are untouched. -/
theorem real_change_in_flight_fails_condition (q : Quirks) (s : TStore) (t : Txn) (ops : List BOp) (e : CommitErr)
    (hv : t.ValidOn s) (hs1 : t.snap.Sorted) (hs2 : s.data.Sorted)
    (hsnap : allHold t.snap ops = true) (h : commit q s.data ops = .error e) :
    (commitRetry q s t ops).2 = .failed e ∧ (commitRetry q s t ops).1.data = s.data := by
  unfold commitRetry
  rw [show maxConflictRetry = 7 + 1 from rfl, commitLoop_changed_in_flight q 7 s t ops e hv.2 hs1 hs2 hsnap h]
  exact ⟨rfl, rfl⟩

example : ∃ (s : TStore) (t : Txn) (ops : List BOp) (e : CommitErr), t.ValidOn s ∧ t.snap.Sorted ∧ s.data.Sorted ∧
    allHold t.snap ops = true ∧ commit Quirks.tikv s.data ops = .error e :=
  ⟨{ data := [([107], [9])], writes := [([107], 1), ([107], 4)], clock := 5 }, { start := 3, snap := [([107], [1])] },
   [.cas [107] [2] [1]], .conflict (some 1) (some [9]),
   ⟨by decide, by
      intro k hk
      by_cases h : k = [107]
      · subst h; decide
      · exfalso; apply hk
        have : cmp k [107] ≠ .eq := fun hc => h (cmp_eq_iff.1 hc)
        simp only [Store.get]
        cases hc : cmp k [107] <;> simp_all⟩,
   trivial, trivial, by decide, by decide⟩

/-! ### (3) before the repair -/

/-- `Commit` before /repo 182e06c on a store whose data satisfy the condition of the compare-and-swap and whose only
blemish is the rollback mark of an abandoned transaction above the start timestamp: "condition failed". The same
call answers `ok` now. -/
theorem old_commit_spurious :
    let s : TStore := { data := [([107], [1])], writes := [([107], 1)], marks := [([107], 5)], clock := 5 }
    let t : Txn := { start := 3, snap := [([107], [1])] }
    let ops : List BOp := [.cas [107] [2] [1]]
    allHold s.data ops = true ∧ dataConflict s t ops = false ∧
    (commitOnceAsResult Quirks.tikv s t ops).2 = .error (.cond CommitErr.casFailed) ∧
    (commitOnceAsResult Quirks.tikv s t ops).1.data = s.data ∧
    (commitRetry Quirks.tikv s t ops).2 = .ok ∧
    (commitRetry Quirks.tikv s t ops).1.data = [([107], [2])] := by
  decide

/-! ### (4) the loop is bounded; without interference the second attempt settles it -/

/-- whatever the other clients do between the attempts: at most `fuel + 1` attempts -/
theorem retry_bounded (q : Quirks) (env : Env) (fuel : Nat) (s : TStore) (t : Txn) (ops : List BOp) :
    (commitLoop q env fuel s t ops).2.2 ≤ fuel + 1 :=
  commitLoop_induct q env ops (motive := fun fuel _ _ r => r.2.2 ≤ fuel + 1)
    (fun fuel _ _ _ _ => Nat.le_add_left 1 fuel) (fun fuel _ _ => Nat.le_add_left 1 fuel) (fun _ _ => Nat.le_refl 1)
    (fun _ _ _ _ ih => Nat.succ_le_succ ih) fuel s t

/-- `Commit` runs the batch at most nine times -/
theorem retry_terminates (q : Quirks) (env : Env) (s : TStore) (t : Txn) (ops : List BOp) :
    (commitLoop q env maxConflictRetry s t ops).2.2 ≤ 9 :=
  retry_bounded q env maxConflictRetry s t ops

/-- the loop gives up (with an error) only when EVERY one of its attempts met a write conflict -/
theorem persistent_conflict_only_after_all_attempts (q : Quirks) (env : Env) (fuel : Nat) (s : TStore) (t : Txn)
    (ops : List BOp) (h : (commitLoop q env fuel s t ops).2.1 = .persistentConflict) :
    (commitLoop q env fuel s t ops).2.2 = fuel + 1 :=
  (commitLoop_persistent_inv q env ops (fun _ => True) (fun _ _ _ => trivial) fuel s t trivial h).1

example : ∃ (env : Env) (s : TStore) (t : Txn) (ops : List BOp),
    (commitLoop Quirks.tikv env 2 s t ops).2.1 = .persistentConflict :=
  ⟨fun _ s => (abandon Quirks.tikv s [.put [107] [7]]).1,
   { data := [([107], [1])], writes := [([107], 1)], marks := [([107], 5)], clock := 5 },
   { start := 3, snap := [([107], [1])] }, [.cas [107] [2] [1]], by decide⟩

/-- nobody else writes while `Commit` runs: it is settled by the second attempt at the latest, whatever marks and
records the store carries and whether or not the conditions hold -/
theorem retry_second_attempt_succeeds (q : Quirks) (s : TStore) (t : Txn) (ops : List BOp)
    (hwf : s.WF) (hstart : t.start ≤ s.clock) :
    (commitLoop q Env.idle maxConflictRetry s t ops).2.2 ≤ 2 ∧
    (commitLoop q Env.idle maxConflictRetry s t ops).2.1 ≠ .writeConflict ∧
    (commitLoop q Env.idle maxConflictRetry s t ops).2.1 ≠ .persistentConflict := by
  rw [show maxConflictRetry = 7 + 1 from rfl]
  rcases commitLoop_idle_cases q 7 s t ops hwf hstart with ⟨_, _, h⟩ | ⟨_, _, h⟩ | ⟨_, _, _, h⟩ | ⟨_, _, _, _, h⟩
  · exact h ▸ ⟨Nat.le_succ 1, nofun, nofun⟩
  · exact h ▸ ⟨Nat.le_succ 1, nofun, nofun⟩
  · exact h ▸ ⟨Nat.le_refl 2, nofun, nofun⟩
  · exact h ▸ ⟨Nat.le_refl 2, nofun, nofun⟩

example : ∃ (s : TStore) (t : Txn), s.WF ∧ t.start ≤ s.clock :=
  ⟨{ marks := [([107], 5)], clock := 5 }, { start := 3, snap := [] }, ⟨by decide, by decide⟩, by decide⟩

/-- The loop of /repo 182e06c ALONE (before ce077f1) gave up after nine attempts and then still answered the bare
"condition failed": nine writers in a row that are abandoned on the same key, each between a re-begin and the
prewrite of this `Commit`, produced that answer although the key never changes. -/
theorem nine_abandoned_writers_still_spurious_before_ce077f1 :
    let s : TStore := { data := [([107], [1])], writes := [([107], 1)], marks := [([107], 5)], clock := 5 }
    let t : Txn := { start := 3, snap := [([107], [1])] }
    let ops : List BOp := [.cas [107] [2] [1]]
    let env : Env := fun _ s => (abandon Quirks.tikv s [.put [107] [7]]).1
    let r := commitLoop182 Quirks.tikv env maxConflictRetry s t ops
    allHold s.data ops = true ∧ r.2.1.asResult = .error (.cond CommitErr.casFailed) ∧ r.2.2 = 9 ∧ r.1.data = s.data := by
  decide

/-- … the same run now: an error, after nine attempts, nothing applied -/
theorem nine_abandoned_writers_now_error :
    let s : TStore := { data := [([107], [1])], writes := [([107], 1)], marks := [([107], 5)], clock := 5 }
    let t : Txn := { start := 3, snap := [([107], [1])] }
    let ops : List BOp := [.cas [107] [2] [1]]
    let env : Env := fun _ s => (abandon Quirks.tikv s [.put [107] [7]]).1
    let r := commitLoop Quirks.tikv env maxConflictRetry s t ops
    r.2.1.asResult = .error .other ∧ r.2.2 = 9 ∧ r.1.data = s.data := by
  decide

/-- … and with eight of them the ninth attempt commits -/
theorem eight_abandoned_writers_then_ok :
    let s : TStore := { data := [([107], [1])], writes := [([107], 1)], marks := [([107], 5)], clock := 5 }
    let t : Txn := { start := 3, snap := [([107], [1])] }
    let ops : List BOp := [.cas [107] [2] [1]]
    let env : Env := fun fuel s => if fuel = 0 then s else (abandon Quirks.tikv s [.put [107] [7]]).1
    let r := commitLoop Quirks.tikv env maxConflictRetry s t ops
    r.2.1 = .ok ∧ r.2.2 = 9 ∧ r.1.data = [([107], [2])] := by
  decide

/-! ### (4b) ANY interference between the attempts (/repo ce077f1) -/

/-- `Commit` never hands out a bare write conflict: a failed condition it reports is the failed step of an attempt -/
theorem loop_never_answers_writeConflict (q : Quirks) (env : Env) (fuel : Nat) (s : TStore) (t : Txn)
    (ops : List BOp) : (commitLoop q env fuel s t ops).2.1 ≠ .writeConflict :=
  commitLoop_induct q env ops (motive := fun _ _ _ r => r.2.1 ≠ .writeConflict)
    (fun _ _ _ _ _ => nofun) (fun _ _ _ => nofun) (fun _ _ => nofun) (fun _ _ _ _ ih => ih) fuel s t

/-- Whatever the other clients do between the attempts (abandoned writers, real writers - `env` is arbitrary): if
`Commit` answers a failed condition `e` (the bare `ErrCASFailed` or a `*storage.Conflict`), then `e` is the error the
steps of the batch produce on the snapshot `snap` of the attempt that answered - some condition of the batch is
FALSE on it. That snapshot is the caller's own one (first attempt) or the committed data at the moment the
answering attempt began; it is a state the data really went through: it satisfies every predicate `P` that holds of
the caller's snapshot and of the data when `Commit` was called and that every move of the others preserves. -/
theorem casFailed_only_if_condition_false (q : Quirks) (env : Env) (fuel : Nat) (s : TStore) (t : Txn)
    (ops : List BOp) (e : CommitErr) (P : Store → Prop)
    (hsnap : P t.snap) (hdata : P s.data) (henv : ∀ n s', P s'.data → P (env n s').data)
    (h : (commitLoop q env fuel s t ops).2.1.asResult = .error (.cond e)) :
    ∃ snap, P snap ∧ commit q snap ops = .error e ∧ allHold snap ops = false := by
  have hf : (commitLoop q env fuel s t ops).2.1 = .failed e := by
    have hwc := loop_never_answers_writeConflict q env fuel s t ops
    revert h hwc
    cases (commitLoop q env fuel s t ops).2.1 <;> simp [TxnRes.asResult]
  obtain ⟨snap, hp, hc⟩ := commitLoop_failed_inv q env ops P henv fuel s t hsnap hdata e hf
  refine ⟨snap, hp, hc, ?_⟩
  cases hh : allHold snap ops with
  | false => rfl
  | true =>
    rw [commit_of_allHold q snap ops hh] at hc
    cases hc

/-- C01's last clause at the adapter: the conditions of the batch hold on the caller's snapshot, on the data when
`Commit` is called, and no move of the other clients makes them false (abandoned writers never do; real writers
that keep the conditions true do not either): `Commit` NEVER answers a failed condition - it answers `ok` or the
error of a conflict that persisted. -/
theorem condition_failed_never_reported_if_conditions_hold_throughout (q : Quirks) (env : Env) (fuel : Nat)
    (s : TStore) (t : Txn) (ops : List BOp)
    (hsnap : allHold t.snap ops = true) (hdata : allHold s.data ops = true)
    (henv : ∀ n s', allHold s'.data ops = true → allHold (env n s').data ops = true) :
    (commitLoop q env fuel s t ops).2.1 = .ok ∨ (commitLoop q env fuel s t ops).2.1 = .persistentConflict := by
  cases hr : (commitLoop q env fuel s t ops).2.1 with
  | ok => exact Or.inl rfl
  | persistentConflict => exact Or.inr rfl
  | writeConflict => exact absurd hr (loop_never_answers_writeConflict q env fuel s t ops)
  | failed e =>
    obtain ⟨snap, hp, _, hfalse⟩ := casFailed_only_if_condition_false q env fuel s t ops e
      (fun d => allHold d ops = true) hsnap hdata henv (by rw [hr]; rfl)
    rw [hp] at hfalse; cases hfalse

example : ∃ (env : Env) (s : TStore) (t : Txn) (ops : List BOp), allHold t.snap ops = true ∧
    allHold s.data ops = true ∧ (∀ n s', allHold s'.data ops = true → allHold (env n s').data ops = true) :=
  ⟨fun _ s => (abandon Quirks.tikv s [.put [107] [7]]).1,
   { data := [([107], [1])], writes := [([107], 1)], marks := [([107], 5)], clock := 5 },
   { start := 3, snap := [([107], [1])] }, [.cas [107] [2] [1]], by decide, by decide,
   fun _ s' h => by rw [(abandon_data Quirks.tikv s' _)]; exact h⟩

/-- a real writer in between: the hypothesis of `casFailed_only_if_condition_false` is met by a run that ends in a
`*storage.Conflict`, and the condition IS false on the data of the answering attempt -/
example :
    let s : TStore := { data := [([107], [1])], writes := [([107], 1)], clock := 5 }
    let t : Txn := { start := 3, snap := [([107], [1])] }
    let ops : List BOp := [.cas [107] [2] [1]]
    -- before the first re-run another client really commits [107] := [9]
    let env : Env := fun _ s' => (commitOnce Quirks.tikv s'.begin.1 s'.begin.2 [.put [107] [9]]).1
    (commitLoop Quirks.tikv env maxConflictRetry
        { s with marks := [([107], 4)] } t ops).2.1.asResult = .error (.cond (.conflict (some 1) (some [9]))) := by
  decide

/-- Every attempt met a write conflict: the answer is an ERROR (not a failed condition), all `fuel + 1` attempts were
made, and this `Commit` applied nothing - the data at the end are what the other clients made of them (every
predicate that holds of the data at the start and that their moves preserve still holds; in particular the data are
UNCHANGED when the others only abandon). -/
theorem persistent_conflict_is_error_and_applies_nothing (q : Quirks) (env : Env) (fuel : Nat) (s : TStore) (t : Txn)
    (ops : List BOp) (P : Store → Prop) (hdata : P s.data) (henv : ∀ n s', P s'.data → P (env n s').data)
    (h : (commitLoop q env fuel s t ops).2.1 = .persistentConflict) :
    (commitLoop q env fuel s t ops).2.1.asResult = .error .other ∧
    (commitLoop q env fuel s t ops).2.2 = fuel + 1 ∧
    P (commitLoop q env fuel s t ops).1.data := by
  obtain ⟨hn, hp⟩ := commitLoop_persistent_inv q env ops P henv fuel s t hdata h
  exact ⟨by rw [h]; rfl, hn, hp⟩

/-- … the data are untouched when the others leave the data alone -/
theorem persistent_conflict_keeps_data (q : Quirks) (env : Env) (fuel : Nat) (s : TStore) (t : Txn) (ops : List BOp)
    (henv : ∀ n s', (env n s').data = s'.data)
    (h : (commitLoop q env fuel s t ops).2.1 = .persistentConflict) :
    (commitLoop q env fuel s t ops).1.data = s.data :=
  (persistent_conflict_is_error_and_applies_nothing q env fuel s t ops (fun d => d = s.data) rfl
    (fun n s' hs => by rw [henv n s', hs]) h).2.2

/-! ### (5) the tie to the sequential engine model -/

/-- No record and no mark of a written key above the start timestamp, snapshot = data: `Commit` is `KB.commit` - the
same answer, the same data afterwards (nothing on failure). -/
theorem commitRetry_agrees_with_sequential (q : Quirks) (s : TStore) (t : Txn) (ops : List BOp)
    (hsnap : t.snap = s.data) (hno : writeConflict s t ops = false) :
    (commitRetry q s t ops).2.asResult = seqResult (commit q s.data ops) ∧
    (∀ d, commit q s.data ops = .ok d → (commitRetry q s t ops).1.data = d) ∧
    (∀ e, commit q s.data ops = .error e → (commitRetry q s t ops).1 = s) := by
  refine commitRetry_seq_of_applies q s t ops hsnap fun hh => ?_
  unfold commitRetry
  rw [commitLoop_applies q _ _ s t ops (hsnap ▸ hh) hno]
  exact ⟨rfl, rfl⟩

/-- … and with ANY marks and records, thanks to the loop (well-formed store, snapshot = data): the answer and the
data are still those of `KB.commit`. This is the statement that was false before the repair (`old_commit_spurious`). -/
theorem commitRetry_refines_sequential (q : Quirks) (s : TStore) (t : Txn) (ops : List BOp)
    (hwf : s.WF) (hstart : t.start ≤ s.clock) (hsnap : t.snap = s.data) :
    (commitRetry q s t ops).2.asResult = seqResult (commit q s.data ops) ∧
    (∀ d, commit q s.data ops = .ok d → (commitRetry q s t ops).1.data = d) ∧
    (∀ e, commit q s.data ops = .error e → (commitRetry q s t ops).1 = s) := by
  exact commitRetry_seq_of_applies q s t ops hsnap fun hh =>
    rollback_mark_is_not_a_change q s t ops hwf hstart (hsnap ▸ hh) hh

example : ∃ (s : TStore) (t : Txn) (ops : List BOp), t.snap = s.data ∧ writeConflict s t ops = false :=
  ⟨{ data := [([107], [1])], writes := [([107], 1)], marks := [([107], 2)], clock := 5 },
   { start := 3, snap := [([107], [1])] }, [.cas [107] [2] [1]], rfl, by decide⟩

/-- An abandoned writer changes no data and leaves a well-formed store: what it leaves are marks. -/
theorem abandon_changes_no_data (q : Quirks) (s : TStore) (ops : List BOp) (hwf : s.WF) :
    (abandon q s ops).1.data = s.data ∧ (abandon q s ops).1.WF := by
  refine ⟨abandon_data q s ops, ?_⟩
  simp only [abandon]
  split
  · exact wf_begin hwf
  · exact wf_rolledBack (wf_begin hwf) (Nat.le_refl _) ops

end KB.C11Conflict
