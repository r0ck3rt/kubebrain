/-
  C13 — Range results do not depend on how the engine partitions the key space.
  Model: KB.Engine.partitions (engine borders), KB.Scan.sortParts / adjustBorders
  (scanner.adjustPartitionsBorders), KB.Backend.scanParts / doStream (one worker per partition,
  merge in partition order; forked stream receivers).
-/
import KB.Lemmas.Partition
import KB.Lemmas.Total
namespace KB.C13
open KB Generated

def readRevOf (R committed : Nat) : Nat := if R == 0 then committed else R

/-- A border an engine that splits at existing keys can produce: a well-formed internal key
(any raw key over the alphabet, any revision). -/
def GoodBorder (b : Bytes) : Prop := ∃ k r, Alphabet k ∧ r < 2 ^ 64 ∧ b = encode k r

/-- The worker loop distributes over a split of the records at a key boundary. -/
theorem scan_append (R : Nat) (l1 l2 : List Rec) (h : ∀ x ∈ l1, ∀ y ∈ l2, x.key ≠ y.key) :
    scanRecs R (l1 ++ l2) = scanRecs R l1 ++ scanRecs R l2 :=
  scanRecs_append R l1 l2 h

/-- Border adjustment is TOTAL (/repo 5ace897: `Decode` reports a border too short to be an internal key instead
of indexing out of range): whatever partitions the engine hands over — borders that are client-supplied bytes
clipped into a region included — there is an adjusted partition list; the hypothesis `adjustBorders none ps =
some out` of the theorems below is always satisfiable. -/
theorem adjustment_total (ps : List (Bytes × Bytes)) : ∃ out, adjustBorders none ps = some out :=
  adjustBorders_total none ps

/-- ... hence a partitioned scan never panics on account of its borders or of the keys it meets: any store, any
start and end bytes, any region borders (`KB.C20Requests.stream_with_any_borders_never_panics` for the streamed
range). -/
theorem partitioned_scan_never_panics (c : Cfg) (st : Store) (start stop : Bytes) (rev : Nat) :
    (∃ outs, scanParts c st start stop rev = .ok outs) ∨ (∃ e, scanParts c st start stop rev = .error e) :=
  ScanRes.notPanic_iff.mp (scanParts_notPanic c st start stop rev)

/-- After adjustment every interior border that decodes is an index-record position. -/
theorem adjusted_borders_are_index_positions (ps : List (Bytes × Bytes)) (out : List (Bytes × Bytes))
    (h : adjustBorders none ps = some out) :
    ∀ i, i + 1 < out.length → ∀ k r, decode (out[i]!).2 = .ok k r → r = 0 := by
  cases (adjustBorders_eq none ps).symm.trans h
  exact (adjusted_spec none ps).2.2.2.2

/-- Adjustment keeps the partitions contiguous (each start is the previous end) and keeps the
outer bounds. -/
theorem adjusted_contiguous (ps : List (Bytes × Bytes)) (out : List (Bytes × Bytes))
    (h : adjustBorders none ps = some out) :
    out.length = ps.length ∧ (∀ i, i + 1 < out.length → (out[i + 1]!).1 = (out[i]!).2) ∧
    (out.head?.map (·.1) = ps.head?.map (·.1)) ∧ (out.getLast?.map (·.2) = ps.getLast?.map (·.2)) := by
  cases (adjustBorders_eq none ps).symm.trans h
  obtain ⟨h1, h2, h3, h4, _⟩ := adjusted_spec none ps
  exact ⟨h1, h2, by simpa using h3, h4⟩

/-- Main theorem: for any placement of (well-formed) engine borders — between keys, on an index
record, in the middle of one key's versions — the concatenation in partition order of the
per-partition worker outputs is the unpartitioned result. -/
theorem partitioned_eq_whole (c : Cfg) {recs : List Rec} (hs : SortedRecs recs)
    (hk : ∀ r ∈ recs, Alphabet r.key ∧ r.rev < 2 ^ 64)
    (splits : List Bytes) (hsorted : splits.Pairwise (fun x y => cmp x y = .lt))
    (hgood : ∀ b ∈ splits, GoodBorder b)
    (a b : Bytes) (ha : Alphabet a) (hb : Alphabet b) (hab : cmp a b = .lt) (R : Nat) :
    ∃ outs, scanParts { c with splits := splits } (encodeStore recs) (encode a 0) (encode b 0) R = .ok outs ∧
      outs.flatten = scanRecs R (recs.filter (fun r => ble a r.key && blt r.key b)) := by
  rw [← encodeBound_of_alphabet ha, ← encodeBound_of_alphabet hb]
  exact scanParts_general c hs hk splits hsorted hgood hab R

/-- Streamed range: every data batch names the revision it was read at, and there is exactly one
terminator, last, carrying the error if any (by construction of `doStream`; the content is that
`doStream` is what the harness observes of ListByStream — see the correspondence suite). -/
theorem stream_shape (c : Cfg) (s : BState) (start stop : Bytes) (R : Nat) (res : StreamRes)
    (h : doStream c s start stop R = .ok res) :
    (∀ b ∈ res.batches, b.1 = readRevOf R s.committed) ∧ res.endHdr = readRevOf R s.committed := by
  unfold doStream at h
  simp only at h
  split at h
  · cases h
    refine ⟨?_, rfl⟩
    intro b hb
    simp only [List.mem_map] at hb
    obtain ⟨_, _, rfl⟩ := hb
    rfl
  · cases h
    exact ⟨by simp, rfl⟩
  · cases h

end KB.C13
