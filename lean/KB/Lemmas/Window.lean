/-
  Helper lemmas for KB.Props.C04Window: requests refused by `tso.Deal` (/repo 624b477) hold no revision.
-/
import KB.Lemmas.SysLag
namespace KB.Window
open KB.SysStore

section fields
variable (g : G) (c : Client) (w : WEvent) (res : WriteRes) (rev : Nat)
@[simp] theorem G.setClient_refused : (g.setClient c).refused = g.refused := rfl
@[simp] theorem G.finish_refused : (g.finish c res rev).refused = g.refused := rfl
@[simp] theorem G.notify_refused : (g.notify w).refused = g.refused := by unfold G.notify; split <;> rfl
end fields

theorem afterCommit_refused (g : G) (r : CommitRes) (st : Store) (f : Fault) (key : Bytes) (rev : Nat)
    (val : Option Bytes) (exp : Expect) : (afterCommit g r st f key rev val exp).refused = g.refused := by
  unfold afterCommit; split <;> rfl

theorem refusal_cases (c : Client) : refusal c = .error .other ∨ refusal c = .notFound 0 := by
  unfold refusal
  split
  · exact .inr rfl
  · exact .inl rfl

/-- every entry of the log of refused requests is without a revision -/
def NoRev (g : G) : Prop := ∀ d ∈ g.refused, d.rev = 0

/-- only a refusal touches that log -/
theorem noRev_moves : Moves NoRev where
  deal h := h
  notify w h := by unfold NoRev; rw [G.notify_refused]; exact h
  set _ h := h
  finish _ _ _ h := h

theorem NoRev.act {g : G} (h : NoRev g) (a : Action) : NoRev (act g a) := by
  have hread : ∀ g, NoRev g → NoRev (KB.stepRetryRead g) := fun g h => by
    apply stepRetryRead_cases <;> intros <;> exact h
  have hcommit : ∀ g f, NoRev g → NoRev (KB.stepRetryCommit g f) := fun g f h => by
    apply stepRetryCommit_cases
    · intro _; exact h
    · intros; unfold NoRev; rw [G.notify_refused, afterCommit_refused]; exact h
  refine act_cases g a h (fun _ _ _ _ => h) (fun c f _ => ?_) ?_ (fun f => hcommit _ f (hread g h)) (hread g h)
    (fun f => hcommit g f h)
  · refine noRev_moves.stepClient h c f (fun _ _ => ?_) fun d hd => ?_
    · unfold NoRev; rw [afterCommit_refused]; exact h
    · rcases List.mem_append.mp hd with hd | hd
      · exact h d hd
      · rw [List.mem_singleton.mp hd]
  · unfold KB.stepSeq; split <;> exact h

theorem run_refused {g : G} (h : ∀ d ∈ g.refused, d.rev = 0) (s : List Action) : ∀ d ∈ (run g s).refused, d.rev = 0 := by
  induction s generalizing g with
  | nil => exact h
  | cons a s ih => exact ih (NoRev.act h a)

end KB.Window
