/- KB.EngineTxn (one optimistic transaction attempt of the TiKV adapter and the loop of its `Commit`): the three
outcomes of an attempt, a transaction begun on a well-formed store, the loop as an induction principle. -/
import KB.EngineTxn
import KB.Props.C11
namespace KB.EngineTxn
open KB.C11

theorem foldl_mutate_eq_effect (ops : List BOp) (s : Store) : ops.foldl BOp.mutate s = ops.foldl effect s := by
  have : BOp.mutate = effect := by
    funext s op
    cases op <;> rfl
  rw [this]

def rolledBack (s : TStore) (t : Txn) (ops : List BOp) : TStore :=
  { s with marks := s.marks ++ ops.map (fun op => (op.key, t.start)) }

def applied (s : TStore) (ops : List BOp) : TStore :=
  { data := ops.foldl effect s.data
    writes := s.writes ++ ops.map (fun op => (op.key, s.clock + 1))
    marks := s.marks
    clock := s.clock + 1 }

theorem wf_rolledBack {s : TStore} {t : Txn} (hwf : s.WF) (hstart : t.start ≤ s.clock) (ops : List BOp) :
    (rolledBack s t ops).WF := by
  refine ⟨hwf.1, fun r hr => ?_⟩
  simp only [rolledBack, List.mem_append, List.mem_map] at hr
  rcases hr with hr | ⟨op, _, rfl⟩
  · exact hwf.2 r hr
  · exact hstart

theorem wf_begin {s : TStore} (hwf : s.WF) : s.begin.1.WF :=
  ⟨fun r hr => Nat.le_succ_of_le (hwf.1 r hr), fun r hr => Nat.le_succ_of_le (hwf.2 r hr)⟩

/-! ### one attempt -/

theorem commitOnce_failed (q : Quirks) (s : TStore) (t : Txn) (ops : List BOp) (e : CommitErr)
    (h : commit q t.snap ops = .error e) : commitOnce q s t ops = (s, .failed e) := by
  simp only [commitOnce, h]

theorem commitOnce_conflict (q : Quirks) (s : TStore) (t : Txn) (ops : List BOp)
    (h : allHold t.snap ops = true) (hc : writeConflict s t ops = true) :
    commitOnce q s t ops = (rolledBack s t ops, .writeConflict) := by
  simp only [commitOnce, commit_of_allHold q _ _ h, hc, if_true, rolledBack]

theorem commitOnce_ok (q : Quirks) (s : TStore) (t : Txn) (ops : List BOp)
    (h : allHold t.snap ops = true) (hc : writeConflict s t ops = false) :
    commitOnce q s t ops = (applied s ops, .ok) := by
  simp only [commitOnce, commit_of_allHold q _ _ h, hc, foldl_mutate_eq_effect, applied]
  rfl

theorem commitOnce_cases (q : Quirks) (s : TStore) (t : Txn) (ops : List BOp) :
    (∃ e, commit q t.snap ops = .error e ∧ commitOnce q s t ops = (s, .failed e)) ∨
    allHold t.snap ops = true ∧
      (writeConflict s t ops = true ∧ commitOnce q s t ops = (rolledBack s t ops, .writeConflict) ∨
       writeConflict s t ops = false ∧ commitOnce q s t ops = (applied s ops, .ok)) := by
  cases ha : allHold t.snap ops with
  | false =>
    obtain ⟨e, he, _⟩ := commit_of_not_allHold q t.snap ops ha
    exact .inl ⟨e, he, commitOnce_failed q s t ops e he⟩
  | true =>
    cases hc : writeConflict s t ops with
    | true => exact .inr ⟨rfl, .inl ⟨rfl, commitOnce_conflict q s t ops ha hc⟩⟩
    | false => exact .inr ⟨rfl, .inr ⟨rfl, commitOnce_ok q s t ops ha hc⟩⟩

/-! ### a transaction begun now -/

theorem newerRec_false_of_le (l : List (Bytes × Nat)) (c : Nat) (h : ∀ r ∈ l, r.2 ≤ c) (k : Bytes) :
    newerRec l (c + 1) k = false := by
  simp only [newerRec, List.any_eq_false, Bool.and_eq_true, beq_iff_eq, decide_eq_true_eq, not_and]
  intro r hr _
  have := h r hr
  omega

theorem fresh_no_conflict (s : TStore) (hwf : s.WF) (ops : List BOp) :
    writeConflict s.begin.1 s.begin.2 ops = false := by
  simp only [writeConflict, List.any_eq_false, Bool.or_eq_true, not_or, TStore.begin, Bool.not_eq_true]
  exact fun op _ => ⟨newerRec_false_of_le _ _ hwf.1 _, newerRec_false_of_le _ _ hwf.2 _⟩

/-! ### the loop -/

theorem commitLoop_fails (q : Quirks) (env : Env) (fuel : Nat) (s : TStore) (t : Txn) (ops : List BOp) (e : CommitErr)
    (h : commit q t.snap ops = .error e) : commitLoop q env fuel s t ops = (s, .failed e, 1) := by
  cases fuel <;> simp [commitLoop, commitOnce_failed q s t ops e h]

theorem commitLoop_applies (q : Quirks) (env : Env) (fuel : Nat) (s : TStore) (t : Txn) (ops : List BOp)
    (h : allHold t.snap ops = true) (hc : writeConflict s t ops = false) :
    commitLoop q env fuel s t ops = (applied s ops, .ok, 1) := by
  cases fuel <;> simp [commitLoop, commitOnce_ok q s t ops h hc]

/-- `.persistentConflict` is the error of /repo ce077f1 -/
theorem commitLoop_gives_up (q : Quirks) (env : Env) (s : TStore) (t : Txn) (ops : List BOp)
    (h : allHold t.snap ops = true) (hc : writeConflict s t ops = true) :
    commitLoop q env 0 s t ops = (rolledBack s t ops, .persistentConflict, 1) := by
  simp only [commitLoop, commitOnce_conflict q s t ops h hc, if_true]

theorem commitLoop_again (q : Quirks) (env : Env) (fuel : Nat) (s : TStore) (t : Txn) (ops : List BOp)
    (h : allHold t.snap ops = true) (hc : writeConflict s t ops = true) :
    commitLoop q env (fuel + 1) s t ops =
      ((commitLoop q env fuel (env fuel (rolledBack s t ops).begin.1) (rolledBack s t ops).begin.2 ops).1,
       (commitLoop q env fuel (env fuel (rolledBack s t ops).begin.1) (rolledBack s t ops).begin.2 ops).2.1,
       (commitLoop q env fuel (env fuel (rolledBack s t ops).begin.1) (rolledBack s t ops).begin.2 ops).2.2 + 1) := by
  simp only [commitLoop, commitOnce_conflict q s t ops h hc, if_true]

/-- `he` is about `s.data`: nobody else moves, so the second attempt reads the data as they are -/
theorem commitLoop_second_fails (q : Quirks) (fuel : Nat) (s : TStore) (t : Txn) (ops : List BOp) (e : CommitErr)
    (h : allHold t.snap ops = true) (hc : writeConflict s t ops = true) (he : commit q s.data ops = .error e) :
    commitLoop q Env.idle (fuel + 1) s t ops = ((rolledBack s t ops).begin.1, .failed e, 2) := by
  rw [commitLoop_again q _ fuel s t ops h hc, Env.idle, commitLoop_fails q _ fuel _ _ ops e he]

theorem commitLoop_second_applies (q : Quirks) (fuel : Nat) (s : TStore) (t : Txn) (ops : List BOp)
    (hwf : s.WF) (hstart : t.start ≤ s.clock) (h : allHold t.snap ops = true) (hc : writeConflict s t ops = true)
    (hd : allHold s.data ops = true) :
    commitLoop q Env.idle (fuel + 1) s t ops = (applied (rolledBack s t ops).begin.1 ops, .ok, 2) := by
  rw [commitLoop_again q _ fuel s t ops h hc, Env.idle,
    commitLoop_applies q _ fuel _ _ ops hd (fresh_no_conflict _ (wf_rolledBack hwf hstart ops) ops)]

theorem commitLoop_idle_cases (q : Quirks) (fuel : Nat) (s : TStore) (t : Txn) (ops : List BOp)
    (hwf : s.WF) (hstart : t.start ≤ s.clock) :
    (∃ e, commit q t.snap ops = .error e ∧ commitLoop q Env.idle (fuel + 1) s t ops = (s, .failed e, 1)) ∨
    (allHold t.snap ops = true ∧ writeConflict s t ops = false ∧
      commitLoop q Env.idle (fuel + 1) s t ops = (applied s ops, .ok, 1)) ∨
    (allHold t.snap ops = true ∧ writeConflict s t ops = true ∧ allHold s.data ops = true ∧
      commitLoop q Env.idle (fuel + 1) s t ops = (applied (rolledBack s t ops).begin.1 ops, .ok, 2)) ∨
    (allHold t.snap ops = true ∧ writeConflict s t ops = true ∧ ∃ e, commit q s.data ops = .error e ∧
      commitLoop q Env.idle (fuel + 1) s t ops = ((rolledBack s t ops).begin.1, .failed e, 2)) := by
  rcases commitOnce_cases q s t ops with ⟨e, he, _⟩ | ⟨ha, ⟨hc, _⟩ | ⟨hc, _⟩⟩
  · exact .inl ⟨e, he, commitLoop_fails q _ _ s t ops e he⟩
  · cases hd : allHold s.data ops with
    | true => exact .inr (.inr (.inl ⟨ha, hc, rfl, commitLoop_second_applies q fuel s t ops hwf hstart ha hc hd⟩))
    | false =>
      obtain ⟨e, he, _⟩ := commit_of_not_allHold q s.data ops hd
      exact .inr (.inr (.inr ⟨ha, hc, e, he, commitLoop_second_fails q fuel s t ops e ha hc he⟩))
  · exact .inr (.inl ⟨ha, hc, commitLoop_applies q _ _ s t ops ha hc⟩)

theorem commitLoop_induct (q : Quirks) (env : Env) (ops : List BOp)
    {motive : Nat → TStore → Txn → TStore × TxnRes × Nat → Prop}
    (failed : ∀ fuel s t e, commit q t.snap ops = .error e → motive fuel s t (s, .failed e, 1))
    (applies : ∀ fuel s t, motive fuel s t (applied s ops, .ok, 1))
    (givesUp : ∀ s t, motive 0 s t (rolledBack s t ops, .persistentConflict, 1))
    (again : ∀ fuel s t r, motive fuel (env fuel (rolledBack s t ops).begin.1) (rolledBack s t ops).begin.2 r →
      motive (fuel + 1) s t (r.1, r.2.1, r.2.2 + 1)) :
    ∀ fuel s t, motive fuel s t (commitLoop q env fuel s t ops) := by
  intro fuel
  induction fuel with
  | zero =>
    intro s t
    rcases commitOnce_cases q s t ops with ⟨e, he, _⟩ | ⟨ha, ⟨hc, _⟩ | ⟨hc, _⟩⟩
    · rw [commitLoop_fails q env 0 s t ops e he]
      exact failed 0 s t e he
    · rw [commitLoop_gives_up q env s t ops ha hc]
      exact givesUp s t
    · rw [commitLoop_applies q env 0 s t ops ha hc]
      exact applies 0 s t
  | succ n ih =>
    intro s t
    rcases commitOnce_cases q s t ops with ⟨e, he, _⟩ | ⟨ha, ⟨hc, _⟩ | ⟨hc, _⟩⟩
    · rw [commitLoop_fails q env _ s t ops e he]
      exact failed _ s t e he
    · rw [commitLoop_again q env n s t ops ha hc]
      exact again n s t _ (ih _ _)
    · rw [commitLoop_applies q env _ s t ops ha hc]
      exact applies _ s t

/-- `P` ranges over what holds of the caller's snapshot and of the data and is preserved by the other clients: the
snapshot of the attempt that failed is a state the data really went through. -/
theorem commitLoop_failed_inv (q : Quirks) (env : Env) (ops : List BOp) (P : Store → Prop)
    (hE : ∀ n s', P s'.data → P (env n s').data) :
    ∀ (fuel : Nat) (s : TStore) (t : Txn), P t.snap → P s.data → ∀ e,
      (commitLoop q env fuel s t ops).2.1 = .failed e → ∃ snap, P snap ∧ commit q snap ops = .error e := by
  refine commitLoop_induct q env ops (motive := fun _ s t r => P t.snap → P s.data → ∀ e,
    r.2.1 = .failed e → ∃ snap, P snap ∧ commit q snap ops = .error e) ?_ ?_ ?_ ?_
  · intro _ s t e he hpt _ e' h
    cases h
    exact ⟨t.snap, hpt, he⟩
  · intro _ _ _ _ _ _ h
    cases h
  · intro _ _ _ _ _ h
    cases h
  · intro n s t r ih _ hps e h
    exact ih hps (hE n _ hps) e h

theorem commitLoop_persistent_inv (q : Quirks) (env : Env) (ops : List BOp) (P : Store → Prop)
    (hE : ∀ n s', P s'.data → P (env n s').data) :
    ∀ (fuel : Nat) (s : TStore) (t : Txn), P s.data →
      (commitLoop q env fuel s t ops).2.1 = .persistentConflict →
      (commitLoop q env fuel s t ops).2.2 = fuel + 1 ∧ P (commitLoop q env fuel s t ops).1.data := by
  refine commitLoop_induct q env ops (motive := fun fuel s _ r => P s.data →
    r.2.1 = .persistentConflict → r.2.2 = fuel + 1 ∧ P r.1.data) ?_ ?_ ?_ ?_
  · intro _ _ _ _ _ _ h
    cases h
  · intro _ _ _ _ h
    cases h
  · intro _ _ hps _
    exact ⟨rfl, hps⟩
  · intro n s t r ih hps h
    obtain ⟨h1, h2⟩ := ih (hE n _ hps) h
    exact ⟨congrArg (· + 1) h1, h2⟩

/-! ### `commitRetry` and the sequential engine model -/

theorem commitRetry_fails (q : Quirks) (s : TStore) (t : Txn) (ops : List BOp) (e : CommitErr)
    (h : commit q t.snap ops = .error e) : commitRetry q s t ops = (s, .failed e) := by
  unfold commitRetry
  rw [commitLoop_fails q _ _ s t ops e h]

/-- only the applying case (`happ`) is left to the caller: a batch whose conditions fail is answered by the first attempt -/
theorem commitRetry_seq_of_applies (q : Quirks) (s : TStore) (t : Txn) (ops : List BOp) (hsnap : t.snap = s.data)
    (happ : allHold s.data ops = true →
      (commitRetry q s t ops).2 = .ok ∧ (commitRetry q s t ops).1.data = ops.foldl effect s.data) :
    (commitRetry q s t ops).2.asResult = seqResult (commit q s.data ops) ∧
    (∀ d, commit q s.data ops = .ok d → (commitRetry q s t ops).1.data = d) ∧
    (∀ e, commit q s.data ops = .error e → (commitRetry q s t ops).1 = s) := by
  cases hh : allHold s.data ops with
  | false =>
    obtain ⟨e, he, _⟩ := commit_of_not_allHold q s.data ops hh
    rw [he, commitRetry_fails q s t ops e (hsnap ▸ he)]
    exact ⟨rfl, nofun, fun _ _ => rfl⟩
  | true =>
    obtain ⟨hok, hd⟩ := happ hh
    rw [commit_of_allHold q s.data ops hh, hok, hd]
    exact ⟨rfl, fun d h => Except.ok.inj h, nofun⟩

/-! ### a batch only looks at the keys it writes -/

theorem condHolds_congr {s1 s2 : Store} (op : BOp) (h : s1.get op.key = s2.get op.key) :
    condHolds s1 op = condHolds s2 op := by
  cases op <;> simp only [condHolds, BOp.key] at h ⊢ <;> rw [h]

theorem get_effect_congr {s1 s2 : Store} (h1 : s1.Sorted) (h2 : s2.Sorted) (op : BOp) {k : Bytes}
    (h : s1.get k = s2.get k) : (effect s1 op).get k = (effect s2 op).get k := by
  cases op <;> simp only [effect, Store.get_put_any, Store.get_erase _ h1, Store.get_erase _ h2, h]

theorem allHold_congr (ops : List BOp) :
    ∀ s1 s2 : Store, s1.Sorted → s2.Sorted → (∀ op ∈ ops, s1.get op.key = s2.get op.key) →
      allHold s1 ops = allHold s2 ops := by
  induction ops with
  | nil => intros; rfl
  | cons op ops ih =>
    intro s1 s2 h1 h2 hag
    simp only [allHold]
    rw [condHolds_congr op (hag op (List.mem_cons_self ..)),
      ih _ _ (effect_sorted s1 h1 op) (effect_sorted s2 h2 op) fun op' hop' =>
        get_effect_congr h1 h2 op (hag op' (List.mem_cons_of_mem _ hop'))]

theorem exists_changed_key (q : Quirks) (snap data : Store) (h1 : snap.Sorted) (h2 : data.Sorted)
    (ops : List BOp) (hs : allHold snap ops = true) (e : CommitErr) (hd : commit q data ops = .error e) :
    ∃ op ∈ ops, snap.get op.key ≠ data.get op.key := by
  apply Classical.byContradiction
  intro hno
  have hag : ∀ op ∈ ops, snap.get op.key = data.get op.key :=
    fun op hop => Classical.byContradiction fun hne => hno ⟨op, hop, hne⟩
  rw [commit_of_allHold q data ops (allHold_congr ops snap data h1 h2 hag ▸ hs)] at hd
  cases hd

theorem commitLoop_changed_in_flight (q : Quirks) (fuel : Nat) (s : TStore) (t : Txn) (ops : List BOp) (e : CommitErr)
    (hv : ∀ k, t.snap.get k ≠ s.data.get k → newerRec s.writes t.start k = true)
    (hs1 : t.snap.Sorted) (hs2 : s.data.Sorted)
    (hsnap : allHold t.snap ops = true) (h : commit q s.data ops = .error e) :
    commitLoop q Env.idle (fuel + 1) s t ops = ((rolledBack s t ops).begin.1, .failed e, 2) := by
  obtain ⟨op, hop, hne⟩ := exists_changed_key q t.snap s.data hs1 hs2 ops hsnap e h
  have hc : writeConflict s t ops = true := by
    simp only [writeConflict, List.any_eq_true, Bool.or_eq_true]
    exact ⟨op, hop, Or.inl (hv op.key hne)⟩
  exact commitLoop_second_fails q fuel s t ops e hsnap hc h

end KB.EngineTxn
