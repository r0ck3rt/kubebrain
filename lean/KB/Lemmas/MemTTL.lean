/- KB.MemTTL (the ttl timers of the in-memory engine): what a key looks like (`view`: its value and the deadline
the store remembers for it) after a write, a batch, a timer; the invariant; the fate of a key nobody writes again. -/
import KB.MemTTL
import KB.Props.C11
namespace KB.MemTTL

/-! ### association lists -/

theorem alookup_aerase {α : Type} (l : List (Bytes × α)) (k k' : Bytes) :
    alookup (aerase l k') k = if k = k' then none else alookup l k := by
  induction l with
  | nil => simp [aerase, alookup]
  | cons x rest ih =>
    obtain ⟨k0, v0⟩ := x
    simp only [aerase, List.filter_cons] at ih ⊢
    by_cases h0 : k0 = k' <;> by_cases h1 : k0 = k <;> simp_all [alookup]

theorem alookup_aset {α : Type} (l : List (Bytes × α)) (k k' : Bytes) (v : α) :
    alookup (aset l k' v) k = if k = k' then some v else alookup l k := by
  simp only [aset, alookup, alookup_aerase, eq_comm (a := k')]
  split <;> rfl

/-! ### the cache of a batch -/

theorem lastWrite_eq_none_iff (ws : List (Bytes × Write)) (k : Bytes) :
    lastWrite ws k = none ↔ ws.any (fun kw => kw.1 == k) = false := by
  induction ws with
  | nil => simp [lastWrite]
  | cons x rest ih =>
    obtain ⟨k0, w0⟩ := x
    simp only [lastWrite, List.any_cons, Bool.or_eq_false_iff, ← ih, beq_eq_false_iff_ne]
    cases lastWrite rest k <;> simp

theorem lastWrite_cons_of_any {k0 : Bytes} {rest : List (Bytes × Write)} (w0 : Write) (k : Bytes)
    (h : rest.any (fun kw => kw.1 == k0) = true) : lastWrite ((k0, w0) :: rest) k = lastWrite rest k := by
  simp only [lastWrite]
  cases hl : lastWrite rest k with
  | some w' => rfl
  | none =>
    have : k0 ≠ k := fun e => by simp [(lastWrite_eq_none_iff rest k0).1 (e ▸ hl)] at h
    simp [this]

theorem lastWrite_cons_of_not_any {k0 : Bytes} {rest : List (Bytes × Write)} (w0 : Write) (k : Bytes)
    (h : rest.any (fun kw => kw.1 == k0) = false) :
    lastWrite ((k0, w0) :: rest) k = if k0 = k then some w0 else lastWrite rest k := by
  simp only [lastWrite]
  by_cases h0 : k0 = k
  · simp [← h0, (lastWrite_eq_none_iff rest k0).2 h]
  · cases lastWrite rest k <;> simp [h0]

theorem alookup_mkCache (ws : List (Bytes × Write)) (k : Bytes) : alookup (mkCache ws) k = lastWrite ws k := by
  induction ws with
  | nil => rfl
  | cons x rest ih =>
    obtain ⟨k0, w0⟩ := x
    cases hany : rest.any (fun kw => kw.1 == k0) with
    | true => simp only [mkCache, hany, if_true, ih, lastWrite_cons_of_any w0 k hany]
    | false =>
      simp only [mkCache, hany, Bool.false_eq_true, if_false, alookup, ih, lastWrite_cons_of_not_any w0 k hany]

theorem lastWrite_mkCache (ws : List (Bytes × Write)) (k : Bytes) : lastWrite (mkCache ws) k = lastWrite ws k := by
  induction ws with
  | nil => rfl
  | cons x rest ih =>
    obtain ⟨k0, w0⟩ := x
    cases hany : rest.any (fun kw => kw.1 == k0) with
    | true => simp only [mkCache, hany, if_true, ih, lastWrite_cons_of_any w0 k hany]
    | false => simp only [mkCache, hany, Bool.false_eq_true, if_false, lastWrite, ih]

/-! ### what one key looks like: its value and the deadline the store remembers for it -/

def view (s : State) (k : Bytes) : Option Bytes × Option Nat := (s.store.get k, alookup s.expireAt k)

def effectOf (now : Nat) : Write → Option Bytes × Option Nat
  | .del => (none, none)
  | .put v ttl => (some v, if ttl = 0 then none else some (now + ttl))

@[simp] theorem applyWrite_now (s : State) (kw : Bytes × Write) : (applyWrite s kw).now = s.now := by
  obtain ⟨k, w⟩ := kw
  cases w with
  | del => rfl
  | put v ttl =>
    simp only [applyWrite]
    split <;> rfl

theorem applyWrite_sorted (s : State) (kw : Bytes × Write) (hs : s.store.Sorted) : (applyWrite s kw).store.Sorted := by
  obtain ⟨k, w⟩ := kw
  cases w with
  | del => exact Store.erase_sorted _ hs _
  | put v ttl =>
    simp only [applyWrite]
    split <;> exact Store.put_sorted _ hs _ _

theorem view_applyWrite (s : State) (hs : s.store.Sorted) (k' : Bytes) (w : Write) (k : Bytes) :
    view (applyWrite s (k', w)) k = if k = k' then effectOf s.now w else view s k := by
  cases w with
  | del => by_cases h : k = k' <;> simp [applyWrite, view, effectOf, Store.get_erase _ hs, alookup_aerase, h]
  | put v ttl =>
    by_cases ht : ttl = 0 <;> by_cases h : k = k' <;>
      simp [applyWrite, view, effectOf, Store.get_put_any, alookup_aerase, alookup_aset, ht, h]

theorem applyWrite_timers_mono (s : State) (kw : Bytes × Write) {x : Bytes × Nat} (hx : x ∈ s.timers) :
    x ∈ (applyWrite s kw).timers := by
  obtain ⟨k, w⟩ := kw
  cases w with
  | del => exact hx
  | put v ttl =>
    simp only [applyWrite]
    split
    · exact hx
    · exact List.mem_append_left _ hx

theorem foldl_applyWrite_now (s : State) (c : List (Bytes × Write)) : (c.foldl applyWrite s).now = s.now := by
  induction c generalizing s with
  | nil => rfl
  | cons x rest ih => simp [List.foldl_cons, ih]

@[simp] theorem commitWrites_now (s : State) (ws : List (Bytes × Write)) : (commitWrites s ws).now = s.now :=
  foldl_applyWrite_now s _

theorem view_foldl_applyWrite (s : State) (hs : s.store.Sorted) (c : List (Bytes × Write)) (k : Bytes) :
    view (c.foldl applyWrite s) k = match lastWrite c k with
      | none => view s k
      | some w => effectOf s.now w := by
  induction c generalizing s with
  | nil => rfl
  | cons x rest ih =>
    obtain ⟨k0, w0⟩ := x
    rw [List.foldl_cons, ih _ (applyWrite_sorted s _ hs), applyWrite_now]
    simp only [lastWrite]
    cases lastWrite rest k with
    | some w' => rfl
    | none =>
      rw [view_applyWrite s hs]
      by_cases h0 : k0 = k
      · simp [h0]
      · simp [h0, Ne.symm h0]

theorem view_commitWrites (s : State) (hs : s.store.Sorted) (ws : List (Bytes × Write)) (k : Bytes) :
    view (commitWrites s ws) k = match lastWrite ws k with
      | none => view s k
      | some w => effectOf s.now w := by
  rw [commitWrites, view_foldl_applyWrite s hs, lastWrite_mkCache]

theorem commitWrites_timers_mono (s : State) (ws : List (Bytes × Write)) {x : Bytes × Nat} (hx : x ∈ s.timers) :
    x ∈ (commitWrites s ws).timers := by
  unfold commitWrites
  generalize mkCache ws = c
  induction c generalizing s with
  | nil => exact hx
  | cons y rest ih => exact ih _ (applyWrite_timers_mono s y hx)

/-! ### timers -/

theorem mem_eraseIdx_or {α : Type} (l : List α) (i : Nat) {x : α} (hx : x ∈ l) :
    x ∈ l.eraseIdx i ∨ l[i]? = some x := by
  obtain ⟨j, hj⟩ := List.getElem?_of_mem hx
  by_cases h : j = i
  · exact .inr (h ▸ hj)
  · exact .inl (List.mem_eraseIdx_iff_getElem?.2 ⟨j, h, hj⟩)

theorem fire_due {s : State} {i : Nat} {k : Bytes} {d : Nat} (ht : s.timers[i]? = some (k, d)) (hd : d ≤ s.now) :
    fire s i =
      if alookup s.expireAt k = some d then
        { s with store := s.store.erase k, expireAt := aerase s.expireAt k, timers := s.timers.eraseIdx i }
      else { s with timers := s.timers.eraseIdx i } := by
  simp only [fire, ht, Nat.not_lt.2 hd, if_false]

theorem fire_cases (s : State) (i : Nat) :
    fire s i = s ∨ ∃ k d, s.timers[i]? = some (k, d) ∧ d ≤ s.now := by
  unfold fire
  split
  · exact .inl rfl
  · rename_i k d heq
    split
    · exact .inl rfl
    · exact .inr ⟨k, d, heq, Nat.le_of_not_lt ‹_›⟩

@[simp] theorem fire_now (s : State) (i : Nat) : (fire s i).now = s.now := by
  rcases fire_cases s i with h | ⟨k, d, ht, hd⟩
  · rw [h]
  · rw [fire_due ht hd]
    split <;> rfl

theorem view_fire (s : State) (hs : s.store.Sorted) (i : Nat) (k : Bytes) :
    view (fire s i) k = view s k ∨
    (∃ d, s.timers[i]? = some (k, d) ∧ d ≤ s.now ∧ alookup s.expireAt k = some d ∧ view (fire s i) k = (none, none)) := by
  rcases fire_cases s i with h | ⟨k0, d, ht, hd⟩
  · exact .inl (by rw [h])
  · rw [fire_due ht hd]
    split
    · by_cases hk : k = k0
      · subst hk
        exact .inr ⟨d, ht, hd, ‹_›, by simp [view, Store.get_erase _ hs, alookup_aerase]⟩
      · exact .inl (by simp [view, Store.get_erase _ hs, alookup_aerase, hk])
    · exact .inl rfl

theorem fire_own_timer (s : State) (hs : s.store.Sorted) (i : Nat) (k : Bytes) (d : Nat)
    (ht : s.timers[i]? = some (k, d)) (hd : d ≤ s.now)
    (h : s.store.get k = none ∨ alookup s.expireAt k = some d) :
    (fire s i).store.get k = none := by
  rw [fire_due ht hd]
  split
  · simp [Store.get_erase _ hs]
  · exact h.resolve_right ‹_›

/-! ### the invariant -/

structure TTLInv (s : State) : Prop where
  /-- the skip list is sorted -/
  sorted : s.store.Sorted
  /-- a deadline is remembered only for a key that has a value -/
  present : ∀ k d, alookup s.expireAt k = some d → (s.store.get k).isSome = true
  /-- the timer of every remembered deadline is still armed (so the value WILL be removable) -/
  armed : ∀ k d, alookup s.expireAt k = some d → (k, d) ∈ s.timers

theorem TTLInv.init : TTLInv {} := ⟨trivial, nofun, nofun⟩

theorem TTLInv.of_forall {s : State} (hs : s.store.Sorted)
    (h : ∀ k d, alookup s.expireAt k = some d → (s.store.get k).isSome = true ∧ (k, d) ∈ s.timers) : TTLInv s :=
  ⟨hs, fun k d hd => (h k d hd).1, fun k d hd => (h k d hd).2⟩

theorem TTLInv.applyWrite {s : State} (h : TTLInv s) (kw : Bytes × Write) : TTLInv (applyWrite s kw) := by
  obtain ⟨k', w⟩ := kw
  refine .of_forall (applyWrite_sorted s _ h.sorted) fun k d hd => ?_
  obtain ⟨hget, hexp⟩ : (MemTTL.applyWrite s (k', w)).store.get k = (if k = k' then effectOf s.now w else view s k).1 ∧
      alookup (MemTTL.applyWrite s (k', w)).expireAt k = (if k = k' then effectOf s.now w else view s k).2 :=
    Prod.ext_iff.1 (view_applyWrite s h.sorted k' w k)
  rw [hexp] at hd
  rw [hget]
  by_cases hk : k = k'
  · rw [if_pos hk] at hd ⊢
    cases w with
    | del => cases hd
    | put v ttl =>
      -- the write armed its own timer
      by_cases ht : ttl = 0
      · simp [effectOf, ht] at hd
      · simp only [effectOf, ht, if_false, Option.some.injEq] at hd
        simp [effectOf, MemTTL.applyWrite, ht, hk, ← hd]
  · rw [if_neg hk] at hd ⊢
    exact ⟨h.present k d hd, applyWrite_timers_mono s _ (h.armed k d hd)⟩

theorem TTLInv.foldl_applyWrite {s : State} (h : TTLInv s) (c : List (Bytes × Write)) :
    TTLInv (c.foldl MemTTL.applyWrite s) := by
  induction c generalizing s with
  | nil => exact h
  | cons x rest ih => exact ih (h.applyWrite x)

theorem TTLInv.fire {s : State} (h : TTLInv s) (i : Nat) : TTLInv (fire s i) := by
  rcases fire_cases s i with h' | ⟨k0, d, ht, hd⟩
  · rw [h']
    exact h
  · -- every remembered deadline other than the one of timer `i` keeps its timer
    have harm : ∀ k d', alookup s.expireAt k = some d' → (k, d') ≠ (k0, d) → (k, d') ∈ s.timers.eraseIdx i :=
      fun k d' he hne => (mem_eraseIdx_or s.timers i (h.armed k d' he)).resolve_right
        fun hm => hne (Option.some.inj (hm.symm.trans ht))
    rw [fire_due ht hd]
    split
    · refine .of_forall (Store.erase_sorted _ h.sorted _) fun k d' he => ?_
      have hk : k ≠ k0 := fun e => by simp [alookup_aerase, e] at he
      simp only [alookup_aerase, if_neg hk] at he
      simp only [Store.get_erase _ h.sorted, if_neg hk]
      exact ⟨h.present k d' he, harm k d' he fun e => hk (congrArg Prod.fst e)⟩
    · rename_i hexp
      exact ⟨h.sorted, h.present, fun k d' he => harm k d' he fun e => hexp (by cases e; exact he)⟩

/-! ### steps and runs -/

theorem TTLInv.step {s : State} (h : TTLInv s) (op : Op) : TTLInv (step s op) := by
  cases op with
  | commit ws => exact h.foldl_applyWrite _
  | advance dt => exact ⟨h.sorted, h.present, h.armed⟩
  | fire i => exact h.fire i

theorem TTLInv.runFrom {s : State} (h : TTLInv s) (ops : List Op) : TTLInv (runFrom s ops) := by
  unfold MemTTL.runFrom
  induction ops generalizing s with
  | nil => exact h
  | cons op rest ih => exact ih (h.step op)

theorem step_now_mono (s : State) (op : Op) : s.now ≤ (step s op).now := by
  cases op <;> simp [step]

theorem runFrom_now_mono (s : State) (ops : List Op) : s.now ≤ (runFrom s ops).now := by
  unfold runFrom
  induction ops generalizing s with
  | nil => exact Nat.le_refl _
  | cons op rest ih => exact Nat.le_trans (step_now_mono s op) (ih _)

theorem runFrom_append (s : State) (a b : List Op) : runFrom s (a ++ b) = runFrom (runFrom s a) b := by
  simp [runFrom, List.foldl_append]

theorem run_append (a b : List Op) : run (a ++ b) = runFrom (run a) b :=
  runFrom_append {} a b

theorem view_step_nowrite (s : State) (h : TTLInv s) (op : Op) (k : Bytes) (hw : op.writes k = false) :
    view (step s op) k = view s k ∨
    (∃ d, alookup s.expireAt k = some d ∧ d ≤ s.now ∧ view (step s op) k = (none, none)) := by
  cases op with
  | commit ws =>
    left
    have := view_commitWrites s h.sorted ws k
    rwa [(lastWrite_eq_none_iff ws k).2 hw] at this
  | advance dt => exact .inl rfl
  | fire i =>
    rcases view_fire s h.sorted i k with hv | ⟨d, _, h2, h3, h4⟩
    · exact .inl hv
    · exact .inr ⟨d, h3, h2, h4⟩

theorem view_runFrom_nowrite (s : State) (h : TTLInv s) (ops : List Op) (k : Bytes)
    (hw : ∀ op ∈ ops, op.writes k = false) :
    view (runFrom s ops) k = view s k ∨
    (∃ d, (view s k).2 = some d ∧ d ≤ (runFrom s ops).now ∧ view (runFrom s ops) k = (none, none)) := by
  induction ops generalizing s with
  | nil => exact .inl rfl
  | cons op rest ih =>
    have hop := hw op (List.mem_cons_self ..)
    have hrest : ∀ o ∈ rest, o.writes k = false := fun o ho => hw o (List.mem_cons_of_mem _ ho)
    show view (runFrom (MemTTL.step s op) rest) k = _ ∨ ∃ d, _ ∧ d ≤ (runFrom (MemTTL.step s op) rest).now ∧
      view (runFrom (MemTTL.step s op) rest) k = _
    rcases view_step_nowrite s h op k hop with h1 | ⟨d, h1, h2, h3⟩
    · rcases ih (MemTTL.step s op) (h.step op) hrest with h4 | ⟨d, h4, h5, h6⟩
      · exact .inl (h4.trans h1)
      · exact .inr ⟨d, h1 ▸ h4, h5, h6⟩
    · right
      refine ⟨d, h1, Nat.le_trans h2 (Nat.le_trans (step_now_mono s op) (runFrom_now_mono _ _)), ?_⟩
      rcases ih (MemTTL.step s op) (h.step op) hrest with h4 | ⟨d', h4, _, _⟩
      · exact h4.trans h3
      · rw [h3] at h4
        cases h4

theorem view_after_last_write_from (s0 : State) (h0 : TTLInv s0) (pre post : List Op) (ws : List (Bytes × Write))
    (k : Bytes) (w : Write) (hlast : lastWrite ws k = some w) (hpost : ∀ op ∈ post, op.writes k = false) :
    view (runFrom s0 (pre ++ .commit ws :: post)) k = effectOf (runFrom s0 pre).now w ∨
    (∃ d, (effectOf (runFrom s0 pre).now w).2 = some d ∧ d ≤ (runFrom s0 (pre ++ .commit ws :: post)).now ∧
      view (runFrom s0 (pre ++ .commit ws :: post)) k = (none, none)) := by
  have hinv : TTLInv (runFrom s0 pre) := h0.runFrom pre
  have h1 : view (commitWrites (runFrom s0 pre) ws) k = effectOf (runFrom s0 pre).now w := by
    rw [view_commitWrites _ hinv.sorted, hlast]
  rw [runFrom_append]
  exact h1 ▸ view_runFrom_nowrite _ (hinv.step (.commit ws)) post k hpost

theorem last_write_stays_until_deadline (s0 : State) (h0 : TTLInv s0) (pre post : List Op)
    (ws : List (Bytes × Write)) (k : Bytes) (w : Write)
    (hlast : lastWrite ws k = some w) (hpost : ∀ op ∈ post, op.writes k = false)
    (hd : ∀ d, (effectOf (runFrom s0 pre).now w).2 = some d → (runFrom s0 (pre ++ .commit ws :: post)).now < d) :
    view (runFrom s0 (pre ++ .commit ws :: post)) k = effectOf (runFrom s0 pre).now w := by
  rcases view_after_last_write_from s0 h0 pre post ws k w hlast hpost with h | ⟨d, h1, h2, _⟩
  · exact h
  · exact absurd h2 (Nat.not_le_of_lt (hd d h1))

theorem after_put_ttl (pre post : List Op) (ws : List (Bytes × Write)) (k v : Bytes) (ttl : Nat)
    (hlast : lastWrite ws k = some (.put v ttl)) (httl : 0 < ttl) (hpost : ∀ op ∈ post, op.writes k = false) :
    (alookup (run (pre ++ .commit ws :: post)).expireAt k = some ((run pre).now + ttl) ∧
      (k, (run pre).now + ttl) ∈ (run (pre ++ .commit ws :: post)).timers) ∨
    ((run (pre ++ .commit ws :: post)).store.get k = none ∧
      alookup (run (pre ++ .commit ws :: post)).expireAt k = none) := by
  have ht : ttl ≠ 0 := by omega
  rcases view_after_last_write_from {} .init pre post ws k _ hlast hpost with h | ⟨d, _, _, h⟩
  · have h2 : alookup (run (pre ++ .commit ws :: post)).expireAt k = some ((run pre).now + ttl) := by
      simpa [view, effectOf, ht, run] using (Prod.ext_iff.1 h).2
    exact .inl ⟨h2, (TTLInv.init.runFrom _).armed k _ h2⟩
  · exact .inr (Prod.ext_iff.1 h)

theorem forall_mem_pair {α : Type} {p : α → Prop} {a b : α} (ha : p a) (hb : p b) : ∀ x ∈ [a, b], p x := by
  simp [ha, hb]

theorem unarmed_is_gone (pre post : List Op) (ws : List (Bytes × Write)) (k v : Bytes) (ttl : Nat)
    (hlast : lastWrite ws k = some (.put v ttl)) (httl : 0 < ttl) (hpost : ∀ op ∈ post, op.writes k = false)
    (h : (k, (run pre).now + ttl) ∉ (run (pre ++ .commit ws :: post)).timers) :
    (run (pre ++ .commit ws :: post)).store.get k = none :=
  (after_put_ttl pre post ws k v ttl hlast httl hpost).elim (fun ha => absurd ha.2 h) (·.1)

/-! ### the batch operations of KB.Engine as cache entries -/

theorem get_effect (s : Store) (hs : s.Sorted) (op : BOp) (ttl : Nat) (k : Bytes) :
    (C11.effect s op).get k =
      if k = (writeOf ttl op).1 then (effectOf 0 (writeOf ttl op).2).1 else s.get k := by
  cases op with
  | pine k0 v | cas k0 v _ | put k0 v => exact Store.get_put_any s k0 k v
  | del k0 | delcur k0 _ => exact Store.get_erase s hs k0 k

theorem get_foldl_effect (s : Store) (hs : s.Sorted) (ops : List (BOp × Nat)) (k : Bytes) :
    ((ops.map (·.1)).foldl C11.effect s).get k =
      match lastWrite (ops.map (fun o => writeOf o.2 o.1)) k with
      | none => s.get k
      | some w => (effectOf 0 w).1 := by
  induction ops generalizing s with
  | nil => rfl
  | cons x rest ih =>
    obtain ⟨op, ttl⟩ := x
    simp only [List.map_cons, List.foldl_cons, lastWrite]
    rw [ih _ (C11.effect_sorted s hs op)]
    cases lastWrite (rest.map (fun o => writeOf o.2 o.1)) k with
    | some w => rfl
    | none =>
      rw [get_effect s hs op ttl]
      by_cases h0 : (writeOf ttl op).1 = k
      · simp [h0]
      · simp [h0, Ne.symm h0]

end KB.MemTTL
