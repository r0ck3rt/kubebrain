/- The reference engine's store (an association list, strictly sorted by key): `get` after `put` / `erase`,
membership, sortedness, and what `commit` does on the two-operation batches the backend writes. -/
import KB.Engine
namespace KB

/-! ### sortedness -/

theorem Store.sorted_cons {x : Bytes × Bytes} {s : Store} :
    Store.Sorted (x :: s) ↔ (∀ z ∈ s, cmp x.1 z.1 = .lt) ∧ Store.Sorted s := by
  induction s generalizing x with
  | nil => simp [Store.Sorted]
  | cons y s ih =>
    obtain ⟨k1, v1⟩ := x
    obtain ⟨k2, v2⟩ := y
    simp only [Store.Sorted, List.forall_mem_cons]
    constructor
    · rintro ⟨h1, h2⟩
      exact ⟨⟨h1, fun z hz => cmp_lt_trans h1 ((ih.1 h2).1 z hz)⟩, h2⟩
    · rintro ⟨⟨h1, _⟩, h2⟩
      exact ⟨h1, h2⟩

theorem Store.sorted_iff_pairwise (s : Store) :
    s.Sorted ↔ s.Pairwise (fun x y => cmp x.1 y.1 = .lt) := by
  induction s with
  | nil => simp [Store.Sorted]
  | cons x s ih => rw [Store.sorted_cons, List.pairwise_cons, ih]

theorem Store.get_eq_none_of_forall_lt (s : Store) (k : Bytes)
    (h : ∀ z ∈ s, cmp k z.1 = .lt) : s.get k = none := by
  cases s with
  | nil => rfl
  | cons x rest =>
    obtain ⟨k0, v0⟩ := x
    simp [Store.get, show cmp k k0 = .lt from h (k0, v0) (List.mem_cons_self ..)]

theorem Store.mem_of_get {s : Store} {k v : Bytes} (h : s.get k = some v) : (k, v) ∈ s := by
  induction s with
  | nil => cases h
  | cons x rest ih =>
    obtain ⟨k0, v0⟩ := x
    simp only [Store.get] at h
    cases hc : cmp k k0 <;> simp only [hc] at h
    · cases h
    · cases h
      rw [cmp_eq_iff.1 hc]
      exact List.mem_cons_self ..
    · exact List.mem_cons_of_mem _ (ih h)

theorem Store.get_of_mem {s : Store} (hs : s.Sorted) {k v : Bytes} (h : (k, v) ∈ s) : s.get k = some v := by
  induction s with
  | nil => cases h
  | cons x rest ih =>
    obtain ⟨k0, v0⟩ := x
    obtain ⟨hlt, hs'⟩ := Store.sorted_cons.1 hs
    rcases List.mem_cons.1 h with h | h
    · cases h
      simp [Store.get]
    · simp only [Store.get, cmp_gt_iff.2 (hlt (k, v) h)]
      exact ih hs' h

/-! ### put -/

theorem Store.mem_put {s : Store} {k v : Bytes} {z : Bytes × Bytes} (hz : z ∈ s.put k v) :
    z.1 = k ∨ z ∈ s := by
  induction s with
  | nil =>
    rw [List.mem_singleton.1 hz]
    exact .inl rfl
  | cons x rest ih =>
    obtain ⟨k0, v0⟩ := x
    simp only [Store.put] at hz
    cases hc : cmp k k0 with
    | lt =>
      simp only [hc, List.mem_cons] at hz
      rcases hz with rfl | hz
      · exact .inl rfl
      · exact .inr (List.mem_cons.2 hz)
    | eq =>
      simp only [hc, List.mem_cons] at hz
      rcases hz with rfl | hz
      · exact .inl (cmp_eq_iff.1 hc).symm
      · exact .inr (List.mem_cons_of_mem _ hz)
    | gt =>
      simp only [hc, List.mem_cons] at hz
      rcases hz with rfl | hz
      · exact .inr (List.mem_cons_self ..)
      · exact (ih hz).imp id (List.mem_cons_of_mem _)

theorem Store.put_sorted (s : Store) (hs : s.Sorted) (k v : Bytes) : (s.put k v).Sorted := by
  induction s with
  | nil => simp [Store.put, Store.Sorted]
  | cons x rest ih =>
    obtain ⟨k0, v0⟩ := x
    have hs' := Store.sorted_cons.1 hs
    simp only [Store.put]
    cases hc : cmp k k0 with
    | lt =>
      refine Store.sorted_cons.2 ⟨?_, hs⟩
      intro z hz
      rcases List.mem_cons.1 hz with rfl | hz
      · exact hc
      · exact cmp_lt_trans hc (hs'.1 z hz)
    | eq => exact Store.sorted_cons.2 hs'
    | gt =>
      refine Store.sorted_cons.2 ⟨?_, ih hs'.2⟩
      intro z hz
      rcases Store.mem_put hz with h | h
      · rw [h]
        exact cmp_gt_iff.1 hc
      · exact hs'.1 z h

/-- `put` and `get` walk the list the same way (`cmp key k = .gt`: go on), so reads see the last write on every
list, sorted or not. -/
theorem Store.get_put_any (s : Store) (k k' v : Bytes) :
    (s.put k v).get k' = if k' = k then some v else s.get k' := by
  by_cases h : k' = k
  · subst h
    rw [if_pos rfl]
    induction s with
    | nil => simp [Store.put, Store.get]
    | cons x rest ih =>
      obtain ⟨k0, v0⟩ := x
      cases hc : cmp k' k0 <;> simp [Store.put, Store.get, hc, ih]
  · have hne : cmp k' k ≠ .eq := mt cmp_eq_iff.1 h
    rw [if_neg h]
    induction s with
    | nil => cases hc : cmp k' k <;> simp_all [Store.put, Store.get]
    | cons x rest ih =>
      obtain ⟨k0, v0⟩ := x
      cases hc : cmp k k0 with
      | lt =>
        have := fun h' => cmp_lt_trans (a := k') h' hc
        cases hc' : cmp k' k <;> simp_all [Store.put, Store.get]
      | eq =>
        obtain rfl := cmp_eq_iff.1 hc
        cases hc' : cmp k' k <;> simp_all [Store.put, Store.get]
      | gt => simp only [Store.put, hc, Store.get, ih]

theorem Store.get_put (s : Store) (hs : s.Sorted) (k k' v : Bytes) :
    (s.put k v).get k' = if k' = k then some v else s.get k' := by
  have _ := hs
  exact Store.get_put_any s k k' v

/-! ### erase -/

theorem Store.mem_erase {s : Store} {k : Bytes} {z : Bytes × Bytes} (hz : z ∈ s.erase k) :
    z ∈ s := by
  induction s with
  | nil => exact hz
  | cons x rest ih =>
    obtain ⟨k0, v0⟩ := x
    simp only [Store.erase] at hz
    cases hc : cmp k k0 with
    | lt => simpa only [hc] using hz
    | eq =>
      simp only [hc] at hz
      exact List.mem_cons_of_mem _ hz
    | gt =>
      simp only [hc, List.mem_cons] at hz ⊢
      exact hz.imp id ih

theorem Store.erase_sorted (s : Store) (hs : s.Sorted) (k : Bytes) : (s.erase k).Sorted := by
  induction s with
  | nil => exact hs
  | cons x rest ih =>
    obtain ⟨k0, v0⟩ := x
    have hs' := Store.sorted_cons.1 hs
    simp only [Store.erase]
    cases cmp k k0 with
    | lt => exact hs
    | eq => exact hs'.2
    | gt => exact Store.sorted_cons.2 ⟨fun z hz => hs'.1 z (Store.mem_erase hz), ih hs'.2⟩

theorem Store.get_erase (s : Store) (hs : s.Sorted) (k k' : Bytes) :
    (s.erase k).get k' = if k' = k then none else s.get k' := by
  induction s with
  | nil => simp [Store.erase, Store.get]
  | cons x rest ih =>
    obtain ⟨k0, v0⟩ := x
    obtain ⟨hlt, hs'⟩ := Store.sorted_cons.1 hs
    cases hc : cmp k k0 with
    | lt =>
      simp only [Store.erase, hc]
      split
      · subst k'
        simp [Store.get, hc]
      · rfl
    | eq =>
      obtain rfl := cmp_eq_iff.1 hc
      simp only [Store.erase, hc, Store.get]
      cases hc' : cmp k' k with
      | lt =>
        rw [Store.get_eq_none_of_forall_lt rest k' fun z hz => cmp_lt_trans hc' (hlt z hz)]
        simp
      | eq =>
        obtain rfl := cmp_eq_iff.1 hc'
        rw [if_pos rfl]
        exact Store.get_eq_none_of_forall_lt rest k' hlt
      | gt =>
        rw [if_neg]
        intro e
        rw [e, cmp_refl] at hc'
        cases hc'
    | gt =>
      simp only [Store.erase, hc, Store.get, ih hs']
      by_cases h : k' = k
      · simp [h, hc]
      · simp [h]

/-- the part of `get_erase` that needs no sortedness -/
theorem Store.get_erase_of_some (s : Store) (k k' v : Bytes) (h : k' ≠ k)
    (hg : s.get k' = some v) : (s.erase k).get k' = some v := by
  have hne : cmp k' k ≠ .eq := mt cmp_eq_iff.1 h
  induction s with
  | nil => cases hg
  | cons x rest ih =>
    obtain ⟨k0, v0⟩ := x
    simp only [Store.get] at hg
    cases hc : cmp k k0 with
    | lt => simpa only [Store.erase, hc, Store.get] using hg
    | eq =>
      obtain rfl := cmp_eq_iff.1 hc
      cases hc' : cmp k' k <;> simp_all [Store.erase]
    | gt =>
      simp only [Store.erase, hc, Store.get]
      cases hc' : cmp k' k0 <;> simp_all

/-! ### the backend's batches: an index record written under a condition, then a version record -/

theorem commit_pine_put_eq (q : Quirks) (s : Store) (ik new vk v : Bytes) :
    commit q s [.pine ik new, .put vk v] =
      match s.get ik with
      | some old => .error (.conflict (some (0 + q.idxOffset)) (some old))
      | none => .ok ((s.put ik new).put vk v) := by
  cases hg : s.get ik <;> simp [commit, applyOps, applyOp, hg]

theorem commit_cas_put_eq (q : Quirks) (s : Store) (ik new old vk v : Bytes) :
    commit q s [.cas ik new old, .put vk v] =
      match s.get ik with
      | none => if q.casMissingNotFound then .error .notFound
                else .error (.conflict (some (0 + q.idxOffset)) none)
      | some cur =>
        if cur = old then .ok ((s.put ik new).put vk v)
        else .error (.conflict (some (0 + q.idxOffset))
                       (some (if q.casConflictValExpected then old else cur))) := by
  cases hg : s.get ik with
  | none => by_cases hq : q.casMissingNotFound = true <;> simp [commit, applyOps, applyOp, hg, hq]
  | some cur => by_cases hc : cur = old <;> simp [commit, applyOps, applyOp, hg, hc]

theorem commit_pine_put (q : Quirks) (s : Store) (idx new ver v : Bytes) (st' : Store) :
    commit q s [.pine idx new, .put ver v] = .ok st' ↔
      (s.get idx = none ∧ st' = (s.put idx new).put ver v) := by
  rw [commit_pine_put_eq]
  cases s.get idx <;> simp [eq_comm]

theorem commit_cas_put (q : Quirks) (s : Store) (idx new old ver v : Bytes) (st' : Store) :
    commit q s [.cas idx new old, .put ver v] = .ok st' ↔
      (s.get idx = some old ∧ st' = (s.put idx new).put ver v) := by
  rw [commit_cas_put_eq]
  cases s.get idx with
  | none => cases q.casMissingNotFound <;> simp
  | some cur =>
    by_cases hc : cur = old
    · subst hc
      simp [eq_comm]
    · simp [hc]

theorem takeWhile_eq_filter_of_pairwise {α : Type _} (p : α → Bool) (R : α → α → Prop)
    (l : List α) (hl : l.Pairwise R) (hp : ∀ x y, R x y → p x = false → p y = false) :
    l.takeWhile p = l.filter p := by
  induction l with
  | nil => rfl
  | cons x xs ih =>
    have hl' := List.pairwise_cons.1 hl
    cases hx : p x with
    | true => simp [hx, ih hl'.2]
    | false =>
      rw [List.takeWhile_cons, List.filter_cons, hx]
      exact (List.filter_eq_nil_iff.2 fun y hy => by simp [hp x y (hl'.1 y hy) hx]).symm

end KB
