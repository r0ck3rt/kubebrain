/- The read path: what a plain worker emits (`sLoop`), `visible` / `readAt`, the point read and the range reads
over an encoded store. -/
import KB.Spec
import KB.Backend
import KB.Lemmas.Coder
import KB.Lemmas.Engine
import KB.Lemmas.Floor
import KB.Lemmas.Total
import KB.Props.C10
namespace KB
open Generated

/-! ### normal form of the non-compacting worker loop -/

abbrev KV := Bytes × Bytes × Nat

theorem emitsOf_append (a b : List Act) : emitsOf (a ++ b) = emitsOf a ++ emitsOf b := by
  induction a with
  | nil => rfl
  | cons x xs ih => cases x <;> simp [emitsOf, ih]

def WCfg.Plain (c : WCfg) : Prop := c.compact = false ∧ c.timeout = 0

theorem expireStep_plain {c : WCfg} (hc : c.Plain) (live gone : Bytes) (snap : List Rec) (r : Rec) :
    expireStep c live gone snap r = none :=
  expireStep_off (.inr hc.2) live gone snap r

theorem workerStep_plain {c : WCfg} (hc : c.Plain) (p : Prev) (r : Rec) :
    workerStep c p r =
      if r.rev > c.R then ([], p)
      else ((if r.key != p.key then emitPrev p else []), ⟨r.key, r.rev, r.val⟩) := by
  by_cases h : c.R < r.rev
  · rw [workerStep_above h, if_pos h]
  · rw [workerStep_ordinary h (by simp [flaggedIdx, hc.1]), if_neg h]
    simp [stepActs, hc.1]

def emitR (q : Rec) : List KV :=
  if q.rev > 0 && !isTomb q.val then [(q.key, q.val, q.rev)] else []

def sLoop (R : Nat) : Rec → List Rec → List KV
  | q, [] => emitR q
  | q, x :: xs =>
    if x.rev > R then sLoop R q xs
    else (if x.key != q.key then emitR q else []) ++ sLoop R x xs

theorem emitsOf_emitPrev (q : Rec) : emitsOf (emitPrev ⟨q.key, q.rev, q.val⟩) = emitR q := by
  unfold emitPrev emitR
  split <;> rfl

theorem emitsOf_workerLoop {c : WCfg} (hc : c.Plain) (q : Rec) (l : List Rec) :
    emitsOf (workerLoop c ⟨q.key, q.rev, q.val⟩ l) = sLoop c.R q l := by
  induction l generalizing q with
  | nil => exact emitsOf_emitPrev q
  | cons x xs ih =>
    simp only [workerLoop, sLoop, workerStep_plain hc]
    split
    · exact ih q
    · rw [emitsOf_append, ih x]
      congr 1
      split
      · exact emitsOf_emitPrev q
      · rfl

def rec0 : Rec := { key := [], rev := 0, val := [], ik := [] }

theorem emitsOf_workerActs {c : WCfg} (hc : c.Plain) (l : List Rec) :
    emitsOf (workerActs c l) = sLoop c.R rec0 l :=
  emitsOf_workerLoop hc rec0 l

theorem scanRecs_eq (R : Nat) (l : List Rec) : scanRecs R l = sLoop R rec0 l :=
  emitsOf_workerActs (c := { R := R }) ⟨rfl, rfl⟩ l

theorem workerLoop_plain_ik {c : WCfg} (hc : c.Plain) (p : Prev) (l : List Rec) (g : Rec → Bytes) :
    workerLoop c p (l.map (fun r => { r with ik := g r })) = workerLoop c p l := by
  induction l generalizing p with
  | nil => rfl
  | cons r rs ih => simp only [List.map_cons, workerLoop, workerStep_plain hc, ih]

theorem workerActs_plain_norm {c : WCfg} (hc : c.Plain) (l : List Rec) (g : Rec → Bytes) :
    emitsOf (workerActs c (l.map (fun r => { r with ik := g r }))) = scanRecs c.R l := by
  rw [workerActs, workerLoop_plain_ik hc, ← workerActs, emitsOf_workerActs hc, scanRecs_eq]

/-! ### a split of the records at a key boundary -/

theorem sLoop_flush {R : Nat} {q : Rec} {l : List Rec} (h : emitR q = [] ∨ ∀ y ∈ l, y.key ≠ q.key) :
    sLoop R q l = emitR q ++ sLoop R rec0 l := by
  induction l with
  | nil => exact (List.append_nil _).symm
  | cons x xs ih =>
    have ih' := ih (h.imp id fun h y hy => h y (List.mem_cons_of_mem _ hy))
    simp only [sLoop]
    split
    · exact ih'
    · have e0 : emitR rec0 = [] := rfl
      rcases h with h | h
      · simp [h, e0]
      · simp [h x (List.mem_cons_self ..), e0]

theorem sLoop_append {R : Nat} {q : Rec} {l1 l2 : List Rec} (h1 : ∀ x ∈ l1, ∀ y ∈ l2, x.key ≠ y.key)
    (h2 : emitR q = [] ∨ ∀ y ∈ l2, y.key ≠ q.key) :
    sLoop R q (l1 ++ l2) = sLoop R q l1 ++ sLoop R rec0 l2 := by
  induction l1 generalizing q with
  | nil => exact sLoop_flush h2
  | cons x xs ih =>
    have h1' : ∀ x ∈ xs, ∀ y ∈ l2, x.key ≠ y.key := fun y hy => h1 y (List.mem_cons_of_mem _ hy)
    simp only [List.cons_append, sLoop]
    split
    · exact ih h1' h2
    · rw [ih h1' (.inr fun y hy => (h1 x (List.mem_cons_self ..) y hy).symm), List.append_assoc]

theorem scanRecs_append (R : Nat) (l1 l2 : List Rec) (h : ∀ x ∈ l1, ∀ y ∈ l2, x.key ≠ y.key) :
    scanRecs R (l1 ++ l2) = scanRecs R l1 ++ scanRecs R l2 := by
  simp only [scanRecs_eq]
  exact sLoop_append h (.inl rfl)

/-! ### `visible` / `readAt` -/

def vis (R : Nat) (k : Bytes) (r : Rec) : Bool := r.key == k && decide (0 < r.rev) && decide (r.rev ≤ R)

theorem visible_def (R : Nat) (l : List Rec) (k : Bytes) : visible R l k = (l.filter (vis R k)).getLast? := rfl

theorem vis_iff {R : Nat} {k : Bytes} {r : Rec} : vis R k r = true ↔ r.key = k ∧ 0 < r.rev ∧ r.rev ≤ R := by
  simp [vis, and_assoc]

theorem visible_nil (R : Nat) (k : Bytes) : visible R [] k = none := rfl

theorem visible_cons (R : Nat) (q : Rec) (l : List Rec) (k : Bytes) :
    visible R (q :: l) k = (visible R l k).or (if vis R k q then some q else none) := by
  simp only [visible_def, List.filter_cons]
  split
  · rw [List.getLast?_cons]
    cases (List.filter (vis R k) l).getLast? <;> simp
  · simp

theorem visible_cons_neg {R : Nat} {q : Rec} {l : List Rec} {k : Bytes} (h : vis R k q = false) :
    visible R (q :: l) k = visible R l k := by
  simp [visible_cons, h]

theorem visible_eq_none_iff {R : Nat} {l : List Rec} {k : Bytes} :
    visible R l k = none ↔ ∀ x ∈ l, vis R k x = false := by
  simp [visible_def]

theorem visible_some_mem {R : Nat} {l : List Rec} {k : Bytes} {r : Rec} (h : visible R l k = some r) :
    r ∈ l ∧ vis R k r = true := by
  have := List.mem_of_getLast? (visible_def R l k ▸ h)
  exact List.mem_filter.mp this

def readOne (o : Option Rec) : Option (Bytes × Nat) :=
  match o with
  | some r => if isTomb r.val then none else some (r.val, r.rev)
  | none => none

theorem readAt_def (R : Nat) (l : List Rec) (k : Bytes) : readAt R l k = readOne (visible R l k) := by
  unfold readAt readOne; rfl

/-! ### order facts -/

def recLe (a b : Rec) : Prop := cmp a.key b.key = .lt ∨ (a.key = b.key ∧ a.rev ≤ b.rev)

theorem cmp_lt_irrefl {a : Bytes} : cmp a a ≠ .lt := by simp

theorem recLe_of_recLt {a b : Rec} (h : recLt a b) : recLe a b := by
  rcases h with h | ⟨h1, h2⟩
  · exact .inl h
  · exact .inr ⟨h1, Nat.le_of_lt h2⟩

theorem recLe_trans_lt {a b c : Rec} (h1 : recLe a b) (h2 : recLt b c) : recLe a c := by
  rcases h1 with h1 | ⟨h1, h1'⟩
  · rcases h2 with h2 | ⟨h2, _⟩
    · exact .inl (cmp_lt_trans h1 h2)
    · exact .inl (h2 ▸ h1)
  · rcases h2 with h2 | ⟨h2, h2'⟩
    · exact .inl (h1 ▸ h2)
    · exact .inr ⟨h1.trans h2, by omega⟩

theorem rec0_le (x : Rec) : recLe rec0 x := by
  unfold recLe rec0
  cases hx : x.key with
  | nil => right; simp
  | cons a as => left; simp

/-- the loop invariant: `q` is the last accepted record, the rest of the partition follows it -/
structure LoopInv (R : Nat) (q : Rec) (l : List Rec) : Prop where
  qR : q.rev ≤ R
  sorted : l.Pairwise recLt
  le : ∀ x ∈ l, recLe q x

theorem LoopInv.tail {R : Nat} {q x : Rec} {xs : List Rec} (h : LoopInv R q (x :: xs)) : LoopInv R q xs :=
  ⟨h.qR, (List.pairwise_cons.mp h.sorted).2, fun y hy => h.le y (List.mem_cons_of_mem _ hy)⟩

theorem LoopInv.step {R : Nat} {q x : Rec} {xs : List Rec} (h : LoopInv R q (x :: xs)) (hx : x.rev ≤ R) :
    LoopInv R x xs :=
  ⟨hx, (List.pairwise_cons.mp h.sorted).2,
    fun y hy => recLe_of_recLt ((List.pairwise_cons.mp h.sorted).1 y hy)⟩

theorem LoopInv.init {R : Nat} {l : List Rec} (hs : SortedRecs l) : LoopInv R rec0 l :=
  ⟨Nat.zero_le _, hs, fun x _ => rec0_le x⟩

theorem mem_emitR {q : Rec} {k v : Bytes} {r : Nat} {R : Nat} (hq : q.rev ≤ R) :
    (k, v, r) ∈ emitR q ↔ readOne (if vis R k q then some q else none) = some (v, r) := by
  have e : vis R k q = (q.key == k && decide (q.rev > 0)) := by simp [vis, hq]
  rw [emitR, e]
  by_cases hk : q.key = k <;> by_cases h0 : q.rev > 0 <;> cases ht : isTomb q.val <;>
    simp [readOne, hk, h0, ht, eq_comm (a := v), eq_comm (a := r), eq_comm (a := k)]

theorem visible_cons_isSome {R : Nat} {x : Rec} {xs : List Rec} {k : Bytes} (h : vis R k x = true) :
    ∃ r, visible R (x :: xs) k = some r := by
  rw [visible_cons, h]
  cases visible R xs k <;> simp

theorem lt_key_not_vis {R : Nat} {k : Bytes} {x : Rec} (h : cmp k x.key = .lt) : vis R k x = false := by
  cases hv : vis R k x with
  | false => rfl
  | true =>
    have := (vis_iff.mp hv).1
    rw [this] at h; simp at h

theorem key_lt_of_recLe {a b : Rec} {c : Rec} (h : cmp a.key b.key = .lt) (h2 : recLe b c) :
    cmp a.key c.key = .lt := by
  rcases h2 with h2 | ⟨h2, _⟩
  · exact cmp_lt_trans h h2
  · exact h2 ▸ h

theorem LoopInv.key_lt {R : Nat} {q x : Rec} {xs : List Rec} (h : LoopInv R q (x :: xs)) (hk : x.key ≠ q.key) :
    ∀ y ∈ x :: xs, cmp q.key y.key = .lt := by
  have hlt : cmp q.key x.key = .lt := (h.le x (List.mem_cons_self ..)).resolve_right (fun he => hk he.1.symm)
  intro y hy
  rcases List.mem_cons.mp hy with rfl | hy
  · exact hlt
  · exact key_lt_of_recLe hlt (recLe_of_recLt ((List.pairwise_cons.mp h.sorted).1 y hy))

theorem readOne_or {a b : Option Rec} (h : a = none ∨ b = none) (p : Bytes × Nat) :
    readOne (a.or b) = some p ↔ readOne b = some p ∨ readOne a = some p := by
  rcases h with rfl | rfl <;> simp [readOne]

theorem mem_sLoop {R : Nat} {q : Rec} {l : List Rec} (h : LoopInv R q l) (k v : Bytes) (r : Nat) :
    (k, v, r) ∈ sLoop R q l ↔ readOne (visible R (q :: l) k) = some (v, r) := by
  induction l generalizing q with
  | nil =>
    simp only [sLoop, visible_cons, visible_nil, Option.none_or]
    exact mem_emitR h.qR
  | cons x xs ih =>
    simp only [sLoop]
    split
    · rw [ih h.tail, visible_cons R q, visible_cons R q,
        visible_cons_neg (show vis R k x = false by simp [vis]; omega)]
    · have hx' : x.rev ≤ R := by omega
      rw [List.mem_append, ih (h.step hx'), visible_cons R q]
      by_cases hk : x.key = q.key
      · -- same key: nothing is emitted, and whenever `q` is a candidate so is `x`
        have : vis R k q = true → vis R k x = true := by
          simp only [vis_iff]
          rintro ⟨h1, h2, _⟩
          rcases h.le x (List.mem_cons_self ..) with hlt | ⟨_, hle⟩
          · rw [hk] at hlt; simp at hlt
          · exact ⟨hk.trans h1, by omega, hx'⟩
        cases hq : vis R k q with
        | false => simp [hk]
        | true =>
          obtain ⟨y, hy⟩ := visible_cons_isSome (xs := xs) (this hq)
          simp [hk, hy]
      · -- key change: `q` is emitted, and no later record has its key
        have hne : (x.key != q.key) = true := by simpa using hk
        rw [hne, if_pos rfl, mem_emitR h.qR, readOne_or]
        cases hq : vis R k q with
        | false => exact .inr rfl
        | true =>
          refine .inl (visible_eq_none_iff.mpr fun y hy => lt_key_not_vis ?_)
          rw [← (vis_iff.mp hq).1]
          exact h.key_lt hk y hy

theorem sLoop_mem_key {R : Nat} {q : Rec} {l : List Rec} (h : LoopInv R q l) {e : KV} (he : e ∈ sLoop R q l) :
    ∃ y ∈ q :: l, y.key = e.1 := by
  have := (mem_sLoop h e.1 e.2.1 e.2.2).mp he
  cases hv : visible R (q :: l) e.1 with
  | none => rw [hv] at this; cases this
  | some y => exact ⟨y, (visible_some_mem hv).1, (vis_iff.mp (visible_some_mem hv).2).1⟩

theorem visible_rec0_cons (R : Nat) (l : List Rec) (k : Bytes) : visible R (rec0 :: l) k = visible R l k :=
  visible_cons_neg (by simp [vis, rec0])

theorem mem_scanRecs_iff {recs : List Rec} (hs : SortedRecs recs) (R : Nat) (k v : Bytes) (r : Nat) :
    (k, v, r) ∈ scanRecs R recs ↔ readAt R recs k = some (v, r) := by
  rw [scanRecs_eq, mem_sLoop (LoopInv.init hs), visible_rec0_cons, readAt_def]

/-! ### sortedness of the output -/

theorem emitR_key {q : Rec} {e : KV} (h : e ∈ emitR q) : e.1 = q.key := by
  unfold emitR at h
  split at h
  · simp at h; simp [h]
  · simp at h

theorem emitR_pairwise (q : Rec) : (emitR q).Pairwise (fun a b : KV => cmp a.1 b.1 = .lt) := by
  unfold emitR; split <;> simp

theorem sLoop_sorted {R : Nat} {q : Rec} {l : List Rec} (h : LoopInv R q l) :
    (sLoop R q l).Pairwise (fun a b : KV => cmp a.1 b.1 = .lt) := by
  induction l generalizing q with
  | nil => exact emitR_pairwise q
  | cons x xs ih =>
    simp only [sLoop]
    split
    · exact ih h.tail
    · have hx' : x.rev ≤ R := by omega
      by_cases hk : x.key = q.key
      · simpa [hk] using ih (h.step hx')
      · have hne : (x.key != q.key) = true := by simpa using hk
        rw [hne, if_pos rfl, List.pairwise_append]
        refine ⟨emitR_pairwise q, ih (h.step hx'), fun a ha b hb => ?_⟩
        obtain ⟨y, hy, hyk⟩ := sLoop_mem_key (h.step hx') hb
        rw [emitR_key ha, ← hyk]
        exact h.key_lt hk y hy

theorem scanRecs_sorted {recs : List Rec} (hs : SortedRecs recs) (R : Nat) :
    (scanRecs R recs).Pairwise (fun a b => cmp a.1 b.1 = .lt) := by
  rw [scanRecs_eq]; exact sLoop_sorted (LoopInv.init hs)

/-! ### a read at `R` does not see the records above `R` nor the revision records (`KB.C03.stable_reread`) -/

theorem visible_filter_live (R : Nat) (recs : List Rec) (k : Bytes) :
    visible R (recs.filter (fun r => decide (0 < r.rev) && decide (r.rev ≤ R))) k = visible R recs k := by
  rw [visible_def, visible_def, List.filter_filter]
  congr 1
  apply List.filter_congr
  intro x _
  simp only [vis]
  cases x.key == k <;> cases decide (0 < x.rev) <;> cases decide (x.rev ≤ R) <;> rfl

/-! ### point read (`getInternal`) -/

theorem applyLimit_one_head (q : Quirks) (l : List (Bytes × Bytes)) : (applyLimit q 1 l).head? = l.head? := by
  unfold applyLimit
  cases q.limitMode <;> simp [List.head?_take]

def getPost (key : Bytes) : Option (Bytes × Bytes) → Option (Bytes × Nat)
  | none => none
  | some (ik, v) =>
    match decode ik with
    | .ok k m => if m == 0 || k != key then none else some (v, m)
    | _ => none

theorem getInternal_eq (c : Cfg) (st : Store) (key : Bytes) (rev : Nat) :
    getInternal c st key rev =
      getPost key (iterate c.q st (encode key (if rev == 0 then 2 ^ 64 - 1 else rev)) (encode key 0) 1).head? := by
  unfold getInternal
  simp only []
  generalize iterate c.q st _ _ 1 = l
  cases l with
  | nil => rfl
  | cons x xs => obtain ⟨ik, v⟩ := x; rfl

theorem iterDesc_head (q : Quirks) (s : Store) (start stop : Bytes) :
    (iterDesc q s start stop).head? =
      ((s.filter (fun kv => ble kv.1 start)).getLast?).filter (fun kv => q.revFirstUnchecked || blt stop kv.1) := by
  unfold iterDesc
  rw [← List.head?_reverse]
  cases q.revFirstUnchecked with
  | true => cases (List.filter (fun kv => ble kv.1 start) s).reverse <;> rfl
  | false => exact List.head?_takeWhile ..

theorem iterate_desc_head {q : Quirks} {s : Store} {start stop : Bytes} (h : cmp start stop = .gt) :
    (iterate q s start stop 1).head? = (iterDesc q s start stop).head? := by
  unfold iterate
  rw [applyLimit_one_head]
  simp [h]

def below (k : Bytes) (R : Nat) (r : Rec) : Bool := blt r.key k || (r.key == k && decide (r.rev ≤ R))

def encRec (r : Rec) : Bytes × Bytes := (encode r.key r.rev, r.val)

theorem encodeStore_def (recs : List Rec) : encodeStore recs = recs.map encRec := rfl

theorem filter_encodeStore (p : Bytes × Bytes → Bool) (recs : List Rec) :
    (encodeStore recs).filter p = encodeStore (recs.filter (fun r => p (encRec r))) := by
  rw [encodeStore_def, encodeStore_def, List.filter_map]
  rfl

theorem filter_encodeStore_below {recs : List Rec} (hk : ∀ r ∈ recs, Alphabet r.key ∧ r.rev < 2 ^ 64)
    {k : Bytes} (hka : Alphabet k) {R : Nat} (hR : R < 2 ^ 64) :
    (encodeStore recs).filter (fun kv => ble kv.1 (encode k R)) = encodeStore (recs.filter (below k R)) := by
  rw [filter_encodeStore]
  congr 1
  apply List.filter_congr
  intro r hr
  rw [Bool.eq_iff_iff, encRec, C10.encode_le_iff (hk r hr).1 hka (hk r hr).2 hR]
  simp [below]

theorem getLast?_filter_of_upward {α : Type} {Rel : α → α → Prop} {p : α → Bool} {l : List α}
    (hs : l.Pairwise Rel) (hup : ∀ x ∈ l, ∀ y ∈ l, Rel x y → p x = true → p y = true) :
    (l.filter p).getLast? = l.getLast?.filter p := by
  cases hl : l.getLast? with
  | none => rw [List.getLast?_eq_none_iff.mp hl]; rfl
  | some r =>
    obtain ⟨ys, rfl⟩ := List.getLast?_eq_some_iff.mp hl
    have hr := (List.pairwise_append.mp hs).2.2
    cases hp : p r with
    | true => simp [List.filter_append, hp, Option.filter]
    | false =>
      have : ys.filter p = [] := List.filter_eq_nil_iff.mpr fun x hx hpx => by
        have := hup x (List.mem_append_left _ hx) r (by simp) (hr x hx r (by simp)) hpx
        rw [hp] at this; cases this
      simp [List.filter_append, hp, this, Option.filter]

theorem filter_split_sorted {α : Type} (lt : α → α → Prop) (p : α → Bool) (l : List α)
    (hs : l.Pairwise lt) (hp : ∀ x y, lt x y → p y = true → p x = true) :
    l.filter p ++ l.filter (fun x => !p x) = l := by
  induction l with
  | nil => rfl
  | cons x xs ih =>
    rw [List.pairwise_cons] at hs
    have ih' := ih hs.2
    by_cases hx : p x = true
    · simp [hx, ih']
    · have hx' : p x = false := by simpa using hx
      have hnone : xs.filter p = [] := by
        rw [List.filter_eq_nil_iff]
        intro y hy hpy
        exact hx (hp x y (hs.1 y hy) hpy)
      rw [hnone] at ih'
      simp only [List.nil_append] at ih'
      simp [hx', hnone, ih']

theorem pairwise_getLast {α : Type} {Rel : α → α → Prop} {l : List α} {r x : α}
    (hp : l.Pairwise Rel) (h : l.getLast? = some r) (hx : x ∈ l) : x = r ∨ Rel x r := by
  obtain ⟨ys, rfl⟩ := List.getLast?_eq_some_iff.mp h
  rw [List.pairwise_append] at hp
  rcases List.mem_append.mp hx with hx | hx
  · exact .inr (hp.2.2 x hx r (by simp))
  · exact .inl (by simpa using hx)

theorem visible_of_max {R : Nat} {recs : List Rec} {k : Bytes} {x : Rec} (hs : SortedRecs recs) (hx : x ∈ recs)
    (hv : vis R k x = true) (hmax : ∀ y ∈ recs, vis R k y = true → y.rev ≤ x.rev) : visible R recs k = some x := by
  cases hl : visible R recs k with
  | none => rw [visible_eq_none_iff.mp hl x hx] at hv; cases hv
  | some l =>
    obtain ⟨hlm, hlv⟩ := visible_some_mem hl
    rcases pairwise_getLast (hs.filter _) (visible_def .. ▸ hl) (List.mem_filter.mpr ⟨hx, hv⟩) with h | h | ⟨_, h⟩
    · rw [h]
    · rw [(vis_iff.mp hv).1, (vis_iff.mp hlv).1] at h; exact absurd h cmp_lt_irrefl
    · exact absurd (hmax l hlm hlv) (Nat.not_le_of_lt h)

theorem vis_imp_below {k : Bytes} {R : Nat} (x : Rec) (h : vis R k x = true) : below k R x = true := by
  have := vis_iff.mp h
  simp [below, this.1, this.2.2]

theorem visible_of_below_last {recs : List Rec} (hs : SortedRecs recs) {k : Bytes} {R : Nat} :
    visible R recs k = ((recs.filter (below k R)).getLast?).filter (vis R k) := by
  rw [← getLast?_filter_of_upward (hs.filter _), List.filter_filter, visible_def]
  · congr 1
    apply List.filter_congr
    intro x _
    cases hv : vis R k x with
    | false => rfl
    | true => exact (vis_imp_below x hv).symm
  · intro x hx y hy hlt hv
    obtain ⟨h1, h2, h3⟩ := vis_iff.mp hv
    have hyb : blt y.key k = true ∨ (y.key = k ∧ y.rev ≤ R) := by simpa [below] using (List.mem_filter.mp hy).2
    rw [vis_iff]
    rcases hlt with hlt | ⟨he, hlt⟩
    · rw [h1] at hlt
      rcases hyb with hyb | ⟨hyb, _⟩
      · exact absurd (cmp_lt_trans hlt (blt_iff.mp hyb)) cmp_lt_irrefl
      · rw [hyb] at hlt; exact absurd hlt cmp_lt_irrefl
    · have hyk : y.key = k := he ▸ h1
      rcases hyb with hyb | ⟨_, hyb⟩
      · rw [hyk] at hyb; exact absurd (blt_iff.mp hyb) cmp_lt_irrefl
      · exact ⟨hyk, by omega, hyb⟩

theorem getPost_encRec {k : Bytes} {R : Nat} {r : Rec} (hr : r.rev < 2 ^ 64) (hb : below k R r = true) :
    getPost k (some (encRec r)) = ((some r).filter (vis R k)).map (fun r => (r.val, r.rev)) := by
  simp only [getPost, encRec, decode_encode r.key r.rev hr, Option.filter_some]
  have hrb : blt r.key k = true ∨ (r.key = k ∧ r.rev ≤ R) := by simpa [below] using hb
  by_cases h0 : r.rev = 0
  · simp [h0, vis]
  · by_cases hk : r.key = k
    · have : r.rev ≤ R := by
        rcases hrb with hrb | ⟨_, h⟩
        · rw [hk] at hrb; simp [blt] at hrb
        · exact h
      have h0' : 0 < r.rev := by omega
      simp [h0, hk, vis, this, h0']
    · simp [hk, vis]

theorem getPost_filter_encRec {k : Bytes} {R : Nat} {r : Rec} (hr : r.rev < 2 ^ 64) (hb : below k R r = true)
    {f : Bytes × Bytes → Bool} (hf : vis R k r = true → f (encRec r) = true) :
    getPost k ((some (encRec r)).filter f) = ((some r).filter (vis R k)).map (fun r => (r.val, r.rev)) := by
  cases hfr : f (encRec r) with
  | true => rw [Option.filter_some, if_pos hfr]; exact getPost_encRec hr hb
  | false =>
    have hv : vis R k r = false := by
      cases hv : vis R k r with
      | false => rfl
      | true => rw [hf hv] at hfr; cases hfr
    simp [Option.filter, hfr, hv, getPost]

theorem getInternal_encodeStore (c : Cfg) {recs : List Rec} (hs : SortedRecs recs)
    (hk : ∀ r ∈ recs, Alphabet r.key ∧ r.rev < 2 ^ 64) (k : Bytes) (hka : Alphabet k)
    (R : Nat) (hR : R < 2 ^ 64) :
    getInternal c (encodeStore recs) k R =
      (visible (if R == 0 then 2 ^ 64 - 1 else R) recs k).map (fun r => (r.val, r.rev)) := by
  rw [getInternal_eq]
  generalize hR' : (if R == 0 then 2 ^ 64 - 1 else R) = R'
  have hR'lt : R' < 2 ^ 64 := by
    rw [← hR']; split
    · exact Nat.sub_lt (Nat.pow_pos (by decide)) (by decide)
    · exact hR
  have hR'pos : 0 < R' := by
    rw [← hR']; split
    · decide
    · rename_i h; exact Nat.pos_of_ne_zero (by simpa using h)
  have hgt : cmp (encode k R') (encode k 0) = .gt :=
    cmp_gt_iff.mpr (blt_iff.mp ((C10.encode_lt_iff hka hka (by decide) hR'lt).mpr (.inr ⟨rfl, hR'pos⟩)))
  rw [iterate_desc_head hgt, iterDesc_head, filter_encodeStore_below hk hka hR'lt,
    visible_of_below_last hs, encodeStore_def, List.getLast?_map]
  cases hl : (recs.filter (below k R')).getLast? with
  | none => rfl
  | some r =>
    have hrm := List.mem_filter.mp (List.mem_of_getLast? hl)
    refine getPost_filter_encRec (hk r hrm.1).2 hrm.2 fun hv => ?_
    -- a visible record lies above the index key, the end bound of the iteration
    obtain ⟨h1, h2, _⟩ := vis_iff.mp hv
    rw [Bool.or_eq_true]
    exact .inr ((C10.encode_lt_iff hka (hk r hrm.1).1 (by decide) (hk r hrm.1).2).mpr (.inr ⟨h1.symm, h2⟩))

/-! ### an encoded store: floor, iteration, decoding -/

theorem get_compactKey_encodeStore (c : Cfg) (recs : List Rec) :
    (encodeStore recs).get (compactKeyOf c) = none := by
  cases h : (encodeStore recs).get (compactKeyOf c) with
  | none => rfl
  | some v =>
    obtain ⟨r, _, hr⟩ := List.mem_map.mp (Store.mem_of_get h)
    exact absurd (congrArg Prod.fst hr) (compactKey_ne_encode c r.key r.rev)

theorem belowFloor_encodeStore (c : Cfg) (recs : List Rec) (rev : Nat) :
    belowFloor c (encodeStore recs) rev = false := by
  simp [belowFloor, floorOf, get_compactKey_encodeStore]

def encOf (r : Rec) : Bytes := encode r.key r.rev

def seg (recs : List Rec) (lo hi : Bytes) : List Rec :=
  recs.filter (fun r => ble lo (encOf r) && blt (encOf r) hi)

/-- What the order lemmas of C10 need. Many statements (here and in the files about compaction) spell the hypothesis
out instead; the two unify. -/
def GoodRecs (recs : List Rec) : Prop := ∀ r ∈ recs, Alphabet r.key ∧ r.rev < 2 ^ 64

theorem GoodRecs.seg {recs : List Rec} (h : GoodRecs recs) (lo hi : Bytes) : GoodRecs (seg recs lo hi) :=
  fun r hr => h r (List.mem_filter.mp hr).1

theorem iterAsc_encodeStore (recs : List Rec) (s e : Bytes) :
    iterAsc (encodeStore recs) s e = encodeStore (seg recs s e) :=
  filter_encodeStore _ recs

theorem iterAsc_self (st : Store) (s : Bytes) : iterAsc st s s = [] := by
  simp only [iterAsc, List.filter_eq_nil_iff, Bool.and_eq_true, not_and, Bool.not_eq_true]
  intro kv _ h
  exact not_blt_iff_ble.mpr h

theorem iterate_of_le (q : Quirks) (st : Store) (s e : Bytes) (h : ble s e = true) :
    iterate q st s e 0 = iterAsc st s e := by
  rcases ble_iff_lt_or_eq.mp h with h | h
  · simp [iterate, applyLimit, h]
  · subst h; simp [iterate, applyLimit, iterAsc_self]

theorem decodeRecs_encodeStore {l : List Rec} (h : ∀ r ∈ l, r.rev < 2 ^ 64) :
    decodeRecs (encodeStore l) = some (l.map (fun r => { r with ik := encOf r })) := by
  induction l with
  | nil => rfl
  | cons x xs ih =>
    have ih' := ih (fun r hr => h r (List.mem_cons_of_mem _ hr))
    rw [encodeStore_def] at ih' ⊢
    simp only [List.map_cons, encRec, decodeRecs, decode_encode x.key x.rev (h x (List.mem_cons_self ..)), ih']
    rfl

def inRange (a b : Bytes) (r : Rec) : Bool := ble a r.key && blt r.key b

theorem seg_bounds {recs : List Rec} (hk : GoodRecs recs) (a b : Bytes) :
    seg recs (encodeBound a) (encodeBound b) = recs.filter (inRange a b) := by
  apply List.filter_congr
  intro r hr
  rw [Bool.eq_iff_iff, inRange, Bool.and_eq_true, Bool.and_eq_true]
  exact C10.range_bounds_exact' (hk r hr).1 (hk r hr).2

/-- not strict: two bounds cut behind the same key are encoded alike -/
theorem ble_encodeBound {a b : Bytes} (hab : cmp a b = .lt) : ble (encodeBound a) (encodeBound b) = true :=
  ble_iff_lt_or_eq.mpr ((encodeBound_lt_or_eq hab).imp id And.left)

/-! ### range reads over an encoded store -/

def partWorker (q : Quirks) (st : Store) (rev : Nat) (p : Bytes × Bytes) : Option (List KV) :=
  match decodeRecs (iterate q st p.1 p.2 0) with
  | none => none
  | some recs =>
    let acts := workerActs { R := rev, supportTTL := q.supportTTL } recs
    if hasPanic acts then none else some (emitsOf acts)

theorem scanParts_unfold (c : Cfg) (st : Store) (a b : Bytes) (rev : Nat) :
    scanParts c st a b rev =
      if belowFloor c st rev then .error .belowFloor else
      match scanPartitions c a b with
      | none => .panic
      | some parts =>
        if (parts.map (partWorker c.q st rev)).any Option.isNone then .panic
        else .ok ((parts.map (partWorker c.q st rev)).filterMap id) := rfl

theorem scanParts_eq {c : Cfg} {st : Store} {start stop : Bytes} {rev : Nat} {parts : List (Bytes × Bytes)}
    {g : Bytes × Bytes → List KV} (hf : belowFloor c st rev = false)
    (hp : scanPartitions c start stop = some parts) (hg : ∀ p ∈ parts, partWorker c.q st rev p = some (g p)) :
    scanParts c st start stop rev = .ok (parts.map g) := by
  simp [scanParts_unfold, hf, hp, List.map_congr_left hg, List.any_map, List.filterMap_map, Function.comp_def]

theorem decodeRecs_iterate_encodeStore (q : Quirks) {recs : List Rec} (hk : GoodRecs recs) {lo hi : Bytes}
    (hle : ble lo hi = true) :
    decodeRecs (iterate q (encodeStore recs) lo hi 0) =
      some ((seg recs lo hi).map (fun r => { r with ik := encOf r })) := by
  rw [iterate_of_le _ _ _ _ hle, iterAsc_encodeStore, decodeRecs_encodeStore (fun r hr => (hk.seg _ _ r hr).2)]

theorem partWorker_encodeStore (q : Quirks) {recs : List Rec} (hk : GoodRecs recs) (R : Nat) {pr : Bytes × Bytes}
    (hle : ble pr.1 pr.2 = true) :
    partWorker q (encodeStore recs) R pr = some (scanRecs R (seg recs pr.1 pr.2)) := by
  have hc : WCfg.Plain { R := R, supportTTL := q.supportTTL } := ⟨rfl, rfl⟩
  simp only [partWorker, decodeRecs_iterate_encodeStore q hk hle, workerActs_no_panic, workerActs_plain_norm hc,
    Bool.false_eq_true, if_false]

theorem scanPartitions_single {c : Cfg} (h : c.splits = []) (start stop : Bytes) :
    scanPartitions c start stop = some [(start, stop)] := by
  simp [scanPartitions, partitions, h, sortParts, insertPart, adjustBorders]

theorem scanLimited_encodeStore_bounds (c : Cfg) {recs : List Rec} (hk : GoodRecs recs) {a b : Bytes}
    (hab : cmp a b = .lt) (rev lim : Nat) :
    scanLimited c (encodeStore recs) (encodeBound a) (encodeBound b) rev lim =
      .ok ((scanRecs rev (recs.filter (inRange a b))).take lim) := by
  have hc : WCfg.Plain { R := rev, supportTTL := c.q.supportTTL } := ⟨rfl, rfl⟩
  simp only [scanLimited, belowFloor_encodeStore, Bool.false_eq_true, if_false,
    decodeRecs_iterate_encodeStore c.q hk (ble_encodeBound hab), workerActs_plain_norm hc, seg_bounds hk]

theorem not_isEmpty_of_lt {a b : Bytes} (hab : cmp a b = .lt) : b.isEmpty = false := by
  cases b with
  | nil => cases a <;> simp at hab
  | cons _ _ => rfl

/-- `hparts`: the partitioned path, taken without a limit; `hlim`: the single worker, taken with one. -/
theorem doList_of_scan (c : Cfg) (s : BState) {a b : Bytes} (hab : cmp a b = .lt) (R n : Nat) {full : List KV}
    (hparts : ∃ outs, scanParts c s.store (encodeBound a) (encodeBound b) (if R == 0 then s.committed else R) = .ok outs ∧
      outs.flatten = full)
    (hlim : ∀ lim, scanLimited c s.store (encodeBound a) (encodeBound b) (if R == 0 then s.committed else R) lim =
      .ok (full.take lim)) :
    doList c s a b R n =
      .ok { hdr := hdrOf s.committed (if n = 0 then full else full.take n),
            more := decide (0 < n ∧ n < full.length),
            kvs := if n = 0 then full else full.take n } := by
  obtain ⟨outs, hp, rfl⟩ := hparts
  have hne : (cmp a b != .lt) = false := by simp [hab]
  unfold doList
  simp only [not_isEmpty_of_lt hab, hne, Bool.false_eq_true, if_false, hp, hlim]
  by_cases hn : n = 0
  · subst hn
    simp
  · have hpos : 0 < n := Nat.pos_of_ne_zero hn
    simp only [List.length_take, List.take_take, Nat.min_eq_left (Nat.le_succ n), hn, if_false, gt_iff_lt,
      Nat.lt_min, Nat.lt_succ_self, hpos, if_true, true_and]

/-! ### the encoded store of a sorted decoded store -/

theorem encode_lt_of_recLt {a b : Rec} (ha : Alphabet a.key ∧ a.rev < 2 ^ 64)
    (hb : Alphabet b.key ∧ b.rev < 2 ^ 64) (h : recLt a b) :
    cmp (encode a.key a.rev) (encode b.key b.rev) = .lt := by
  rw [encode_cmp ha.1 hb.1 ha.2 hb.2]
  rcases h with h | ⟨h1, h2⟩
  · have : a.key ≠ b.key := by
      intro e; rw [e] at h; exact cmp_lt_irrefl h
    simp [this, h]
  · simp [h1, Nat.compare_eq_lt, h2]

theorem encodeStore_sorted {recs : List Rec} (hs : SortedRecs recs)
    (hk : ∀ r ∈ recs, Alphabet r.key ∧ r.rev < 2 ^ 64) : Store.Sorted (encodeStore recs) := by
  rw [Store.sorted_iff_pairwise, encodeStore, List.pairwise_map]
  exact List.Pairwise.imp_of_mem (fun ha hb h => encode_lt_of_recLt (hk _ ha) (hk _ hb) h) hs

end KB
