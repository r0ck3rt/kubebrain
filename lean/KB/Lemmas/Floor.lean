/- The compaction record (floor, C08): its key is no object key, so neither a write nor a call of a compaction pass
touches it, and `doCompact` — `setCompactRecord`, then `checkCompactRace` per border pair — leaves it at
max(floor before, revision compacted at). -/
import KB.Backend
import KB.Lemmas.Coder
import KB.Lemmas.Engine
import KB.Lemmas.Pass
import KB.Lemmas.Writes
namespace KB
open Generated

/-! ### the compaction key is not an object key -/

/-- nine bytes from its end an object key has the split byte -/
theorem encode_ne_of_tail {s t : Bytes} {b : Nat} (hb : b ≠ splitByte) (ht : t.length = 8) (k : Bytes) (r : Nat) :
    encode k r ≠ s ++ b :: t := by
  intro h
  have h' : (magic ++ k) ++ splitByte :: be64 r = s ++ b :: t := by rwa [List.append_assoc]
  have := List.append_inj_right' h' (by simp [ht, be64])
  exact hb (List.cons.inj this).1.symm

theorem decode_ne_of_tail {s t : Bytes} {b : Nat} (hb : b ≠ splitByte) (ht : t.length = 8) (k : Bytes) (r : Nat) :
    decode (s ++ b :: t) ≠ .ok k r := by
  intro h
  have hi : (s ++ b :: t).getD ((s ++ b :: t).length - 9) 0 = b := by
    simp [ht, List.getD_eq_getElem?_getD]
  unfold decode at h
  rw [hi, if_pos (c := (b != splitByte) = true) (by simpa using hb)] at h
  simp only [ite_self] at h
  cases h

theorem compactKeyOf_eq (c : Cfg) :
    compactKeyOf c = (c.pfx ++ [47, 99, 111]) ++ 109 :: [112, 97, 99, 116, 95, 107, 101, 121] := by
  simp [compactKeyOf, compactKeyName]

theorem compactKey_ne_encode (c : Cfg) (k : Bytes) (r : Nat) : encode k r ≠ compactKeyOf c :=
  compactKeyOf_eq c ▸ encode_ne_of_tail (by decide) rfl k r

theorem ne_compactKey_of_decode {c : Cfg} {ik k : Bytes} {r : Nat} (h : decode ik = .ok k r) :
    ik ≠ compactKeyOf c := by
  rintro rfl
  rw [compactKeyOf_eq] at h
  exact decode_ne_of_tail (by decide) rfl k r h

/-! ### writes only `put` under encoded keys -/

def BOp.putsAway (k0 : Bytes) : BOp → Prop
  | .pine k _ => k ≠ k0
  | .cas k _ _ => k ≠ k0
  | .put k _ => k ≠ k0
  | _ => False

theorem applyOp_keeps_get {q : Quirks} {s s' : Store} {idx : Nat} {op : BOp} {k0 : Bytes}
    (hop : op.putsAway k0) (h : applyOp q s idx op = .ok s') : s'.get k0 = s.get k0 := by
  have hput : ∀ k v, k ≠ k0 → (s.put k v).get k0 = s.get k0 := fun k v hk =>
    (Store.get_put_any s k k0 v).trans (if_neg (Ne.symm hk))
  cases op with
  | pine k v =>
    simp only [applyOp] at h
    split at h
    · cases h
    · cases h; exact hput k v hop
  | cas k new old =>
    simp only [applyOp] at h
    split at h
    · split at h <;> cases h
    · split at h
      · cases h; exact hput k new hop
      · cases h
  | put k v => cases h; exact hput k v hop
  | del k => exact hop.elim
  | delcur k v => exact hop.elim

theorem applyOps_keeps_get {q : Quirks} {k0 : Bytes} (ops : List BOp) (hops : ∀ op ∈ ops, op.putsAway k0)
    (s s' : Store) (idx : Nat) (h : applyOps q s idx ops = .ok s') : s'.get k0 = s.get k0 := by
  induction ops generalizing s idx with
  | nil => simp only [applyOps, Except.ok.injEq] at h; subst h; rfl
  | cons op ops ih =>
    simp only [applyOps] at h
    cases ha : applyOp q s idx op with
    | error e => simp [ha] at h
    | ok s1 =>
      simp only [ha] at h
      rw [ih (fun o ho => hops o (List.mem_cons_of_mem _ ho)) s1 (idx + 1) h]
      exact applyOp_keeps_get (hops op (List.mem_cons_self ..)) ha

theorem doCommit_keeps_get (c : Cfg) {k0 : Bytes} (ops : List BOp) (hops : ∀ op ∈ ops, op.putsAway k0)
    (st : Store) (f : Fault) : (doCommit c st ops f).2.get k0 = st.get k0 := by
  unfold doCommit
  cases hcm : commit c.q st ops with
  | error e => cases e <;> rfl
  | ok st' =>
    have := applyOps_keeps_get ops hops st st' 0 hcm
    cases f <;> simp [this]

theorem doCommit_pair_keeps_get (c : Cfg) {k0 : Bytes} {a b : BOp} (st : Store) (f : Fault) (ha : a.putsAway k0)
    (hb : b.putsAway k0) : (doCommit c st [a, b] f).2.get k0 = st.get k0 :=
  doCommit_keeps_get c _ (fun _ h => by
    rcases List.mem_cons.1 h with rfl | h
    · exact ha
    · exact List.mem_singleton.1 h ▸ hb) st f

theorem floorOf_congr (c : Cfg) {st st' : Store} (h : st'.get (compactKeyOf c) = st.get (compactKeyOf c)) :
    floorOf c st' = floorOf c st := by
  unfold floorOf; rw [h]

def KeepsGet {α : Type} (k0 : Bytes) (st : Store) (x : α × BState) : Prop := x.2.store.get k0 = st.get k0

theorem KeepsGet.seq {α : Type} {k0 : Bytes} {st : Store} {s : BState} (h : s.store.get k0 = st.get k0) (a : α)
    (w : WEvent) : KeepsGet k0 st (a, sequence s w) := by
  unfold KeepsGet; rwa [sequence_store]

theorem KeepsGet.writeEnd {k0 : Bytes} {st : Store} {x : CommitRes × Store} (h : x.2.get k0 = st.get k0) (c : Cfg)
    (s : BState) (w : WEvent) (reread : Bool) (dflt : Option (Bytes × Bytes × Nat)) :
    KeepsGet k0 st (writeEnd c s w reread dflt x) :=
  .seq h ..

section
variable {k0 : Bytes} (hk : ∀ k r, encode k r ≠ k0) (c : Cfg)
include hk

theorem cas_put_keeps (st : Store) (key new old val : Bytes) (rev : Nat) (f : Fault) :
    (doCommit c st [BOp.cas (idxKey key) new old, BOp.put (encode key rev) val] f).2.get k0 = st.get k0 :=
  doCommit_pair_keeps_get c st f (hk key 0) (hk key rev)

theorem pine_put_keeps (st : Store) (key new val : Bytes) (rev : Nat) (f : Fault) :
    (doCommit c st [BOp.pine (idxKey key) new, BOp.put (encode key rev) val] f).2.get k0 = st.get k0 :=
  doCommit_pair_keeps_get c st f (hk key 0) (hk key rev)

theorem creatorCreate_keeps (st : Store) (key val : Bytes) (rev : Nat) (fs : List Fault) :
    (creatorCreate c st key val rev fs).2.1.get k0 = st.get k0 := by
  unfold creatorCreate
  extract_lets ops1
  split
  split
  rename_i hc
  have hst := (congrArg (·.2.get k0) hc).symm.trans (pine_put_keeps hk c ..)
  split
  · extract_lets old
    clear_value old
    split
    · split
      split
      rename_i hc2
      exact (congrArg (·.2.get k0) hc2).symm.trans ((pine_put_keeps hk c ..).trans hst)
    · split
      · exact hst
      · split
        · split
          split
          rename_i hc2
          exact (congrArg (·.2.get k0) hc2).symm.trans ((cas_put_keeps hk c ..).trans hst)
        · exact hst
  · exact hst

theorem doCreate_keeps (s : BState) (k v : Bytes) (fs : List Fault) : KeepsGet k0 s.store (doCreate c s k v fs) :=
  doCreate_eq c s k v fs ▸ .writeEnd (creatorCreate_keeps hk c ..) ..

theorem doUpdate_keeps (s : BState) (k v : Bytes) (e : Nat) (fs : List Fault) :
    KeepsGet k0 s.store (doUpdate c s k v e fs) := by
  rw [doUpdate_eq]
  exact iteInduction (fun _ => .writeEnd (creatorCreate_keeps hk c ..) ..) fun _ =>
    iteInduction (fun _ => .seq rfl ..) fun _ => .writeEnd (cas_put_keeps hk c ..) ..

theorem doDelete_keeps (s : BState) (k : Bytes) (e : Nat) (fs : List Fault) :
    KeepsGet k0 s.store (doDelete c s k e fs) := by
  rw [doDelete_eq]
  cases bget c s.store k 0 with
  | notFound _ => exact .seq rfl ..
  | found old m =>
    exact iteInduction (fun _ => .seq rfl ..) fun _ => iteInduction (fun _ => .writeEnd rfl ..) fun _ =>
      iteInduction (fun _ => .seq rfl ..) fun _ => .writeEnd (cas_put_keeps hk c ..) ..
end

/-! ### compaction deletes -/

def Act.avoids (k0 : Bytes) : Act → Prop
  | .del ik _ => ik ≠ k0
  | .delcur ik _ _ => ik ≠ k0
  | .expire ik _ vers _ => ik ≠ k0 ∧ k0 ∉ vers
  | _ => True

theorem runDelete_keeps_get {mask : Nat → DelOutcome} {st : CompState} {a : Act} {k0 v : Bytes}
    (ha : a.avoids k0) (hg : st.store.get k0 = some v) : (runDelete mask st a).store.get k0 = some v := by
  have he : ∀ ik, ik ≠ k0 → (st.store.erase ik).get k0 = some v := fun ik h =>
    Store.get_erase_of_some _ _ _ _ (Ne.symm h) hg
  have ite {c : Prop} [Decidable c] {a b : CompState} (ha : a.store.get k0 = some v) (hb : b.store.get k0 = some v) :
      (if c then a else b).store.get k0 = some v :=
    iteInduction (motive := fun x : CompState => x.store.get k0 = some v) (fun _ => ha) fun _ => hb
  cases a with
  | del ik raw =>
    refine ite hg ?_
    cases mask st.calls with
    | ok => exact he ik ha
    | fail => exact hg
    | failCas => exact hg
  | delcur ik w raw =>
    refine ite hg ?_
    cases mask st.calls with
    | ok => exact ite (he ik ha) hg
    | fail => exact hg
    | failCas => exact hg
  | _ => exact hg

theorem runDeletes_keeps_get {mask : Nat → DelOutcome} {k0 v : Bytes} (acts : List Act)
    (ha : ∀ a ∈ acts, a.avoids k0) (st : CompState) (hg : st.store.get k0 = some v) :
    (runDeletes mask st acts).store.get k0 = some v :=
  List.foldlRecOn (motive := fun x : CompState => x.store.get k0 = some v) acts _ hg fun _ h a ha' => runDelete_keeps_get (ha a ha') h

theorem foldl_erase_keeps_get (vers : List Bytes) (s : Store) {k0 v : Bytes} (h : k0 ∉ vers)
    (hg : s.get k0 = some v) : (vers.foldl Store.erase s).get k0 = some v :=
  List.foldlRecOn (motive := fun x : Store => x.get k0 = some v) vers _ hg fun _ hs x hx =>
    Store.get_erase_of_some _ _ _ _ (fun e : k0 = x => h (e ▸ hx)) hs

theorem runAct_keeps_get {mask : Nat → DelOutcome} {st : CompState} {a : Act} {k0 v : Bytes}
    (ha : a.avoids k0) (hg : st.store.get k0 = some v) : (runAct mask st a).store.get k0 = some v := by
  cases a with
  | expire ik w vers raw =>
    obtain ⟨h1, h2⟩ : ik ≠ k0 ∧ k0 ∉ vers := ha
    show (runExpire mask st ik w vers raw).store.get k0 = some v
    rcases runExpire_cases mask st ik w vers raw with ⟨_, e, _⟩ | ⟨_, _, _, _, e, _⟩ | ⟨_, _, e, _⟩ <;> rw [e]
    · exact hg
    · exact foldl_erase_keeps_get vers _ h2 (Store.get_erase_of_some _ _ _ _ (Ne.symm h1) hg)
    · exact hg
  | _ => exact runDelete_keeps_get (mask := mask) ha hg

theorem runActs_keeps_get {mask : Nat → DelOutcome} {k0 v : Bytes} (acts : List Act)
    (ha : ∀ a ∈ acts, a.avoids k0) (st : CompState) (hg : st.store.get k0 = some v) :
    (runActs mask st acts).store.get k0 = some v :=
  List.foldlRecOn (motive := fun x : CompState => x.store.get k0 = some v) acts _ hg fun _ h a ha' => runAct_keeps_get (ha a ha') h

theorem decodeRecs_decoded (l : List (Bytes × Bytes)) (recs : List Rec) (h : decodeRecs l = some recs) :
    ∀ r ∈ recs, decode r.ik = .ok r.key r.rev := by
  induction l generalizing recs with
  | nil => simp only [decodeRecs, Option.some.injEq] at h; subst h; simp
  | cons x rest ih =>
    obtain ⟨ik, v⟩ := x
    simp only [decodeRecs] at h
    cases hd : decode ik with
    | panic => simp [hd] at h
    | err => simp only [hd] at h; exact ih recs h
    | ok k r =>
      simp only [hd, Option.map_eq_some_iff] at h
      obtain ⟨l', hl', rfl⟩ := h
      intro x hx
      rcases List.mem_cons.1 hx with rfl | hx
      · exact hd
      · exact ih l' hl' x hx

theorem decodeRecs_ne_compactKey (c : Cfg) {l : List (Bytes × Bytes)} {recs : List Rec}
    (h : decodeRecs l = some recs) : ∀ r ∈ recs, r.ik ≠ compactKeyOf c :=
  fun r hr => ne_compactKey_of_decode (decodeRecs_decoded l recs h r hr)

theorem workerActs_avoids (c : Cfg) (w : WCfg) (l : List (Bytes × Bytes)) (recs : List Rec)
    (h : decodeRecs l = some recs) : ∀ a ∈ workerActs w recs, a.avoids (compactKeyOf c) :=
  have hr := decodeRecs_ne_compactKey c h
  workerLoop_all (fun _ _ _ => trivial) (compactKey_ne_encode c) w recs (fun r h => ⟨hr r h, hr r h⟩) _

/-- `hsnap`: the versions an expiry batch names are internal keys of the snapshot -/
theorem passLoop_avoids {c : WCfg} {k0 : Bytes} (hk : ∀ k rv, encode k rv ≠ k0) (mask : Nat → DelOutcome)
    (snap : List Rec) (hsnap : ∀ r ∈ snap, r.ik ≠ k0)
    (recs : List Rec) (hr : ∀ r ∈ recs, r.ik ≠ k0) (p : Prev) (live gone : Bytes) (st : CompState) :
    ∀ a ∈ (passLoop c mask snap p live gone st recs).1, a.avoids k0 := by
  refine passLoop_all (fun _ _ _ => trivial) hk c mask snap recs (fun r h => ⟨hr r h, hr r h, ⟨hr r h, fun hm => ?_⟩,
    fun _ _ _ _ _ => trivial⟩) p live gone st
  obtain ⟨w, hw, _, _, _, e⟩ := mem_versionsOf.1 hm
  exact hsnap w hw e

theorem passRun_keeps_get (c : Cfg) (w : WCfg) (mask : Nat → DelOutcome) (l : List (Bytes × Bytes))
    (recs : List Rec) (h : decodeRecs l = some recs) (st : CompState) {v : Bytes}
    (hg : st.store.get (compactKeyOf c) = some v) :
    (passRun w mask st recs).2.store.get (compactKeyOf c) = some v := by
  have hr := decodeRecs_ne_compactKey c h
  rw [passRun_eq, passLoop_run]
  exact runActs_keeps_get _ (passLoop_avoids (compactKey_ne_encode c) mask recs hr recs hr _ _ _ _) _ hg

theorem scanParts_below {c : Cfg} {st : Store} {rev : Nat} (h : rev < floorOf c st) (x y : Bytes) :
    scanParts c st x y rev = .error .belowFloor := by
  unfold scanParts; exact if_pos (decide_eq_true h)

theorem scanLimited_below {c : Cfg} {st : Store} {rev : Nat} (h : rev < floorOf c st) (x y : Bytes) (lim : Nat) :
    scanLimited c st x y rev lim = .error .belowFloor := by
  unfold scanLimited; exact if_pos (decide_eq_true h)

theorem take8_be8 (r : Nat) : (be8 r).take 8 = be8 r := by
  apply List.take_of_length_le; simp [be8, be64]

theorem floorOf_put (c : Cfg) (st : Store) (r : Nat) (hr : r < 2 ^ 64) :
    floorOf c (st.put (compactKeyOf c) (be8 r)) = r := by
  simp only [floorOf, Store.get_put_any, if_true, take8_be8]
  exact fromBE_be64 hr

theorem floorOf_of_get {c : Cfg} {st : Store} {v : Bytes} (h : st.get (compactKeyOf c) = some v) :
    floorOf c st = fromBE (v.take 8) := by simp [floorOf, h]

/-- the `if`: the store `compactRange` has after `checkCompactRace(compact = true)` -/
theorem raised_record (c : Cfg) (st : Store) {rev : Nat} (hrev : rev < 2 ^ 64) :
    ∃ v, (if st.get (compactKeyOf c) == none || floorOf c st < rev then st.put (compactKeyOf c) (be8 rev)
        else st).get (compactKeyOf c) = some v ∧ fromBE (v.take 8) = max (floorOf c st) rev := by
  split
  · rename_i h
    refine ⟨be8 rev, (Store.get_put_any _ _ _ _).trans (if_pos rfl), ?_⟩
    rw [take8_be8, be8, fromBE_be64 hrev]
    simp only [Bool.or_eq_true, beq_iff_eq, decide_eq_true_eq] at h
    rcases h with h | h
    · simp [floorOf, h]
    · omega
  · rename_i h
    simp only [Bool.or_eq_true, beq_iff_eq, decide_eq_true_eq, not_or] at h
    cases hg : st.get (compactKeyOf c) with
    | none => exact absurd hg h.1
    | some v =>
      refine ⟨v, rfl, ?_⟩
      rw [← floorOf_of_get hg]; omega

theorem compactRange_floor (c : Cfg) (s : BState) (a b : Bytes) (rev : Nat) (mask : Nat → DelOutcome)
    (calls : Nat) (hrev : rev < 2 ^ 64) :
    floorOf c (compactRange c s a b rev mask calls).1.store = max (floorOf c s.store) rev := by
  unfold compactRange
  extract_lets marks cur store
  obtain ⟨v, hv, hfl⟩ : ∃ v, store.get (compactKeyOf c) = some v ∧ fromBE (v.take 8) = max cur rev :=
    raised_record c s.store hrev
  clear_value store
  split
  · exact (floorOf_of_get hv).trans hfl
  · split
    split
    rename_i cs pan hfold
    have : (cs, pan).1.store.get (compactKeyOf c) = some v := by
      rw [← hfold]
      refine List.foldlRecOn (motive := fun acc : CompState × Bool => acc.1.store.get (compactKeyOf c) = some v) _ _ hv
        fun acc hacc p _ => ?_
      cases hd : decodeRecs (iterate c.q store p.1 p.2 0) with
      | none => exact hacc
      | some recs => exact passRun_keeps_get c _ mask _ recs hd _ hacc
    exact (floorOf_of_get this).trans hfl
/-- the revision `Backend.Compact` actually compacts at -/
def clampRev (s : BState) (rev : Nat) : Nat :=
  let r := if rev == 0 || rev > s.committed then s.committed else rev
  match s.retryQ.head? with
  | some w => min (w.rev - 1) r
  | none => r

theorem clampRev_le (s : BState) (rev : Nat) : clampRev s rev ≤ s.committed := by
  unfold clampRev
  have : (if rev == 0 || rev > s.committed then s.committed else rev) ≤ s.committed := by
    split
    · exact Nat.le_refl _
    · rename_i h; simp at h; omega
  simp only []
  split <;> omega

/-- `setCompactRecord` -/
def setRecord (c : Cfg) (st : Store) (r : Nat) : Store :=
  match st.get (compactKeyOf c) with
  | some v => if v.length > 0 && fromBE (v.take 8) > r then st else st.put (compactKeyOf c) (be8 r)
  | none => st.put (compactKeyOf c) (be8 r)

def compactFold (c : Cfg) (s : BState) (r : Nat) (mask : Nat → DelOutcome) : BState × Nat × Bool :=
  (pairs (compactBorders c)).foldl (fun (acc : BState × Nat × Bool) b =>
      let (s', calls, p) := compactRange c acc.1 b.1 b.2 r mask acc.2.1
      (s', calls, acc.2.2 || p)) (s, 0, false)

theorem doCompact_eq (c : Cfg) (s : BState) (rev : Nat) (mask : Nat → DelOutcome) :
    doCompact c s rev mask =
      (if (compactFold c { s with store := setRecord c s.store (clampRev s rev) } (clampRev s rev) mask).2.2
        then .panic else .ok (clampRev s rev),
       (compactFold c { s with store := setRecord c s.store (clampRev s rev) } (clampRev s rev) mask).1) := by
  unfold doCompact
  extract_lets cur r1 r2 stored store s1
  -- one definition at a time: a single `rfl` compares the two sides far more slowly
  have h1 : clampRev s rev = r2 := rfl
  have h2 : setRecord c s.store r2 = store := rfl
  rw [h1, h2]
  rfl

theorem ok_of_ite_panic {b : Bool} {r R : Nat} (h : (if b then ScanRes.panic else .ok r) = .ok R) : R = r := by
  cases b <;> cases h
  rfl

theorem doCompact_fst (c : Cfg) (s : BState) (rev : Nat) (mask : Nat → DelOutcome) (R : Nat)
    (h : (doCompact c s rev mask).1 = .ok R) : R = clampRev s rev :=
  ok_of_ite_panic (doCompact_eq c s rev mask ▸ h)

theorem setRecord_floor (c : Cfg) (st : Store) (r : Nat) (hr : r < 2 ^ 64) :
    floorOf c (setRecord c st r) = max (floorOf c st) r := by
  unfold setRecord
  cases hg : st.get (compactKeyOf c) with
  | none =>
    simp only [floorOf_put c st r hr]
    simp [floorOf, hg]
  | some v =>
    simp only []
    split
    · rename_i h
      simp only [Bool.and_eq_true, decide_eq_true_eq] at h
      rw [floorOf_of_get hg]; omega
    · rename_i h
      simp only [Bool.and_eq_true, decide_eq_true_eq, not_and] at h
      rw [floorOf_put c st r hr, floorOf_of_get hg]
      by_cases hl : v.length > 0
      · have := h hl; omega
      · have : v = [] := List.length_eq_zero_iff.mp (by omega)
        subst this
        simp [fromBE]

theorem compactFold_floor (c : Cfg) (s : BState) (r : Nat) (mask : Nat → DelOutcome) (hr : r < 2 ^ 64)
    (hs : r ≤ floorOf c s.store) :
    floorOf c (compactFold c s r mask).1.store = floorOf c s.store := by
  unfold compactFold
  refine List.foldlRecOn (motive := fun acc : BState × Nat × Bool => floorOf c acc.1.store = floorOf c s.store) _ _ rfl
    fun acc hacc b _ => ?_
  simp only [compactRange_floor c acc.1 b.1 b.2 r mask acc.2.1 hr, hacc]
  omega

theorem doCompact_floor (c : Cfg) (s : BState) (rev : Nat) (mask : Nat → DelOutcome)
    (hrev : clampRev s rev < 2 ^ 64) :
    floorOf c (doCompact c s rev mask).2.store = max (floorOf c s.store) (clampRev s rev) := by
  rw [doCompact_eq]
  simp only []
  rw [compactFold_floor c _ _ mask hrev]
  · exact setRecord_floor c s.store _ hrev
  · simp only [setRecord_floor c s.store _ hrev]; omega
end KB

