/-
  The three inductive invariants of KB.Server's follower read-sync LTS used by KB.Props.C18.  `InvAsIs` holds for
  every variant with the monotone store and is the core of the other two: non-overlapping reads (`InvSeq`) and the
  proposed repair (`InvFixed`) each add a reason why the reads that matter are not late.
-/
import KB.Server
namespace KB.Server

theorem upd_apply (f : Nat → Read) (r : Nat) (x : Read) (i : Nat) :
    upd f r x i = if i = r then x else f i := rfl

theorem forall_upd {P : Read → Prop} {f : Nat → Read} {r : Nat} {x : Read} (hf : ∀ i, P (f i)) (hx : P x)
    (i : Nat) : P (upd f r x i) := by
  rw [upd_apply]; split
  · exact hx
  · exact hf i

theorem deliver_of_not_waiting {vt : Variant} {v : Option Nat} {x : Read} (h : x.phase ≠ .waiting) :
    deliver vt v x = x := by
  unfold deliver
  split
  · contradiction
  · rfl

inductive Steps (vt : Variant) (s : State) : Step → State → Prop
  | leaderCommit : Steps vt s .leaderCommit { s with leaderRev := s.leaderRev + 1 }
  | readBegin (r : Nat) : (s.reads r).phase = .idle →
      Steps vt s (.readBegin r) { s with reads := upd s.reads r { phase := .begun, beginRev := s.leaderRev } }
  | fetchStart (r : Nat) : (s.reads r).phase = .begun → s.flight = .none →
      Steps vt s (.fetchStart r)
        { s with flight := .pending, reads := upd s.reads r { s.reads r with phase := .waiting, late := false } }
  | fetchJoin (r : Nat) (b : Bool) : (s.reads r).phase = .begun →
      (s.flight = .pending ∧ b = false ∨ (∃ v, s.flight = .answered v) ∧ b = true) →
      Steps vt s (.fetchJoin r) { s with reads := upd s.reads r { s.reads r with phase := .waiting, late := b } }
  | leaderAnswer (b : LeaderBehaviour) : s.flight = .pending →
      Steps vt s (.leaderAnswer b)
        { s with flight := .answered (match b with | .ok => some s.leaderRev | _ => none) }
  | fetchReply (v : Option Nat) : s.flight = .answered v →
      Steps vt s .fetchReply { s with flight := .none, reads := fun i => deliver vt v (s.reads i) }
  | setRev (r v : Nat) : (s.reads r).phase = .got (some v) →
      Steps vt s (.setRev r)
        { s with followerRev := if vt.monotoneSet then max s.followerRev v else v,
                 reads := upd s.reads r { s.reads r with phase := .synced, fetched := some v } }
  | setRevFailed (r : Nat) : (s.reads r).phase = .got none →
      Steps vt s (.setRev r) { s with reads := upd s.reads r { s.reads r with phase := .failed } }
  | readServe (r : Nat) : (s.reads r).phase = .synced →
      Steps vt s (.readServe r) { s with reads := upd s.reads r { s.reads r with phase := .served s.followerRev } }

theorem step_steps {vt : Variant} {s s' : State} {st : Step} (h : step vt s st = some s') : Steps vt s st s' := by
  cases st <;> simp only [step] at h
  case leaderCommit => cases h; exact .leaderCommit
  all_goals split at h <;> cases h
  · exact .readBegin _ ‹_›
  · exact .fetchStart _ ‹_› ‹_›
  · exact .fetchJoin _ _ ‹_› (.inl ⟨‹_›, rfl⟩)
  · exact .fetchJoin _ _ ‹_› (.inr ⟨⟨_, ‹_›⟩, rfl⟩)
  · exact .leaderAnswer _ ‹_›
  · exact .fetchReply _ ‹_›
  · exact .setRev _ _ ‹_›
  · exact .setRevFailed _ ‹_›
  · exact .readServe _ ‹_›

theorem run_append {vt : Variant} {s s' : State} {tr : List Step} {st : Step}
    (h : run vt s tr = some s') : run vt s (tr ++ [st]) = step vt s' st := by
  induction tr generalizing s with
  | nil => cases h; simp only [List.nil_append, run]; cases step vt s' st <;> rfl
  | cons a rest ih =>
    simp only [run, List.cons_append] at h ⊢
    cases hs : step vt s a with
    | none => simp [hs] at h
    | some s1 => simp only [hs] at h ⊢; exact ih h

theorem run_induction {vt : Variant} {P : State → Prop} (hs : ∀ s s' st, P s → step vt s st = some s' → P s')
    {tr : List Step} {s s' : State} (hp : P s) (h : run vt s tr = some s') : P s' := by
  induction tr generalizing s with
  | nil => cases h; exact hp
  | cons a rest ih =>
    simp only [run] at h
    split at h
    · exact ih (hs _ _ _ hp ‹_›) h
    · cases h

theorem reachable_induction {vt : Variant} {P : State → Prop} (h0 : ∀ n, P (init n))
    (hs : ∀ s s' st, P s → step vt s st = some s' → P s') : ∀ s, Reachable vt s → P s :=
  fun _ ⟨n, _, hr⟩ => run_induction hs (h0 n) hr

theorem followerRev_step_mono {vt : Variant} (hm : vt.monotoneSet = true) {s s' : State} {st : Step}
    (h : step vt s st = some s') : s.followerRev ≤ s'.followerRev := by
  cases step_steps h with
  | setRev _ v => rw [hm]; exact Nat.le_max_left _ v
  | _ => exact Nat.le_refl _

theorem followerRev_run_mono {vt : Variant} (hm : vt.monotoneSet = true) {tr : List Step} {s s' : State}
    (h : run vt s tr = some s') : s.followerRev ≤ s'.followerRev :=
  run_induction (P := fun t => s.followerRev ≤ t.followerRev)
    (fun _ _ _ hp hst => Nat.le_trans hp (followerRev_step_mono hm hst)) (Nat.le_refl _) h

/-- Invariant of the code as it is (monotone store, late joiners served), any interleaving. -/
structure InvAsIs (s : State) : Prop where
  begin_le : ∀ r, (s.reads r).phase ≠ .idle → (s.reads r).beginRev ≤ s.leaderRev
  wait : ∀ r v, (s.reads r).phase = .waiting → (s.reads r).late = false → s.flight = .answered (some v) →
    (s.reads r).beginRev ≤ v
  got : ∀ r v, (s.reads r).phase = .got (some v) → (s.reads r).late = false → (s.reads r).beginRev ≤ v
  own : ∀ r v, (s.reads r).fetched = some v → (s.reads r).late = false → (s.reads r).beginRev ≤ v
  fetched : ∀ r, (s.reads r).phase = .synced ∨ (∃ v, (s.reads r).phase = .served v) → (s.reads r).fetched ≠ none
  nofetch : ∀ r, (s.reads r).fetched ≠ none → (s.reads r).phase = .synced ∨ ∃ v, (s.reads r).phase = .served v
  stored_le : ∀ r v, (s.reads r).fetched = some v → v ≤ s.followerRev
  served_ge : ∀ r v w, (s.reads r).phase = .served v → (s.reads r).fetched = some w → w ≤ v

/-- Every field of `InvAsIs` speaks of one read at a time; with `pointwise` this turns the preservation of the
invariant by a step into statements about a single, explicit `Read`. -/
theorem InvAsIs.at {s : State} (hi : InvAsIs s) (r : Nat) : InvAsIs { s with reads := fun _ => s.reads r } :=
  ⟨fun _ => hi.begin_le r, fun _ => hi.wait r, fun _ => hi.got r, fun _ => hi.own r, fun _ => hi.fetched r,
   fun _ => hi.nofetch r, fun _ => hi.stored_le r, fun _ => hi.served_ge r⟩

theorem InvAsIs.pointwise {s : State} (hi : ∀ r, InvAsIs { s with reads := fun _ => s.reads r }) : InvAsIs s :=
  ⟨fun r => (hi r).begin_le r, fun r => (hi r).wait r, fun r => (hi r).got r, fun r => (hi r).own r,
   fun r => (hi r).fetched r, fun r => (hi r).nofetch r, fun r => (hi r).stored_le r, fun r => (hi r).served_ge r⟩

theorem InvAsIs.setRead {s : State} {r : Nat} {x : Read} (hi : InvAsIs s)
    (hx : InvAsIs { s with reads := fun _ => x }) : InvAsIs { s with reads := upd s.reads r x } :=
  .pointwise (forall_upd (P := fun y => InvAsIs { s with reads := fun _ => y }) hi.at hx)

theorem InvAsIs.setFlight {s : State} (hi : InvAsIs s) {fl : Flight} (hfl : ∀ v, fl ≠ .answered (some v)) :
    InvAsIs { s with flight := fl } :=
  { hi with wait := fun _ v _ _ hf => absurd hf (hfl v) }

/-- A read enters `flight.Do`: it is marked late unless the flight is still unanswered. -/
theorem InvAsIs.startWaiting {s : State} {r : Nat} {b : Bool} (hi : InvAsIs s)
    (hph : (s.reads r).phase = .begun) (hb : b = false → ∀ v, s.flight ≠ .answered (some v)) :
    InvAsIs { s with reads := upd s.reads r { s.reads r with phase := .waiting, late := b } } := by
  refine hi.setRead ?_
  have h6 := hi.nofetch r
  simp [hph] at h6
  constructor <;> simp [hph, hi.begin_le r, h6]
  case wait => exact fun v hb' hf => absurd hf (hb hb' v)

/-- In each case the fields that `simp` does not close from the new phase alone are the ones the step is about. -/
theorem invAsIs_step {vt : Variant} (hm : vt.monotoneSet = true) {s s' : State} {st : Step}
    (h : step vt s st = some s') (hi : InvAsIs s) : InvAsIs s' := by
  cases step_steps h with
  | leaderCommit => exact { hi with begin_le := fun r hr => Nat.le_succ_of_le (hi.begin_le r hr) }
  | readBegin r => exact hi.setRead (by constructor <;> simp)
  | fetchStart r hph => exact (hi.setFlight (fl := .pending) nofun).startWaiting hph nofun
  | fetchJoin r b hph hfl =>
    refine hi.startWaiting hph ?_
    rintro rfl v hv
    simp [hv] at hfl
  | leaderAnswer b =>
    -- the answer is the leader's revision now, which is ≥ the begin revision of every read begun so far
    refine { hi with wait := fun r v (hp : (s.reads r).phase = .waiting) _ (hf : Flight.answered _ = _) => ?_ }
    cases b <;> cases hf
    exact hi.begin_le r (by simp [hp])
  | fetchReply w hfl =>
    refine .pointwise fun i => ?_
    show InvAsIs { s with flight := .none, reads := fun _ => deliver vt w (s.reads i) }
    by_cases hw : (s.reads i).phase = .waiting
    · have h6 := hi.nofetch i
      simp [hw] at h6
      simp only [deliver, hw]
      split
      · constructor <;> simp [hw, hi.begin_le i, h6]
      · constructor <;> simp [hw, hi.begin_le i, h6]
        case got => exact fun v hv hl => hi.wait i v hw hl (hv ▸ hfl)
    · rw [deliver_of_not_waiting hw]
      exact (hi.setFlight (fl := .none) nofun).at i
  | setRev r v hph =>
    rw [hm, if_pos rfl]
    have hi' : InvAsIs { s with followerRev := max s.followerRev v } :=
      { hi with stored_le := fun i w hw => Nat.le_trans (hi.stored_le i w hw) (Nat.le_max_left _ _) }
    refine hi'.setRead ?_
    constructor <;> simp [hph, hi.begin_le r]
    case own => exact hi.got r v hph
    case stored_le => exact Nat.le_max_right _ _
  | setRevFailed r hph =>
    refine hi.setRead ?_
    have h6 := hi.nofetch r
    simp [hph] at h6
    constructor <;> simp [hph, hi.begin_le r, h6]
  | readServe r hph =>
    refine hi.setRead ?_
    constructor <;> simp [hph, hi.begin_le r, hi.fetched r]
    case own => exact hi.own r
    case stored_le => exact hi.stored_le r
    case served_ge => rintro _ w rfl hw; exact hi.stored_le r w hw

theorem invAsIs_init (n : Nat) : InvAsIs (init n) := by
  constructor <;> simp [init]

theorem invAsIs_reachable {vt : Variant} (hm : vt.monotoneSet = true) : ∀ s, Reachable vt s → InvAsIs s :=
  reachable_induction invAsIs_init (fun _ _ _ hp h => invAsIs_step hm h hp)

theorem InvAsIs.fetched_some {s : State} (hi : InvAsIs s) (r : Nat)
    (hp : (s.reads r).phase = .synced ∨ ∃ v, (s.reads r).phase = .served v) : ∃ w, (s.reads r).fetched = some w :=
  Option.ne_none_iff_exists'.mp (hi.fetched r hp)

theorem InvAsIs.freshOwn {s : State} (hi : InvAsIs s) : FreshOwn s := by
  intro r v hv hl
  obtain ⟨w, hw⟩ := hi.fetched_some r (.inr ⟨v, hv⟩)
  exact Nat.le_trans (hi.own r w hw hl) (hi.served_ge r v w hv hw)

theorem InvAsIs.syncedOwn {s : State} (hi : InvAsIs s) (r : Nat) (hp : (s.reads r).phase = .synced)
    (hl : (s.reads r).late = false) : (s.reads r).beginRev ≤ s.followerRev := by
  obtain ⟨w, hw⟩ := hi.fetched_some r (.inl hp)
  exact Nat.le_trans (hi.own r w hw hl) (hi.stored_le r w hw)

/-- Invariant of non-overlapping executions of the code as it is. -/
structure InvSeq (s : State) : Prop where
  one : ∀ r r', active (s.reads r) = true → active (s.reads r') = true → r = r'
  flightOwner : s.flight ≠ .none → ∃ r, (s.reads r).phase = .waiting
  nolate : ∀ r, (s.reads r).late = false
  begin_le : ∀ r, (s.reads r).phase ≠ .idle → (s.reads r).beginRev ≤ s.leaderRev
  wait : ∀ r v, (s.reads r).phase = .waiting → s.flight = .answered (some v) → (s.reads r).beginRev ≤ v
  got : ∀ r v, (s.reads r).phase = .got (some v) → (s.reads r).beginRev ≤ v
  synced : ∀ r, (s.reads r).phase = .synced → (s.reads r).beginRev ≤ s.followerRev
  served : ∀ r v, (s.reads r).phase = .served v → (s.reads r).beginRev ≤ v

/-- What non-overlap itself gives.  The numeric fields of `InvSeq` are then those of `InvAsIs` for reads that are
not late. -/
structure Solo (s : State) : Prop where
  one : ∀ r r', active (s.reads r) = true → active (s.reads r') = true → r = r'
  flightOwner : s.flight ≠ .none → ∃ r, (s.reads r).phase = .waiting
  nolate : ∀ r, (s.reads r).late = false

theorem Solo.invSeq {s : State} (hs : Solo s) (hi : InvAsIs s) : InvSeq s :=
  { hs with
    begin_le := hi.begin_le
    wait := fun r v hp => hi.wait r v hp (hs.nolate r)
    got := fun r v hp => hi.got r v hp (hs.nolate r)
    synced := fun r hp => hi.syncedOwn r hp (hs.nolate r)
    served := fun r v hp => hi.freshOwn r v hp (hs.nolate r) }

theorem Solo.setRead {s : State} {r : Nat} {x : Read} (hs : Solo s)
    (ha : active x = true → active (s.reads r) = true) (hl : x.late = false)
    (hw : (s.reads r).phase = .waiting → x.phase = .waiting) : Solo { s with reads := upd s.reads r x } := by
  have hact : ∀ i, active (upd s.reads r x i) = true → active (s.reads i) = true := by
    intro i; rw [upd_apply]; split
    · subst i; exact ha
    · exact id
  refine ⟨fun i j hi hj => hs.one i j (hact i hi) (hact j hj), fun hf => ?_,
    forall_upd (P := fun y => y.late = false) hs.nolate hl⟩
  obtain ⟨o, ho⟩ := hs.flightOwner hf
  refine ⟨o, ?_⟩
  show (upd s.reads r x o).phase = .waiting
  rw [upd_apply]; split
  · subst o; exact hw ho
  · exact ho

theorem solo_step {vt : Variant} {s s' : State} {st : Step} (h : step vt s st = some s')
    (hq : ∀ r, st = .readBegin r → ∀ i, active (s.reads i) = false) (hs : Solo s) : Solo s' := by
  cases step_steps h with
  | leaderCommit => exact ⟨hs.one, hs.flightOwner, hs.nolate⟩
  | readBegin r =>
    -- no read is active, so the flight is empty; afterwards only `r` is active
    have hq := hq r rfl
    have hfl : s.flight = .none := Decidable.byContradiction fun hf => by
      obtain ⟨o, ho⟩ := hs.flightOwner hf
      simpa [active, ho] using hq o
    have hact : ∀ k, active (upd s.reads r { phase := .begun, beginRev := s.leaderRev } k) = true → k = r := by
      intro k; rw [upd_apply]; split
      · exact fun _ => ‹k = r›
      · intro hk; simp [hq k] at hk
    exact ⟨fun i j hi hj => (hact i hi).trans (hact j hj).symm, fun hf => absurd hfl hf,
      forall_upd (P := fun y => y.late = false) hs.nolate rfl⟩
  | fetchStart r hph =>
    have := hs.setRead (r := r) (x := { s.reads r with phase := .waiting, late := false })
      (fun _ => by simp [active, hph]) rfl (fun _ => rfl)
    exact { this with flightOwner := fun _ => ⟨r, by simp [upd_apply]⟩ }
  | fetchJoin r b hph hfl =>
    -- impossible: the read in `begun` and the owner of the flight would both be active
    obtain ⟨o, ho⟩ := hs.flightOwner (by rcases hfl with ⟨h, _⟩ | ⟨⟨_, h⟩, _⟩ <;> simp [h])
    have := hs.one r o (by simp [active, hph]) (by simp [active, ho])
    subst this
    simp [hph] at ho
  | leaderAnswer b hfl => exact ⟨hs.one, fun _ => hs.flightOwner (by simp [hfl]), hs.nolate⟩
  | fetchReply w =>
    have hd : ∀ i, active (deliver vt w (s.reads i)) = active (s.reads i) ∧ (deliver vt w (s.reads i)).late = false := by
      intro i
      have := hs.nolate i
      simp only [deliver]
      split
      · split <;> simp_all [active]
      · exact ⟨rfl, this⟩
    exact ⟨fun i j hi hj => hs.one i j ((hd i).1 ▸ hi) ((hd j).1 ▸ hj), fun hf => absurd rfl hf, fun i => (hd i).2⟩
  | setRev r v hph =>
    have hs' : Solo { s with followerRev := if vt.monotoneSet then max s.followerRev v else v } :=
      ⟨hs.one, hs.flightOwner, hs.nolate⟩
    exact hs'.setRead (r := r) (fun _ => by simp [active, hph]) (hs.nolate r) (by simp [hph])
  | setRevFailed r hph | readServe r hph =>
    exact hs.setRead (r := r) (fun _ => by simp [active, hph]) (hs.nolate r) (by simp [hph])

theorem invSeq_reachable {vt : Variant} (hm : vt.monotoneSet = true) (s : State) (hs : ReachableSeq vt s) :
    InvSeq s := by
  suffices Solo s ∧ InvAsIs s from this.1.invSeq this.2
  induction hs with
  | init n => exact ⟨by constructor <;> simp [init, active], invAsIs_init n⟩
  | «begin» r _ hq hst ih => exact ⟨solo_step hst (fun _ _ => hq) ih.1, invAsIs_step hm hst ih.2⟩
  | other st _ hne hst ih =>
    exact ⟨solo_step hst (fun r hr => absurd hr (hne r)) ih.1, invAsIs_step hm hst ih.2⟩

/-! ## The proposed repair -/

structure InvFixed (s : State) : Prop where
  begin_le : ∀ r, (s.reads r).phase ≠ .idle → (s.reads r).beginRev ≤ s.leaderRev
  wait : ∀ r v, (s.reads r).phase = .waiting → (s.reads r).late = false → s.flight = .answered (some v) →
    (s.reads r).beginRev ≤ v
  got : ∀ r v, (s.reads r).phase = .got (some v) → (s.reads r).beginRev ≤ v
  synced : ∀ r, (s.reads r).phase = .synced → (s.reads r).beginRev ≤ s.followerRev
  served : ∀ r v, (s.reads r).phase = .served v → (s.reads r).beginRev ≤ v

/-- With the generation check a late joiner never leaves `flight.Do` with the result it joined. -/
theorem notLate_step {vt : Variant} (hr : vt.retryLateJoin = true) {s s' : State} {st : Step}
    (h : step vt s st = some s') (hl : ∀ r, (s.reads r).phase ≠ .waiting → (s.reads r).late = false) :
    ∀ r, (s'.reads r).phase ≠ .waiting → (s'.reads r).late = false := by
  have key : ∀ r x, (x.phase ≠ .waiting → x.late = false) →
      ∀ i, (upd s.reads r x i).phase ≠ .waiting → (upd s.reads r x i).late = false :=
    fun r x hx => forall_upd (P := fun y => y.phase ≠ .waiting → y.late = false) hl hx
  cases step_steps h with
  | leaderCommit | leaderAnswer => exact hl
  | readBegin r => exact key r _ fun _ => rfl
  | fetchStart r | fetchJoin r => exact key r _ fun h => absurd rfl h
  | fetchReply w =>
    intro i
    have := hl i
    simp only [deliver, hr, Bool.true_and]
    split
    · split <;> simp_all
    · exact this
  | setRev r _ hph | setRevFailed r hph | readServe r hph => exact key r _ fun _ => hl r (by simp [hph])

theorem InvAsIs.invFixed {s : State} (hi : InvAsIs s)
    (hl : ∀ r, (s.reads r).phase ≠ .waiting → (s.reads r).late = false) : InvFixed s where
  begin_le := hi.begin_le
  wait := hi.wait
  got r v hp := hi.got r v hp (hl r (by simp [hp]))
  synced r hp := hi.syncedOwn r hp (hl r (by simp [hp]))
  served r v hp := hi.freshOwn r v hp (hl r (by simp [hp]))

theorem invFixed_reachable (s : State) (hs : Reachable fixed s) : InvFixed s :=
  (invAsIs_reachable rfl s hs).invFixed
    (reachable_induction (fun _ _ _ => rfl) (fun _ _ _ hp h => notLate_step rfl h hp) s hs)

end KB.Server
