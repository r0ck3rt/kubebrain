/-
  Helper lemmas for "no key and no partition border makes the scan index out of range" (/repo 5ace897: `Decode`
  reports a key too short to be an internal key): `decodeRecs`, `adjustBorders`, `scanPartitions` are total, the
  range reads of the backend model (`scanParts`, `scanLimited`, `doList`, `doCount`, `doStream`) never answer
  `ScanRes.panic` — on ANY store, for ANY border bytes, for ANY partitioning — and the one panic left in the
  backend model (the TTL pass of a compaction reading the 8-byte revision of an Event's revision record) is
  characterised.
-/
import KB.Lemmas.Floor
namespace KB
open Generated

/-- `decodeRecs` is total: whatever an iterator yields, keys that are no internal keys (too short ones included)
are skipped. -/
theorem decodeRecs_total (l : List (Bytes × Bytes)) : ∃ recs, decodeRecs l = some recs := by
  induction l with
  | nil => exact ⟨[], rfl⟩
  | cons x xs ih =>
    obtain ⟨ik, v⟩ := x
    obtain ⟨recs, hrecs⟩ := ih
    simp only [decodeRecs]
    cases hd : decode ik with
    | ok k r => simp [hrecs]
    | err => simp [hrecs]
    | panic => exact absurd hd (decode_never_panics ik)

/-- `adjustPartitionsBorders` is total: ANY border bytes (a client-supplied range end clipped into a region,
1 byte, the bare magic, 12 bytes ...) are either moved to an index position or left alone. -/
theorem adjustBorders_total (pe : Option Bytes) (ps : List (Bytes × Bytes)) :
    ∃ out, adjustBorders pe ps = some out := by
  induction ps generalizing pe with
  | nil => exact ⟨[], rfl⟩
  | cons x xs ih =>
    obtain ⟨s, e⟩ := x
    cases xs with
    | nil => exact ⟨_, rfl⟩
    | cons y ys =>
      rw [adjustBorders.eq_3 pe s e (y :: ys) (by simp)]
      cases hd : decode e with
      | ok k r =>
        obtain ⟨tl, htl⟩ := ih (some (if r != 0 then encode k 0 else e))
        simp only [htl]
        exact ⟨_, rfl⟩
      | err =>
        obtain ⟨tl, htl⟩ := ih (some e)
        simp only [htl]
        exact ⟨_, rfl⟩
      | panic => exact absurd hd (decode_never_panics e)

theorem adjustBorders_isSome (pe : Option Bytes) (ps : List (Bytes × Bytes)) : (adjustBorders pe ps).isSome = true := by
  obtain ⟨out, h⟩ := adjustBorders_total pe ps
  simp [h]

theorem scanPartitions_total (c : Cfg) (start stop : Bytes) : ∃ parts, scanPartitions c start stop = some parts :=
  adjustBorders_total none _

theorem expireStep_panic {w : WCfg} {live gone : Bytes} {snap : List Rec} {r : Rec} {acts : List Act}
    (he : expireStep w live gone snap r = some acts) (h : Act.panic ∈ acts) : acts = [.panic] := by
  obtain ⟨_, _, _, ⟨e, _⟩ | ⟨rfl, _⟩ | ⟨rfl, _⟩ | ⟨rfl, _⟩⟩ := expireStep_some he
  · exact e
  · exact absurd h (by simp)
  · cases h
  · exact absurd h (by simp)

theorem expireStep_eq_panic_iff {w : WCfg} {live gone : Bytes} {snap : List Rec} {r : Rec} :
    expireStep w live gone snap r = some [.panic] ↔ expiry w live gone r = .panic := by
  unfold expireStep
  cases expiry w live gone r <;> simp

/-- the loop of a worker whose `compactIfExpired` answers "not expired" throughout (`workerLoop`: range reads,
compactions with expiry off) never panics, whatever the configuration: a panic of an iteration is a panic of
`compactIfExpired` -/
theorem workerLoop_no_panic (w : WCfg) (p : Prev) (recs : List Rec) : Act.panic ∉ workerLoop w p recs := fun h =>
  workerLoop_all (P := (· ≠ .panic)) nofun nofun w recs (fun _ _ => ⟨nofun, nofun⟩) p _ h rfl

theorem workerActs_no_panic (w : WCfg) (recs : List Rec) : hasPanic (workerActs w recs) = false := by
  cases h : hasPanic (workerActs w recs) with
  | false => rfl
  | true =>
    exact absurd (by simpa [hasPanic, workerActs] using h) (workerLoop_no_panic w {} recs)

/-- where a worker's panic comes from: the TTL pass (`compactIfExpired`) on an engine without native TTL, with a
non-zero timeout revision, met the REVISION RECORD (revision 0) of an event key whose value is shorter than the 8
bytes `binary.BigEndian.Uint64` reads — a value the backend never writes (revision-record values are 8 or 9 bytes
long: C10 `parseRevision_*`). Stated of the worker loop as it runs (`passLoop`: whatever it remembers — `prev`, the
live event key, the store and the failed key — and whatever the engine answers to its delete calls). -/
theorem passLoop_panic_source {w : WCfg} {mask : Nat → DelOutcome} {snap : List Rec} {p : Prev} {live gone : Bytes}
    {st : CompState} {recs : List Rec} (h : Act.panic ∈ (passLoop w mask snap p live gone st recs).1) :
    w.supportTTL = false ∧ w.timeout ≠ 0 ∧
      ∃ r ∈ recs, r.rev = 0 ∧ isEventKey w r.key = true ∧ r.val.length < 8 :=
  passLoop_all (P := fun a => a = .panic → _) nofun nofun w mask snap recs
    (fun r hr => ⟨nofun, nofun, nofun, fun hs hT hev h0 hv _ => ⟨hs, hT, r, hr, h0, hev, hv⟩⟩) p live gone st _ h rfl

theorem passRun_panic_source {w : WCfg} {mask : Nat → DelOutcome} {st : CompState} {recs : List Rec}
    (h : hasPanic (passRun w mask st recs).1 = true) :
    w.supportTTL = false ∧ w.timeout ≠ 0 ∧
      ∃ r ∈ recs, r.rev = 0 ∧ isEventKey w r.key = true ∧ r.val.length < 8 := by
  apply passLoop_panic_source (mask := mask) (snap := recs) (p := {}) (live := []) (gone := [])
    (st := { st with lastFailed := [] })
  rw [passRun_eq] at h
  simpa [hasPanic] using h

theorem scanPart_some (c : Cfg) (st : Store) (rev : Nat) (p : Bytes × Bytes) :
    (match decodeRecs (iterate c.q st p.1 p.2 0) with
      | none => none
      | some recs =>
        let acts := workerActs { R := rev, supportTTL := c.q.supportTTL } recs
        if hasPanic acts then none else some (emitsOf acts)).isNone = false := by
  obtain ⟨recs, hrecs⟩ := decodeRecs_total (iterate c.q st p.1 p.2 0)
  simp [hrecs, workerActs_no_panic]

/-- the answer is not the crash of the request goroutine -/
def ScanRes.notPanic : ScanRes α → Prop
  | .panic => False
  | _ => True

instance (x : ScanRes α) : Decidable x.notPanic := by
  cases x
  · exact isTrue True.intro
  · exact isTrue True.intro
  · exact isFalse (fun h => h)

theorem ScanRes.notPanic_iff {x : ScanRes α} : x.notPanic ↔ (∃ a, x = .ok a) ∨ (∃ e, x = .error e) := by
  cases x with
  | ok a => exact ⟨fun _ => .inl ⟨a, rfl⟩, fun _ => True.intro⟩
  | error e => exact ⟨fun _ => .inr ⟨e, rfl⟩, fun _ => True.intro⟩
  | panic =>
    constructor
    · intro h; exact h.elim
    · rintro (⟨_, h⟩ | ⟨_, h⟩) <;> cases h

/-- THE UNLIMITED SCAN NEVER PANICS: any store (well-formed or not), any start and end bytes, any region borders. -/
theorem scanParts_notPanic (c : Cfg) (st : Store) (start stop : Bytes) (rev : Nat) :
    (scanParts c st start stop rev).notPanic := by
  unfold scanParts
  refine iteInduction (fun _ => trivial) fun _ => ?_
  obtain ⟨parts, hparts⟩ := scanPartitions_total c start stop
  rw [hparts]
  dsimp only
  rw [if_neg]
  · trivial
  · intro h
    obtain ⟨o, ho, hn⟩ := List.any_eq_true.mp h
    obtain ⟨p, _, rfl⟩ := List.mem_map.mp ho
    exact Bool.noConfusion ((scanPart_some c st rev p).symm.trans hn)

theorem scanLimited_notPanic (c : Cfg) (st : Store) (start stop : Bytes) (rev lim : Nat) :
    (scanLimited c st start stop rev lim).notPanic := by
  unfold scanLimited
  refine iteInduction (fun _ => trivial) fun _ => ?_
  obtain ⟨recs, hrecs⟩ := decodeRecs_total (iterate c.q st start stop 0)
  rw [hrecs]
  trivial

theorem doList_notPanic (c : Cfg) (s : BState) (key stop : Bytes) (rev limit : Nat) :
    (doList c s key stop rev limit).notPanic := by
  unfold doList
  refine iteInduction (fun _ => trivial) fun _ => ?_
  extract_lets reqRev
  refine iteInduction (fun _ => trivial) fun _ => iteInduction (fun _ => ?_) fun _ => ?_
  · have := scanLimited_notPanic c s.store (encodeBound key) (encodeBound stop) reqRev (limit + 1)
    generalize scanLimited c s.store _ _ _ _ = x at this ⊢
    cases x with
    | panic => exact this
    | _ => trivial
  · have := scanParts_notPanic c s.store (encodeBound key) (encodeBound stop) reqRev
    generalize scanParts c s.store _ _ _ = x at this ⊢
    cases x with
    | panic => exact this
    | _ => trivial

theorem doCount_notPanic (c : Cfg) (s : BState) (key stop : Bytes) : (doCount c s key stop).notPanic := by
  unfold doCount
  refine iteInduction (fun _ => trivial) fun _ => ?_
  have := scanParts_notPanic c s.store (encodeBound key) (encodeBound stop) s.committed
  generalize scanParts c s.store _ _ _ = x at this ⊢
  cases x with
  | panic => exact this
  | _ => trivial

theorem doStream_notPanic (c : Cfg) (s : BState) (start stop : Bytes) (rev : Nat) :
    (doStream c s start stop rev).notPanic := by
  unfold doStream
  extract_lets r
  have := scanParts_notPanic c s.store start stop r
  generalize scanParts c s.store _ _ _ = x at this ⊢
  cases x with
  | panic => exact this
  | _ => trivial
/-! ### what is left: the TTL pass of a compaction -/

/-- a flag raised by a fold was raised by one of its steps (for a fixed consequence `Q` of a step raising it) -/
theorem foldl_flag {α β : Type} (F : α → β → α) (flag : α → Bool) (Q : Prop)
    (hF : ∀ a b, flag (F a b) = true → flag a = true ∨ Q) (l : List β) (a : α)
    (h : flag (l.foldl F a) = true) : flag a = true ∨ Q :=
  List.foldlRecOn (motive := fun x => flag x = true → flag a = true ∨ Q) l F .inl (fun x hx b _ h => (hF x b h).elim hx .inr) h

/-- what a panic of a compaction means in the model -/
def CompactPanicSource (c : Cfg) : Prop :=
  c.q.supportTTL = false ∧
    ∃ (w : WCfg) (recs : List Rec), w.supportTTL = false ∧ w.timeout ≠ 0 ∧ w.eventsPfx = eventsPrefixOf c ∧
      ∃ r ∈ recs, r.rev = 0 ∧ isEventKey w r.key = true ∧ r.val.length < 8

theorem compactRange_pan {c : Cfg} {s : BState} {start stop : Bytes} {rev : Nat} {mask : Nat → DelOutcome}
    {calls : Nat} (h : (compactRange c s start stop rev mask calls).2.2 = true) : CompactPanicSource c := by
  unfold compactRange at h
  extract_lets marks cur store at h
  obtain ⟨parts, hparts⟩ := scanPartitions_total c start stop
  rw [hparts] at h
  dsimp only at h
  refine (foldl_flag _ (fun x : CompState × Bool => x.2) (CompactPanicSource c) ?_ parts _ h).resolve_left nofun
  intro a p hp
  obtain ⟨recs, hr⟩ := decodeRecs_total (iterate c.q store p.1 p.2 0)
  rw [hr] at hp
  rcases Bool.or_eq_true_iff.1 hp with hp | hp
  · exact .inl hp
  · obtain ⟨h1, h2, r, hr, h3⟩ := passRun_panic_source hp
    exact .inr ⟨h1, _, recs, h1, h2, rfl, r, hr, h3⟩

theorem compactFold_pan {c : Cfg} {s : BState} {r : Nat} {mask : Nat → DelOutcome}
    (h : (compactFold c s r mask).2.2 = true) : CompactPanicSource c := by
  refine (foldl_flag _ (fun x : BState × Nat × Bool => x.2.2) (CompactPanicSource c) ?_ _ _ h).resolve_left nofun
  intro a b hp
  rcases Bool.or_eq_true_iff.1 hp with hp | hp
  · exact .inl hp
  · exact .inr (compactRange_pan hp)

/-- A COMPACTION PANICS IN THE MODEL ONLY IN ITS TTL PASS: on an engine without native TTL, with a non-zero timeout
revision, on the revision record of a key under the events prefix whose value is shorter than 8 bytes. Nothing
else is left: no key and no border makes `Decode` index out of range. -/
theorem doCompact_panic_source {c : Cfg} {s : BState} {rev : Nat} {mask : Nat → DelOutcome}
    (h : (doCompact c s rev mask).1.notPanic → False) : CompactPanicSource c := by
  rw [doCompact_eq] at h
  by_cases hp : (compactFold c { s with store := setRecord c s.store (clampRev s rev) } (clampRev s rev) mask).2.2 = true
  · exact compactFold_pan hp
  · rw [if_neg hp] at h
    exact (h trivial).elim

/-- ... in particular never on an engine with native TTL (memkv, Badger). -/
theorem doCompact_notPanic_native_ttl (c : Cfg) (hq : c.q.supportTTL = true) (s : BState) (rev : Nat)
    (mask : Nat → DelOutcome) : (doCompact c s rev mask).1.notPanic := by
  cases hd : (doCompact c s rev mask).1 with
  | ok _ => exact True.intro
  | error _ => exact True.intro
  | panic =>
    exfalso
    have := doCompact_panic_source (c := c) (s := s) (rev := rev) (mask := mask) (by rw [hd]; exact id)
    rw [this.1] at hq; cases hq

end KB
