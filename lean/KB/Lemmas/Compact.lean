/- C07 in the two steps of DESIGN.md §11 "Compaction". A: what a pass removes, under any failure mask and also when
it stops half way, is `Deletable` (`prefix_deletable`) and leaves no version older than a removed deletion marker
(`compact_tombClosed`). B: removing such a set changes no read at `R' ≥ R` (`readAt_filter_key`). -/
import KB.Spec
import KB.Backend
import KB.Lemmas.Coder
import KB.Lemmas.Engine
import KB.Lemmas.Pass
import KB.Lemmas.Scan
namespace KB.Compact
open KB Generated

theorem pairwise_ext {α : Type} {lt : α → α → Prop} (hasym : ∀ a b, lt a b → ¬ lt b a) {l1 l2 : List α}
    (h1 : l1.Pairwise lt) (h2 : l2.Pairwise lt) (h : ∀ x, x ∈ l1 ↔ x ∈ l2) : l1 = l2 := by
  have htail : ∀ {a : α} {t t' : List α}, (∀ y ∈ t, lt a y) → (∀ x, x ∈ a :: t ↔ x ∈ a :: t') →
      ∀ x ∈ t, x ∈ t' := by
    intro a t t' ht hh x hx
    rcases List.mem_cons.1 ((hh x).1 (List.mem_cons_of_mem _ hx)) with e | hx'
    · exact absurd (e ▸ ht x hx) (fun hl => hasym _ _ hl hl)
    · exact hx'
  induction l1 generalizing l2 with
  | nil =>
    cases l2 with
    | nil => rfl
    | cons b t => exact absurd ((h b).2 (List.mem_cons_self ..)) (by simp)
  | cons a t1 ih =>
    cases l2 with
    | nil => exact absurd ((h a).1 (List.mem_cons_self ..)) (by simp)
    | cons b t2 =>
      have p1 := List.pairwise_cons.1 h1
      have p2 := List.pairwise_cons.1 h2
      have hab : a = b := by
        rcases List.mem_cons.1 ((h a).1 (List.mem_cons_self ..)) with e | ha
        · exact e
        · rcases List.mem_cons.1 ((h b).2 (List.mem_cons_self ..)) with e | hb
          · exact e.symm
          · exact absurd (p2.1 a ha) (hasym _ _ (p1.1 b hb))
      subst hab
      rw [ih p1.2 p2.2 (fun x => ⟨htail p1.1 h x, htail p2.1 (fun x => (h x).symm) x⟩)]

theorem cmp_lt_asymm (a b : Bytes) (h : cmp a b = .lt) : ¬ cmp b a = .lt := by
  rw [← cmp_gt_iff, h]; decide

theorem recLt_asymm (a b : Rec) (h1 : recLt a b) : ¬ recLt b a := by
  rintro (h2 | ⟨e2, h2⟩)
  · rcases h1 with h1 | ⟨e1, _⟩
    · exact cmp_lt_asymm _ _ h1 h2
    · rw [e1] at h2; exact cmp_lt_irrefl h2
  · rcases h1 with h1 | ⟨_, h1⟩
    · rw [e2] at h1; exact cmp_lt_irrefl h1
    · omega

theorem encodeStore_get {recs : List Rec} (hs : SortedRecs recs)
    (hk : ∀ r ∈ recs, Alphabet r.key ∧ r.rev < 2 ^ 64) {r : Rec} (hr : r ∈ recs) :
    (encodeStore recs).get (encode r.key r.rev) = some r.val := by
  induction recs with
  | nil => simp at hr
  | cons x rest ih =>
    have hs' := List.pairwise_cons.1 hs
    simp only [encodeStore, List.map_cons, Store.get]
    simp only [List.mem_cons] at hr
    rcases hr with rfl | hr
    · simp
    · have hlt := encode_lt_of_recLt (hk x (by simp)) (hk r (List.mem_cons_of_mem _ hr)) (hs'.1 r hr)
      have hgt : cmp (encode r.key r.rev) (encode x.key x.rev) = .gt := cmp_gt_iff.2 hlt
      simp only [hgt]
      exact ih hs'.2 (fun r hr => hk r (List.mem_cons_of_mem _ hr)) hr

theorem recs_unique {recs : List Rec} (hs : SortedRecs recs) {a b : Rec} (ha : a ∈ recs) (hb : b ∈ recs)
    (hkey : a.key = b.key) (hrev : a.rev = b.rev) : a = b := by
  have irr : ∀ {x y : Rec}, x.key = y.key → x.rev = y.rev → ¬ recLt x y := by
    rintro x y h1 h2 (h | ⟨_, h⟩)
    · rw [h1] at h; exact cmp_lt_irrefl h
    · omega
  induction recs with
  | nil => simp at ha
  | cons x rest ih =>
    have hs' := List.pairwise_cons.1 hs
    simp only [List.mem_cons] at ha hb
    rcases ha with rfl | ha
    · rcases hb with rfl | hb
      · rfl
      · exact absurd (hs'.1 b hb) (irr hkey hrev)
    · rcases hb with rfl | hb
      · exact absurd (hs'.1 a ha) (irr hkey.symm hrev.symm)
      · exact ih hs'.2 ha hb

theorem isTomb_length {v : Bytes} (h : isTomb v = true) : v.length = 9 := by
  simp only [isTomb, beq_iff_eq] at h; subst h; decide

/-! ### one action of the pass: `runDelete`

`runDelete` in a form that keeps control and data apart: whether a call is made depends on the skip key alone
(`noCall`), what the call does to skip key, call counter and trace on the engine's answer alone (`remembered`,
`callOf`), and the store changes by at most one `erase` (`removed`). -/

def actTarget : Act → Option Bytes
  | .del ik _ => some ik
  | .delcur ik _ _ => some ik
  | _ => none

/-- no engine call: no delete action, or `isSkippedRawKey` -/
def noCall (st : CompState) : Act → Bool
  | .del _ raw => skipped st raw
  | .delcur _ _ raw => skipped st raw
  | _ => true

/-- the internal key the action's call removes from the store `s` when the engine answers `o`: a
compare-and-delete also has to find the value it expects -/
def removed (o : DelOutcome) (s : Store) : Act → Option Bytes
  | .del ik _ => match o with | .ok => some ik | _ => none
  | .delcur ik v _ => match o with | .ok => if s.get ik = some v then some ik else none | _ => none
  | _ => none

/-- the raw key the pass skips from now on when the engine answers `o` to the action's call (`none`: the skip
key stays): `compactKey` remembers its key on any error, `compactCurrent` not on a failed condition -/
def remembered (o : DelOutcome) : Act → Option Bytes
  | .del _ raw => match o with | .ok => none | _ => some raw
  | .delcur _ _ raw => match o with | .fail => some raw | _ => none
  | _ => none

def callOf : Act → List DelCall
  | .del ik _ => [.del ik]
  | .delcur ik _ _ => [.delcur ik]
  | _ => []

theorem runDelete_eq (mask : Nat → DelOutcome) (st : CompState) (a : Act) :
    runDelete mask st a =
      if noCall st a = true then st
      else { store := (removed (mask st.calls) st.store a).elim st.store st.store.erase,
             lastFailed := (remembered (mask st.calls) a).getD st.lastFailed,
             calls := st.calls + 1, trace := st.trace ++ callOf a } := by
  cases a with
  | del ik raw =>
    by_cases hsk : (decide (st.lastFailed.length > 0) && st.lastFailed == raw) = true
    · simp only [runDelete, noCall, skipped, hsk, if_true]
    · simp only [runDelete, noCall, skipped, removed, remembered, callOf, hsk]
      cases mask st.calls <;> rfl
  | delcur ik v raw =>
    by_cases hsk : (decide (st.lastFailed.length > 0) && st.lastFailed == raw) = true
    · simp only [runDelete, noCall, skipped, hsk, if_true]
    · simp only [runDelete, noCall, skipped, removed, remembered, callOf, hsk]
      cases mask st.calls
      · by_cases hg : st.store.get ik = some v
        · simp only [hg, if_true]; rfl
        · simp only [hg, if_false]; rfl
      · rfl
      · rfl
  | _ => rfl

section one
variable (mask : Nat → DelOutcome) (st : CompState) (a : Act)

theorem runDelete_noCall {st : CompState} {a : Act} (h : noCall st a = true) : runDelete mask st a = st := by
  rw [runDelete_eq, if_pos h]

theorem runDelete_calls_succ {st : CompState} {a : Act} (h : noCall st a = false) :
    (runDelete mask st a).calls = st.calls + 1 := by
  rw [runDelete_eq, if_neg (by simp [h])]

theorem runDelete_store_eq {st : CompState} {a : Act} (h : noCall st a = false) :
    (runDelete mask st a).store = (removed (mask st.calls) st.store a).elim st.store st.store.erase := by
  rw [runDelete_eq, if_neg (by simp [h])]

theorem removed_target {o : DelOutcome} {s : Store} {a : Act} {ik : Bytes} (h : removed o s a = some ik) :
    actTarget a = some ik := by
  cases a with
  | del ik' raw => cases o <;> first | exact h | cases h
  | delcur ik' v raw =>
    cases o
    · simp only [removed] at h; split at h
      · exact h
      · cases h
    · cases h
    · cases h
  | _ => cases h

theorem runDelete_store :
    (runDelete mask st a).store = st.store ∨
      ∃ ik, actTarget a = some ik ∧ (runDelete mask st a).store = st.store.erase ik := by
  cases hsk : noCall st a with
  | true => rw [runDelete_noCall mask hsk]; exact .inl rfl
  | false =>
    rw [runDelete_store_eq mask hsk]
    cases h : removed (mask st.calls) st.store a with
    | none => exact .inl rfl
    | some ik => exact .inr ⟨ik, removed_target h, rfl⟩

theorem runDelete_preserves {P : Store → Prop} (hP : ∀ s ik, P s → P (s.erase ik)) {st : CompState}
    (h : P st.store) : P (runDelete mask st a).store := by
  rcases runDelete_store mask st a with e | ⟨ik, _, e⟩
  · rw [e]; exact h
  · rw [e]; exact hP _ ik h

theorem get_runDelete_of_ne {st : CompState} (hs : Store.Sorted st.store) {x : Bytes}
    (hne : ∀ ik, actTarget a = some ik → x ≠ ik) : (runDelete mask st a).store.get x = st.store.get x := by
  rcases runDelete_store mask st a with e | ⟨ik, ht, e⟩
  · rw [e]
  · rw [e, Store.get_erase _ hs, if_neg (hne ik ht)]

theorem noCall_congr {st1 st2 : CompState} (h : st1.lastFailed = st2.lastFailed) (a : Act) :
    noCall st1 a = noCall st2 a := by
  cases a <;> simp only [noCall, skipped, h]

theorem runDelete_ctrl (st1 st2 : CompState) (hlf : st1.lastFailed = st2.lastFailed) (hc : st1.calls = st2.calls) :
    (runDelete mask st1 a).lastFailed = (runDelete mask st2 a).lastFailed ∧
    (runDelete mask st1 a).calls = (runDelete mask st2 a).calls ∧
    (st1.trace = st2.trace → (runDelete mask st1 a).trace = (runDelete mask st2 a).trace) := by
  rw [runDelete_eq, runDelete_eq, noCall_congr hlf, hlf, hc]
  split
  · exact ⟨hlf, hc, id⟩
  · exact ⟨rfl, rfl, fun ht => by rw [ht]⟩

theorem removed_delcur {o : DelOutcome} {s : Store} {ik v raw ik' : Bytes}
    (h : removed o s (.delcur ik v raw) = some ik') : ik' = ik ∧ s.get ik = some v := by
  cases o
  · simp only [removed] at h; split at h
    · rename_i hg; injection h with h; exact ⟨h.symm, hg⟩
    · cases h
  · cases h
  · cases h

theorem runDelete_store_congr {st1 st2 : CompState} (hlf : st1.lastFailed = st2.lastFailed)
    (hc : st1.calls = st2.calls)
    (hg : ∀ ik v raw, a = .delcur ik v raw → st1.store.get ik = st2.store.get ik) :
    ((runDelete mask st1 a).store = st1.store ∧ (runDelete mask st2 a).store = st2.store) ∨
    ∃ ik, actTarget a = some ik ∧ (runDelete mask st1 a).store = st1.store.erase ik ∧
      (runDelete mask st2 a).store = st2.store.erase ik := by
  have hr : removed (mask st2.calls) st1.store a = removed (mask st2.calls) st2.store a := by
    cases a with
    | delcur ik v raw => simp only [removed, hg ik v raw rfl]
    | _ => rfl
  rw [runDelete_eq, runDelete_eq, noCall_congr hlf, hc, hr]
  split
  · exact .inl ⟨rfl, rfl⟩
  · cases h : removed (mask st2.calls) st2.store a with
    | none => exact .inl ⟨rfl, rfl⟩
    | some ik => exact .inr ⟨ik, removed_target h, rfl, rfl⟩

end one

theorem runDelete_del_cases (mask : Nat → DelOutcome) (st : CompState)
    (ik : Bytes) {raw : Bytes} (hraw : raw ≠ []) :
    ((runDelete mask st (.del ik raw)).lastFailed = raw ∧
        (runDelete mask st (.del ik raw)).store = st.store) ∨
    (st.lastFailed ≠ raw ∧ (runDelete mask st (.del ik raw)).lastFailed = st.lastFailed ∧
        (runDelete mask st (.del ik raw)).store = st.store.erase ik) := by
  cases hsk : noCall st (.del ik raw) with
  | true =>
    rw [runDelete_noCall mask hsk]
    exact .inl ⟨(skipped_iff.1 hsk).2, rfl⟩
  | false =>
    rw [runDelete_eq, if_neg (by simp [hsk])]
    cases mask st.calls with
    | ok =>
      refine .inr ⟨fun e => ?_, rfl, rfl⟩
      rw [show noCall st (.del ik raw) = true from skipped_iff.2 ⟨e ▸ hraw, e⟩] at hsk
      cases hsk
    | fail => exact .inl ⟨rfl, rfl⟩
    | failCas => exact .inl ⟨rfl, rfl⟩

theorem runDeletes_nil (mask : Nat → DelOutcome) (st : CompState) : runDeletes mask st [] = st := rfl

theorem runDeletes_cons (mask : Nat → DelOutcome) (st : CompState) (a : Act) (l : List Act) :
    runDeletes mask st (a :: l) = runDeletes mask (runDelete mask st a) l := rfl

theorem runDeletes_singleton (mask : Nat → DelOutcome) (st : CompState) (a : Act) :
    runDeletes mask st [a] = runDelete mask st a := rfl

theorem runDelete_sorted (mask : Nat → DelOutcome) {st : CompState} (h : Store.Sorted st.store) (a : Act) :
    Store.Sorted (runDelete mask st a).store :=
  runDelete_preserves (P := Store.Sorted) mask a (fun _ ik h => Store.erase_sorted _ h ik) h

theorem runDeletes_sorted (mask : Nat → DelOutcome) (acts : List Act) (st : CompState)
    (h : Store.Sorted st.store) : Store.Sorted (runDeletes mask st acts).store := by
  induction acts generalizing st with
  | nil => exact h
  | cons a l ih => exact ih _ (runDelete_sorted mask h a)

theorem runDeletes_get (mask : Nat → DelOutcome) (acts : List Act) (st : CompState) (h : Store.Sorted st.store)
    (b : Bytes) :
    (runDeletes mask st acts).store.get b = st.store.get b ∨
      ((runDeletes mask st acts).store.get b = none ∧ ∃ a ∈ acts, actTarget a = some b) := by
  induction acts generalizing st with
  | nil => exact .inl rfl
  | cons a l ih =>
    rw [runDeletes_cons]
    rcases ih _ (runDelete_sorted mask h a) with h1 | ⟨h1, a', ha', ht'⟩
    · rcases runDelete_store mask st a with e | ⟨ik, ht, e⟩
      · exact .inl (by rw [h1, e])
      · rw [h1, e, Store.get_erase _ h]
        by_cases hb : b = ik
        · exact .inr ⟨if_pos hb, a, List.mem_cons_self, hb ▸ ht⟩
        · exact .inl (if_neg hb)
    · exact .inr ⟨h1, a', List.mem_cons_of_mem _ ha', ht'⟩

theorem runDeletes_get_none (mask : Nat → DelOutcome) (acts : List Act) (st : CompState)
    (h : Store.Sorted st.store) {b : Bytes} (hb : (runDeletes mask st acts).store.get b = none) :
    st.store.get b = none ∨ ∃ a ∈ acts, actTarget a = some b :=
  (runDeletes_get mask acts st h b).elim (fun e => .inl (e ▸ hb)) fun e => .inr e.2

/-! ### the ordinary rules of the worker loop (`workerStep`) under `compact := true` -/

abbrev ccfg (R : Nat) : WCfg := { R := R, compact := true }

/-- `cA1`, `cA2`, `cA3`: the three groups of actions of one iteration at or below `R` (`workerStep_le`) — for `prev`
(its emission, or the delete of the version it holds when the record is a newer version of the same key), for a deletion
marker, for the revision record of a deleted key -/
def cA1 (p : Prev) (r : Rec) : List Act :=
  if r.key != p.key then emitPrev p
  else if p.rev > 0 then [.del (encode p.key p.rev) p.key] else []

def cA2 (r : Rec) : List Act := if isTomb r.val then [.del r.ik r.key] else []

/-- the "continue without updating prev" condition -/
def idxAbove (R : Nat) (r : Rec) : Prop := r.rev = 0 ∧ r.val.length = 9 ∧ R < fromBE (r.val.take 8)

instance (R : Nat) (r : Rec) : Decidable (idxAbove R r) := by unfold idxAbove; infer_instance

def cA3 (R : Nat) (r : Rec) : List Act :=
  if r.rev = 0 ∧ r.val.length = 9 ∧ ¬ R < fromBE (r.val.take 8) then [.delcur r.ik r.val r.key] else []

theorem workerStep_le {R : Nat} (p : Prev) {r : Rec} (h : ¬ R < r.rev) :
    workerStep (ccfg R) p r =
      (cA1 p r ++ (cA2 r ++ cA3 R r), if idxAbove R r then p else ⟨r.key, r.rev, r.val⟩) := by
  have hs : stepActs (ccfg R) p r = cA1 p r ++ cA2 r := by
    simp only [stepActs, cA1, cA2, Bool.true_and, decide_eq_true_eq]
  have hfi : flaggedIdx (ccfg R) r = true ↔ r.rev = 0 ∧ r.val.length = 9 := by
    simp [flaggedIdx, scannerRevisionValueLengthWithDeletionFlag]
  by_cases hf : flaggedIdx (ccfg R) r = true
  · obtain ⟨h0, h9⟩ := hfi.1 hf
    by_cases hv : R < fromBE (r.val.take 8)
    · rw [workerStep_flagged_above h hf hv, hs, cA3, if_neg (fun x => x.2.2 hv),
        if_pos (show idxAbove R r from ⟨h0, h9, hv⟩), List.append_nil]
    · rw [workerStep_flagged h hf hv, hs, cA3, if_pos ⟨h0, h9, hv⟩,
        if_neg (show ¬ idxAbove R r from fun x => hv x.2.2), List.append_assoc]
  · rw [workerStep_ordinary h hf, hs, cA3, if_neg (fun x => hf (hfi.2 ⟨x.1, x.2.1⟩)),
      if_neg (show ¬ idxAbove R r from fun x => hf (hfi.2 ⟨x.1, x.2.1⟩)), List.append_nil]

theorem workerStep_fst {R : Nat} (p : Prev) {r : Rec} (h : ¬ R < r.rev) :
    (workerStep (ccfg R) p r).1 = cA1 p r ++ (cA2 r ++ cA3 R r) := by
  rw [workerStep_le p h]

theorem workerStep_snd {R : Nat} (p : Prev) {r : Rec} (h : ¬ R < r.rev) :
    (workerStep (ccfg R) p r).2 = if idxAbove R r then p else ⟨r.key, r.rev, r.val⟩ := by
  rw [workerStep_le p h]

theorem workerStep_ccfg_acts {R : Nat} {p : Prev} {r : Rec} {a : Act} (ha : a ∈ (workerStep (ccfg R) p r).1) :
    r.rev ≤ R ∧ (a ∈ emitPrev p ∨ (a = .del (encode p.key p.rev) p.key ∧ r.key = p.key ∧ 0 < p.rev) ∨
      (a = .del r.ik r.key ∧ isTomb r.val = true) ∨
      (a = .delcur r.ik r.val r.key ∧ r.rev = 0 ∧ r.val.length = 9)) := by
  by_cases hR : R < r.rev
  · rw [workerStep_above (c := ccfg R) hR p] at ha; cases ha
  · refine ⟨Nat.le_of_not_lt hR, ?_⟩
    rw [workerStep_fst p hR, List.mem_append, List.mem_append] at ha
    rcases ha with ha | ha | ha
    · unfold cA1 at ha
      split at ha
      · exact .inl ha
      · rename_i hk
        split at ha
        · rename_i hpos
          exact .inr (.inl ⟨List.mem_singleton.1 ha, by simpa using hk, hpos⟩)
        · cases ha
    · unfold cA2 at ha
      split at ha
      · rename_i ht; exact .inr (.inr (.inl ⟨List.mem_singleton.1 ha, ht⟩))
      · cases ha
    · unfold cA3 at ha
      split at ha
      · rename_i hc; exact .inr (.inr (.inr ⟨List.mem_singleton.1 ha, hc.1, hc.2.1⟩))
      · cases ha

theorem workerLoop_all_of_inv {c : WCfg} {P : Act → Prop} {I : Prev → Prop} {rs : List Rec}
    (hemit : ∀ p, I p → ∀ a ∈ emitPrev p, P a)
    (hstep : ∀ p, I p → ∀ r ∈ rs, I (workerStep c p r).2 ∧ ∀ a ∈ (workerStep c p r).1, P a)
    {p : Prev} (hp : I p) : ∀ a ∈ workerLoop c p rs, P a := by
  induction rs generalizing p with
  | nil => exact hemit p hp
  | cons r rs ih =>
    intro a ha
    obtain ⟨hI, hP⟩ := hstep p hp r (List.mem_cons_self ..)
    rcases List.mem_append.1 ha with ha | ha
    · exact hP a ha
    · exact ih (fun q hq x hx => hstep q hq x (List.mem_cons_of_mem _ hx)) hI a ha

/-! ### which records a compaction pass can remove -/

/-- what may be removed: at or below `R`; an index record only with a 9-byte value; a version only
when it is a deletion marker or superseded by a newer version `≤ R` of the same key -/
def Deletable (R : Nat) (recs : List Rec) (d : Rec) : Prop :=
  d.rev ≤ R ∧ (d.rev = 0 → d.val.length = 9) ∧
    (0 < d.rev → isTomb d.val = true ∨ ∃ r' ∈ recs, r'.key = d.key ∧ d.rev < r'.rev ∧ r'.rev ≤ R)

/-- `prev` is strictly before every remaining record (as a version) -/
def PrevBefore (p : Prev) (rs : List Rec) : Prop :=
  ∀ x ∈ rs, cmp p.key x.key = .lt ∨ (p.key = x.key ∧ (0 < p.rev → p.rev < x.rev))

theorem prevBefore_init (rs : List Rec) : PrevBefore {} rs := by
  intro x _
  cases hx : x.key with
  | nil => exact .inr ⟨rfl, fun h => absurd h (by decide)⟩
  | cons a as => exact .inl rfl

theorem prevBefore_tail {p : Prev} {r : Rec} {rs : List Rec} (h : PrevBefore p (r :: rs)) :
    PrevBefore p rs := fun x hx => h x (List.mem_cons_of_mem _ hx)

theorem prevBefore_next {r : Rec} {rs : List Rec} (h : (r :: rs).Pairwise recLt) :
    PrevBefore ⟨r.key, r.rev, r.val⟩ rs := by
  intro x hx
  rcases (List.pairwise_cons.1 h).1 x hx with h1 | ⟨h1, h2⟩
  · exact .inl h1
  · exact .inr ⟨h1, fun _ => h2⟩

theorem prevBefore_step {R : Nat} {p : Prev} {r : Rec} {rs : List Rec} (hp : PrevBefore p (r :: rs))
    (h : (r :: rs).Pairwise recLt) : PrevBefore (workerStep (ccfg R) p r).2 rs := by
  by_cases hR : R < r.rev
  · rw [workerStep_above (c := ccfg R) hR p]; exact prevBefore_tail hp
  · rw [workerStep_snd p hR]
    split
    · exact prevBefore_tail hp
    · exact prevBefore_next h

theorem workerStep_rev_lt {R : Nat} {p : Prev} {r : Rec} (hp : p.rev < 2 ^ 64) (hr : r.rev < 2 ^ 64) :
    (workerStep (ccfg R) p r).2.rev < 2 ^ 64 := by
  by_cases hR : R < r.rev
  · rw [workerStep_above (c := ccfg R) hR p]; exact hp
  · rw [workerStep_snd p hR]
    split
    · exact hp
    · exact hr

theorem step_targets {recs : List Rec} (hs : SortedRecs recs) (hw : WellKeyed recs)
    (hk : ∀ r ∈ recs, Alphabet r.key ∧ r.rev < 2 ^ 64) (R : Nat) {p : Prev} {r : Rec} (hr : r ∈ recs)
    (hpr : cmp p.key r.key = .lt ∨ (p.key = r.key ∧ (0 < p.rev → p.rev < r.rev)))
    (hp64 : p.rev < 2 ^ 64) {a : Act} (ha : a ∈ (workerStep (ccfg R) p r).1) {ik : Bytes}
    (ht : actTarget a = some ik) {d : Rec} (hd : d ∈ recs) (hik : d.ik = ik) : Deletable R recs d := by
  have hsame : d.ik = r.ik → d = r := fun e => by
    rw [hw d hd, hw r hr] at e
    obtain ⟨e1, e2⟩ := encode_inj (hk d hd).2 (hk r hr).2 e
    exact recs_unique hs hd hr e1 e2
  obtain ⟨hR, h | ⟨rfl, hkey, hpos⟩ | ⟨rfl, htomb⟩ | ⟨rfl, h0, h9⟩⟩ := workerStep_ccfg_acts ha
  · rw [eq_of_mem_emitPrev h] at ht; cases ht
  · -- the version in `prev`: the record at hand is a newer version `≤ R` of its key
    cases ht
    rw [hw d hd] at hik
    obtain ⟨e1, e2⟩ := encode_inj (hk d hd).2 hp64 hik
    have hlt : p.rev < r.rev := by
      rcases hpr with h | ⟨_, h⟩
      · rw [hkey] at h; exact absurd h cmp_lt_irrefl
      · exact h hpos
    exact ⟨by omega, by omega, fun _ => .inr ⟨r, hr, by rw [hkey, e1], by omega, by omega⟩⟩
  · cases ht; cases hsame hik
    exact ⟨hR, fun _ => isTomb_length htomb, fun _ => .inl htomb⟩
  · cases ht; cases hsame hik
    exact ⟨hR, fun _ => h9, fun h => by omega⟩

theorem workerLoop_targets {recs : List Rec} (hs : SortedRecs recs) (hw : WellKeyed recs)
    (hk : ∀ r ∈ recs, Alphabet r.key ∧ r.rev < 2 ^ 64) (R : Nat) (rs : List Rec) (p : Prev)
    (hsub : ∀ x ∈ rs, x ∈ recs) (hpw : rs.Pairwise recLt) (hp : PrevBefore p rs)
    (hp64 : p.rev < 2 ^ 64) {a : Act} (ha : a ∈ workerLoop (ccfg R) p rs) {ik : Bytes}
    (ht : actTarget a = some ik) {d : Rec} (hd : d ∈ recs) (hik : d.ik = ik) : Deletable R recs d := by
  induction rs generalizing p with
  | nil =>
    rw [eq_of_mem_emitPrev ha] at ht; cases ht
  | cons r rs ih =>
    simp only [workerLoop, List.mem_append] at ha
    rcases ha with ha | ha
    · exact step_targets hs hw hk R (hsub r (by simp)) (hp r (by simp)) hp64 ha ht hd hik
    · exact ih _ (fun x hx => hsub x (List.mem_cons_of_mem _ hx)) (List.pairwise_cons.1 hpw).2
        (prevBefore_step hp hpw) (workerStep_rev_lt hp64 (hk r (hsub r (by simp))).2) ha

/-- `done`: the actions of a pass that crashed after them -/
theorem prefix_deletable {recs : List Rec} (hs : SortedRecs recs) (hw : WellKeyed recs)
    (hk : ∀ r ∈ recs, Alphabet r.key ∧ r.rev < 2 ^ 64) (R : Nat) (mask : Nat → DelOutcome)
    {done pend : List Act} (h : workerActs (ccfg R) recs = done ++ pend) {d : Rec} (hd : d ∈ recs)
    (hdel : (runDeletes mask { store := encodeStore recs } done).store.get d.ik = none) :
    Deletable R recs d := by
  rcases runDeletes_get_none mask _ _ (encodeStore_sorted hs hk) hdel with h1 | ⟨a, ha, ht⟩
  · simp only at h1
    rw [hw d hd, encodeStore_get hs hk hd] at h1; cases h1
  · have ha' : a ∈ workerLoop (ccfg R) {} recs := by
      show a ∈ workerActs (ccfg R) recs
      rw [h]; exact List.mem_append_left _ ha
    exact workerLoop_targets hs hw hk R recs {} (fun _ h => h) hs (prevBefore_init _) (by decide) ha' ht hd rfl

theorem compact_deletable {recs : List Rec} (hs : SortedRecs recs) (hw : WellKeyed recs)
    (hk : ∀ r ∈ recs, Alphabet r.key ∧ r.rev < 2 ^ 64) (R : Nat) (mask : Nat → DelOutcome)
    {d : Rec} (hd : d ∈ recs)
    (hdel : (runDeletes mask { store := encodeStore recs } (workerActs (ccfg R) recs)).store.get d.ik = none) :
    Deletable R recs d :=
  prefix_deletable hs hw hk R mask (List.append_nil _).symm hd hdel

/-! ### Part B: removing a well-behaved set of records does not change reads at `R' ≥ R` -/

theorem visible_eq_some_iff {l : List Rec} (hs : SortedRecs l) {R : Nat} {k : Bytes} {x : Rec} :
    visible R l k = some x ↔
      x ∈ l ∧ vis R k x = true ∧ ∀ y ∈ l, vis R k y = true → y.rev ≤ x.rev := by
  have hF : (l.filter (vis R k)).Pairwise recLt := List.Pairwise.sublist List.filter_sublist hs
  have hlast : ∀ {n y : Rec}, (l.filter (vis R k)).getLast? = some n → y ∈ l → vis R k y = true →
      y = n ∨ y.rev < n.rev := by
    intro n y hn hy hp
    rcases pairwise_getLast hF hn (List.mem_filter.2 ⟨hy, hp⟩) with e | hc | ⟨_, hc⟩
    · exact .inl e
    · rw [(vis_iff.1 hp).1, (vis_iff.1 (List.mem_filter.1 (List.mem_of_getLast? hn)).2).1] at hc
      exact absurd hc cmp_lt_irrefl
    · exact .inr hc
  rw [visible_def]
  constructor
  · intro hn
    have hx := List.mem_filter.1 (List.mem_of_getLast? hn)
    exact ⟨hx.1, hx.2, fun y hy hp => (hlast hn hy hp).elim (fun e => e ▸ Nat.le_refl _) Nat.le_of_lt⟩
  · rintro ⟨hx, hp, hmax⟩
    cases hn : (l.filter (vis R k)).getLast? with
    | none =>
      rw [List.getLast?_eq_none_iff] at hn
      have := List.mem_filter.2 ⟨hx, hp⟩
      rw [hn] at this; cases this
    | some n =>
      have hn' := List.mem_filter.1 (List.mem_of_getLast? hn)
      rcases hlast hn hx hp with rfl | h
      · rfl
      · have := hmax n hn'.1 hn'.2; omega

/-- `h3`: were a deletion marker removed and an older version of its key kept, that version would be read again -/
theorem readAt_filter_key {recs : List Rec} (hs : SortedRecs recs) (keep : Rec → Bool) (R R' : Nat)
    (hR : R ≤ R') (k : Bytes)
    (h12 : ∀ d ∈ recs, d.key = k → keep d = false → Deletable R recs d)
    (h3 : ∀ t ∈ recs, t.key = k → keep t = false → isTomb t.val = true → 0 < t.rev →
      ∀ w ∈ recs, w.key = t.key → 0 < w.rev → w.rev < t.rev → keep w = false) :
    readAt R' (recs.filter keep) k = readAt R' recs k := by
  have hs' : SortedRecs (recs.filter keep) := List.Pairwise.sublist List.filter_sublist hs
  unfold readAt
  cases hv : visible R' recs k with
  | none =>
    rw [visible_eq_none_iff] at hv
    rw [visible_eq_none_iff.2 fun x hx => hv x (List.mem_filter.1 hx).1]
  | some n =>
    obtain ⟨hn, hpn, hmax⟩ := (visible_eq_some_iff hs).1 hv
    obtain ⟨hnk, hn0, hnR⟩ := vis_iff.1 hpn
    cases hkn : keep n with
    | true =>
      rw [(visible_eq_some_iff hs').2 ⟨List.mem_filter.2 ⟨hn, hkn⟩, hpn,
        fun y hy => hmax y (List.mem_filter.1 hy).1⟩]
    | false =>
      -- the newest version `≤ R'` is removed: it is a deletion marker, and everything older went with it
      obtain ⟨_, _, hpos⟩ := h12 n hn hnk hkn
      have htomb : isTomb n.val = true := by
        rcases hpos hn0 with ht | ⟨r', hr', hkey, hlt, hle⟩
        · exact ht
        · have := hmax r' hr' (vis_iff.2 ⟨hkey.trans hnk, by omega, by omega⟩); omega
      have hnone : visible R' (recs.filter keep) k = none := by
        rw [visible_eq_none_iff]
        intro x hx
        obtain ⟨hxr, hkx⟩ := List.mem_filter.1 hx
        cases hp : vis R' k x with
        | false => rfl
        | true =>
          obtain ⟨hxk, hx0, _⟩ := vis_iff.1 hp
          have hle := hmax x hxr hp
          have hne : x.rev ≠ n.rev := fun e => by
            rw [recs_unique hs hxr hn (hxk.trans hnk.symm) e, hkn] at hkx; cases hkx
          rw [h3 n hn hnk hkn htomb hn0 x hxr (hxk.trans hnk.symm) hx0 (by omega)] at hkx; cases hkx
      rw [hnone]; simp [htomb]

theorem readAt_filter {recs : List Rec} (hs : SortedRecs recs) (keep : Rec → Bool) (R R' : Nat)
    (hR : R ≤ R')
    (h12 : ∀ d ∈ recs, keep d = false → Deletable R recs d)
    (h3 : ∀ t ∈ recs, keep t = false → isTomb t.val = true → 0 < t.rev →
      ∀ w ∈ recs, w.key = t.key → 0 < w.rev → w.rev < t.rev → keep w = false)
    (k : Bytes) : readAt R' (recs.filter keep) k = readAt R' recs k :=
  readAt_filter_key hs keep R R' hR k (fun d hd _ => h12 d hd) (fun t ht _ => h3 t ht)

/-! ### Part A, second half: removed deletion markers leave no older version behind -/

/-- every version of `k` older than `n` is gone from `s` -/
def Closed (recs : List Rec) (s : Store) (k : Bytes) (n : Nat) : Prop :=
  ∀ w ∈ recs, w.key = k → 0 < w.rev → w.rev < n → s.get w.ik = none

/-- a removed deletion marker has no older version left -/
def TombClosed (recs : List Rec) (s : Store) : Prop :=
  ∀ t ∈ recs, s.get t.ik = none → isTomb t.val = true → 0 < t.rev → Closed recs s t.key t.rev

/-- raw key `k` is being skipped, or all its versions older than `n` are gone -/
def Good (recs : List Rec) (st : CompState) (k : Bytes) (n : Nat) : Prop :=
  st.lastFailed = k ∨ Closed recs st.store k n

/-- what the pass maintains while it is at version `n` of raw key `k` -/
def KeyInv (recs : List Rec) (st : CompState) (k : Bytes) (n : Nat) : Prop :=
  Store.Sorted st.store ∧ TombClosed recs st.store ∧ Good recs st k n

theorem closed_zero (recs : List Rec) (s : Store) (k : Bytes) : Closed recs s k 0 :=
  fun _ _ _ _ h => absurd h (Nat.not_lt_zero _)

theorem closed_erase {recs : List Rec} {s : Store} (hs : Store.Sorted s) {k : Bytes} {n : Nat}
    (h : Closed recs s k n) (ik : Bytes) : Closed recs (s.erase ik) k n := by
  intro w hw hk h0 hn
  rw [Store.get_erase _ hs]
  split
  · rfl
  · exact h w hw hk h0 hn

theorem tombClosed_erase {recs : List Rec} {s : Store} (hs : Store.Sorted s) (hT : TombClosed recs s)
    {ik : Bytes}
    (hik : ∀ t ∈ recs, t.ik = ik → isTomb t.val = true → 0 < t.rev → Closed recs s t.key t.rev) :
    TombClosed recs (s.erase ik) := by
  intro t ht hget htomb hpos
  apply closed_erase hs
  rw [Store.get_erase _ hs] at hget
  by_cases h : t.ik = ik
  · exact hik t ht h htomb hpos
  · simp only [h, if_false] at hget
    exact hT t ht hget htomb hpos

theorem good_del_step {recs : List Rec} {mask : Nat → DelOutcome}
    {st : CompState} {k : Bytes} (hk : k ≠ []) (hsorted : Store.Sorted st.store)
    (hT : TombClosed recs st.store) {n : Nat} (hG : Good recs st k n) {ik : Bytes}
    (hik : ∀ t ∈ recs, t.ik = ik ↔ (t.key = k ∧ t.rev = n)) {m : Nat}
    (hmn : ∀ w ∈ recs, w.key = k → 0 < w.rev → w.rev < m → w.rev ≤ n) :
    KeyInv recs (runDelete mask st (.del ik k)) k m := by
  unfold KeyInv
  rcases runDelete_del_cases mask st ik hk with ⟨h1, h2⟩ | ⟨h1, h2, h3⟩
  · rw [h2]; exact ⟨hsorted, hT, .inl h1⟩
  · have hC : Closed recs st.store k n := hG.resolve_left h1
    rw [h3]
    refine ⟨Store.erase_sorted _ hsorted ik, ?_, .inr ?_⟩
    · apply tombClosed_erase hsorted hT
      intro t ht hti _ _
      obtain ⟨e1, e2⟩ := (hik t ht).1 hti
      rw [e1, e2]; exact hC
    · intro w hw hwk h0 hlt
      rw [h3, Store.get_erase _ hsorted]
      by_cases hwi : w.ik = ik
      · rw [if_pos hwi]
      · rw [if_neg hwi]
        have hle := hmn w hw hwk h0 hlt
        have hne : w.rev ≠ n := fun e => hwi ((hik w hw).2 ⟨hwk, e⟩)
        exact hC w hw hwk h0 (by omega)

theorem ik_iff {recs : List Rec} (hw : WellKeyed recs)
    (hk : ∀ r ∈ recs, Alphabet r.key ∧ r.rev < 2 ^ 64) {k : Bytes} {n : Nat} (hn : n < 2 ^ 64) :
    ∀ t ∈ recs, t.ik = encode k n ↔ (t.key = k ∧ t.rev = n) := by
  intro t ht
  rw [hw t ht]
  constructor
  · exact encode_inj (hk t ht).2 hn
  · rintro ⟨rfl, rfl⟩; rfl

/-- `prev` dominates every processed version `≤ R` -/
def PrevDom (R : Nat) (p : Prev) (done : List Rec) : Prop :=
  ∀ w ∈ done, 0 < w.rev → w.rev ≤ R → cmp w.key p.key = .lt ∨ (w.key = p.key ∧ w.rev ≤ p.rev)

theorem older_le_prev {recs done rs : List Rec} {r : Rec} (hs : SortedRecs recs)
    (hsplit : recs = done ++ r :: rs) {R : Nat} {p : Prev} (hpb : PrevBefore p (r :: rs))
    (hpd : PrevDom R p done) (hrR : r.rev ≤ R) {w : Rec} (hw : w ∈ recs) (hwk : w.key = r.key)
    (h0 : 0 < w.rev) (hlt : w.rev < r.rev) : w.key = p.key ∧ w.rev ≤ p.rev := by
  rw [hsplit] at hs hw
  have hpw := List.pairwise_append.1 hs
  have hwd : w ∈ done := by
    rcases List.mem_append.1 hw with h | h
    · exact h
    · exfalso
      rcases List.mem_cons.1 h with rfl | h
      · omega
      · rcases (List.pairwise_cons.1 hpw.2.1).1 w h with hc | ⟨_, hc⟩
        · rw [hwk] at hc; exact cmp_lt_irrefl hc
        · omega
  rcases hpd w hwd h0 (by omega) with hc | hc
  · exfalso
    rw [hwk] at hc
    rcases hpb r (by simp) with h | ⟨h, _⟩
    · exact cmp_lt_irrefl (cmp_lt_trans hc h)
    · rw [h] at hc; exact cmp_lt_irrefl hc
  · exact hc

theorem prevDom_step {recs done rs : List Rec} {r : Rec} (hs : SortedRecs recs)
    (hsplit : recs = done ++ r :: rs) {R : Nat} {p : Prev} (hpd : PrevDom R p done) :
    PrevDom R (workerStep (ccfg R) p r).2 (done ++ [r]) := by
  rw [hsplit] at hs
  have hpw := List.pairwise_append.1 hs
  by_cases hR : R < r.rev
  · rw [workerStep_above (c := ccfg R) hR p]
    intro w hw h0 hle
    rcases List.mem_append.1 hw with h | h
    · exact hpd w h h0 hle
    · simp only [List.mem_singleton] at h; subst h; omega
  · rw [workerStep_snd p hR]
    split
    · rename_i hidx
      intro w hw h0 hle
      rcases List.mem_append.1 hw with h | h
      · exact hpd w h h0 hle
      · simp only [List.mem_singleton] at h; subst h
        have := hidx.1; omega
    · intro w hw h0 hle
      rcases List.mem_append.1 hw with h | h
      · rcases hpw.2.2 w h r (by simp) with hc | ⟨h1, h2⟩
        · exact .inl hc
        · exact .inr ⟨h1, by simp only; omega⟩
      · simp only [List.mem_singleton] at h; subst h
        exact .inr ⟨rfl, Nat.le_refl _⟩

def CInv (recs : List Rec) (p : Prev) (st : CompState) (rs : List Rec) : Prop :=
  Store.Sorted st.store ∧ TombClosed recs st.store ∧
    ((∃ x ∈ rs, x.key = p.key) → Good recs st p.key p.rev)

section loop
variable {recs : List Rec} {mask : Nat → DelOutcome} (hs : SortedRecs recs) (hw : WellKeyed recs)
  (hk : ∀ r ∈ recs, Alphabet r.key ∧ r.rev < 2 ^ 64) (hne : ∀ r ∈ recs, r.key ≠ [])
include hw hk

theorem phase3 (R : Nat) {r : Rec} (hr : r ∈ recs) {st : CompState} (h : KeyInv recs st r.key r.rev) :
    KeyInv recs (runDeletes mask st (cA3 R r)) r.key r.rev := by
  unfold KeyInv cA3
  split
  · rename_i hc
    rw [runDeletes_singleton]
    have hG : Good recs (runDelete mask st (.delcur r.ik r.val r.key)) r.key r.rev := by
      rw [hc.1]; exact .inr (closed_zero _ _ _)
    rcases runDelete_store mask st (.delcur r.ik r.val r.key) with e | ⟨ik, ht, e⟩
    · rw [e]; exact ⟨h.1, h.2.1, hG⟩
    · simp only [actTarget, Option.some.injEq] at ht
      subst ht
      rw [e]
      refine ⟨Store.erase_sorted _ h.1 _, ?_, hG⟩
      apply tombClosed_erase h.1 h.2.1
      intro t ht hti _ hpos
      rw [hw r hr] at hti
      have := ((ik_iff hw hk (hk r hr).2) t ht).1 hti
      omega
  · exact h

include hne

theorem phase2 {r : Rec} (hr : r ∈ recs) {st : CompState} (h : KeyInv recs st r.key r.rev) :
    KeyInv recs (runDeletes mask st (cA2 r)) r.key r.rev := by
  unfold cA2
  split
  · rw [runDeletes_singleton]
    rw [hw r hr]
    exact good_del_step (hne r hr) h.1 h.2.1 h.2.2 (ik_iff hw hk (hk r hr).2)
      (fun w _ _ _ hlt => Nat.le_of_lt hlt)
  · exact h

include hs

theorem phase1 {done rs : List Rec} {r : Rec} (hsplit : recs = done ++ r :: rs) {R : Nat} {p : Prev}
    (hpb : PrevBefore p (r :: rs)) (hpd : PrevDom R p done) (hp64 : p.rev < 2 ^ 64) (hrR : r.rev ≤ R)
    {st : CompState} (hI : CInv recs p st (r :: rs)) :
    KeyInv recs (runDeletes mask st (cA1 p r)) r.key r.rev := by
  have hr : r ∈ recs := by rw [hsplit]; simp
  have hold : ∀ w ∈ recs, w.key = r.key → 0 < w.rev → w.rev < r.rev → w.key = p.key ∧ w.rev ≤ p.rev :=
    fun w hw hwk h0 hlt => older_le_prev hs hsplit hpb hpd hrR hw hwk h0 hlt
  unfold cA1
  split
  · rename_i hkey
    rw [runDeletes_emitPrev]
    refine ⟨hI.1, hI.2.1, .inr ?_⟩
    intro w hw hwk h0 hlt
    exfalso
    have := (hold w hw hwk h0 hlt).1
    rw [hwk] at this
    simp [this] at hkey
  · rename_i hkey
    have hkey : r.key = p.key := by simpa using hkey
    split
    · rename_i hpos
      have hG := hI.2.2 ⟨r, by simp, hkey⟩
      have hpk : p.key ≠ [] := hkey ▸ hne r hr
      rw [runDeletes_singleton]
      rw [hkey]
      exact good_del_step hpk hI.1 hI.2.1 hG (ik_iff hw hk hp64)
        (fun w hw hwk h0 hlt => (hold w hw (hwk.trans hkey.symm) h0 hlt).2)
    · rename_i hpos
      refine ⟨hI.1, hI.2.1, .inr ?_⟩
      intro w hw hwk h0 hlt
      have := (hold w hw hwk h0 hlt).2
      omega

theorem cinv_step {done rs : List Rec} {r : Rec} (hsplit : recs = done ++ r :: rs) {R : Nat} {p : Prev}
    (hpb : PrevBefore p (r :: rs)) (hpd : PrevDom R p done) (hp64 : p.rev < 2 ^ 64)
    {st : CompState} (hI : CInv recs p st (r :: rs)) :
    CInv recs (workerStep (ccfg R) p r).2 (runDeletes mask st (workerStep (ccfg R) p r).1) rs := by
  have hr : r ∈ recs := by rw [hsplit]; simp
  by_cases hR : R < r.rev
  · rw [workerStep_above (c := ccfg R) hR p]
    exact ⟨hI.1, hI.2.1, fun ⟨x, hx, hxk⟩ => hI.2.2 ⟨x, List.mem_cons_of_mem _ hx, hxk⟩⟩
  · rw [workerStep_fst p hR, workerStep_snd p hR, runDeletes_append, runDeletes_append]
    have h3 := phase3 (mask := mask) hw hk R hr (phase2 (mask := mask) hw hk hne hr
      (phase1 (mask := mask) hs hw hk hne hsplit hpb hpd hp64 (Nat.le_of_not_lt hR) hI))
    refine ⟨h3.1, h3.2.1, ?_⟩
    split
    · rename_i hidx
      rintro ⟨x, hx, hxk⟩
      rcases hpb r (by simp) with hc | ⟨hkey, hrev⟩
      · exfalso
        have hpw : (r :: rs).Pairwise recLt := by
          rw [hsplit] at hs; exact (List.pairwise_append.1 hs).2.1
        rcases (List.pairwise_cons.1 hpw).1 x hx with h | ⟨h, _⟩
        · rw [hxk] at h; exact cmp_lt_irrefl (cmp_lt_trans hc h)
        · rw [h, hxk] at hc; exact cmp_lt_irrefl hc
      · have hp0 : p.rev = 0 := by
          rcases Nat.eq_zero_or_pos p.rev with h | h
          · exact h
          · have := hrev h; have := hidx.1; omega
        rw [hp0]; exact .inr (closed_zero _ _ _)
    · intro _; exact h3.2.2

theorem loop_tombClosed (R : Nat)
    (rs done : List Rec) (p : Prev) (st : CompState) (hsplit : recs = done ++ rs)
    (hpb : PrevBefore p rs) (hpd : PrevDom R p done) (hp64 : p.rev < 2 ^ 64)
    (hI : CInv recs p st rs) :
    TombClosed recs (runDeletes mask st (workerLoop (ccfg R) p rs)).store := by
  induction rs generalizing done p st with
  | nil =>
    simp only [workerLoop]
    rw [runDeletes_emitPrev]; exact hI.2.1
  | cons r rs ih =>
    simp only [workerLoop]
    rw [runDeletes_append]
    have hr : r ∈ recs := by rw [hsplit]; simp
    have hpw : (r :: rs).Pairwise recLt := by
      rw [hsplit] at hs; exact (List.pairwise_append.1 hs).2.1
    exact ih (done ++ [r]) _ _ (by rw [hsplit]; simp) (prevBefore_step hpb hpw)
      (prevDom_step hs hsplit hpd) (workerStep_rev_lt hp64 (hk r hr).2)
      (cinv_step hs hw hk hne hsplit hpb hpd hp64 hI)

end loop

/-- Holds under every failure mask because a failed plain delete remembers its raw key whatever the error class, so
no newer version of that key is removed afterwards; `hne`: the empty raw key is never skipped (`skipped`). -/
theorem compact_tombClosed {recs : List Rec} (hs : SortedRecs recs) (hw : WellKeyed recs)
    (hk : ∀ r ∈ recs, Alphabet r.key ∧ r.rev < 2 ^ 64) (hne : ∀ r ∈ recs, r.key ≠ [])
    (R : Nat) (mask : Nat → DelOutcome) :
    TombClosed recs
      (runDeletes mask { store := encodeStore recs } (workerActs (ccfg R) recs)).store := by
  apply loop_tombClosed hs hw hk hne R recs [] {} _ rfl (prevBefore_init _)
    (fun _ h => by simp at h) (by decide)
  refine ⟨encodeStore_sorted hs hk, ?_, fun _ => .inr (closed_zero _ _ _)⟩
  intro t ht hget
  simp only at hget
  rw [hw t ht, encodeStore_get hs hk ht] at hget; cases hget

/-! ### reads of a sorted store, by membership -/

theorem readAt_eq_some_iff {R : Nat} {l : List Rec} {k v : Bytes} {n : Nat} :
    readAt R l k = some (v, n) ↔ ∃ x, visible R l k = some x ∧ isTomb x.val = false ∧ x.val = v ∧ x.rev = n := by
  unfold readAt
  cases visible R l k with
  | none => simp
  | some x => cases ht : isTomb x.val <;> simp [ht]

theorem readAt_some_iff {l : List Rec} (hs : SortedRecs l) {R : Nat} {k v : Bytes} {n : Nat} :
    readAt R l k = some (v, n) ↔ ∃ x ∈ l, x.key = k ∧ x.val = v ∧ x.rev = n ∧ 0 < x.rev ∧ x.rev ≤ R ∧
      isTomb x.val = false ∧ ∀ y ∈ l, y.key = k → 0 < y.rev → y.rev ≤ R → y.rev ≤ x.rev := by
  rw [readAt_eq_some_iff]
  constructor
  · rintro ⟨x, hv, ht, hxv, hxn⟩
    obtain ⟨hx, hp, hmax⟩ := (visible_eq_some_iff hs).1 hv
    obtain ⟨hxk, h0, hR⟩ := vis_iff.1 hp
    exact ⟨x, hx, hxk, hxv, hxn, h0, hR, ht, fun y hy h1 h2 h3 => hmax y hy (vis_iff.2 ⟨h1, h2, h3⟩)⟩
  · rintro ⟨x, hx, hxk, hxv, hxn, h0, hR, ht, hmax⟩
    exact ⟨x, (visible_eq_some_iff hs).2 ⟨hx, vis_iff.2 ⟨hxk, h0, hR⟩, fun y hy hp =>
      hmax y hy (vis_iff.1 hp).1 (vis_iff.1 hp).2.1 (vis_iff.1 hp).2.2⟩, ht, hxv, hxn⟩

theorem scan_filter_on {recs : List Rec} (hs : SortedRecs recs) (keep : Rec → Bool) (R : Nat) (sp : Bytes → Bool)
    (h : ∀ k, sp k = true → readAt R (recs.filter keep) k = readAt R recs k) :
    (scanRecs R (recs.filter keep)).filter (fun e => sp e.1) = (scanRecs R recs).filter (fun e => sp e.1) := by
  have hs' : SortedRecs (recs.filter keep) := List.Pairwise.sublist List.filter_sublist hs
  apply pairwise_ext (fun a b => cmp_lt_asymm a.1 b.1) ((scanRecs_sorted hs' R).sublist List.filter_sublist)
    ((scanRecs_sorted hs R).sublist List.filter_sublist)
  rintro ⟨k, v, n⟩
  rw [List.mem_filter, List.mem_filter, mem_scanRecs_iff hs', mem_scanRecs_iff hs]
  exact and_congr_left fun hk => by rw [h k hk]

theorem scan_filter_of_readAt {recs : List Rec} (hs : SortedRecs recs) (keep : Rec → Bool) (R : Nat)
    (h : ∀ k, readAt R (recs.filter keep) k = readAt R recs k) :
    scanRecs R (recs.filter keep) = scanRecs R recs := by
  have := scan_filter_on hs keep R (fun _ => true) (fun k _ => h k)
  rwa [List.filter_eq_self.2 fun _ _ => rfl, List.filter_eq_self.2 fun _ _ => rfl] at this

end KB.Compact
