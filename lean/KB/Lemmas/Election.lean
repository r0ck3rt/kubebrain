/- Helper lemmas for KB.Props.C14: what the three lock calls do, case by case. -/
import KB.Election
import KB.Lemmas.Engine
namespace KB.Election

def written (c : Cfg) (st : State) (i : Nat) (rec : Bytes) (cd : Cand) : State :=
  { store := Store.put st.store c.key rec, clock := st.clock + 1, cands := setCand st.cands i cd }

theorem stored_written (c : Cfg) (st : State) (i : Nat) (rec : Bytes) (cd : Cand) :
    stored c (written c st i rec cd) = some rec := by
  simp [stored, written, Store.get_put_any]

theorem setCand_same (f : Nat → Cand) (i : Nat) (cd : Cand) : setCand f i cd i = cd := by
  simp [setCand]

theorem setCand_other (f : Nat → Cand) {i j : Nat} (cd : Cand) (h : j ≠ i) : setCand f i cd j = f j := by
  simp [setCand, h]

theorem get_cases (c : Cfg) (st : State) (i : Nat) :
    (stored c st = none ∧ get c st i = (.notFound, st)) ∨
    (∃ v, stored c st = some v ∧
      get c st i = (.ok, { st with clock := st.clock + 1,
                                   cands := setCand st.cands i { lastVal := some v, tso := st.clock + 1 } })) := by
  unfold get
  cases h : stored c st with
  | none => exact .inl ⟨rfl, rfl⟩
  | some v => exact .inr ⟨v, rfl, rfl⟩

theorem commit_pine (q : Quirks) (s : Store) (k v : Bytes) :
    (Store.get s k = none ∧ commit q s [.pine k v] = .ok (Store.put s k v)) ∨
    (∃ old, Store.get s k = some old ∧
      commit q s [.pine k v] = .error (.conflict (some (0 + q.idxOffset)) (some old))) := by
  cases h : Store.get s k with
  | none => exact .inl ⟨rfl, by simp [commit, applyOps, applyOp, h]⟩
  | some old => exact .inr ⟨old, rfl, by simp [commit, applyOps, applyOp, h]⟩

theorem commit_cas (q : Quirks) (s : Store) (k new old : Bytes) :
    (Store.get s k = some old ∧ commit q s [.cas k new old] = .ok (Store.put s k new)) ∨
    (Store.get s k ≠ some old ∧
      ((∃ idx val, commit q s [.cas k new old] = .error (.conflict idx val)) ∨
       (q.casMissingNotFound = true ∧ Store.get s k = none ∧
         commit q s [.cas k new old] = .error .notFound))) := by
  cases h : Store.get s k with
  | none =>
    right
    refine ⟨by simp, ?_⟩
    by_cases hq : q.casMissingNotFound = true
    · exact .inr ⟨hq, rfl, by simp [commit, applyOps, applyOp, h, hq]⟩
    · exact .inl ⟨some (0 + q.idxOffset), none, by simp [commit, applyOps, applyOp, h, hq]⟩
  | some cur =>
    by_cases he : cur = old
    · subst he
      exact .inl ⟨rfl, by simp [commit, applyOps, applyOp, h]⟩
    · right
      refine ⟨by simpa using he, .inl ⟨some (0 + q.idxOffset),
        some (if q.casConflictValExpected then old else cur), ?_⟩⟩
      simp [commit, applyOps, applyOp, h, he]

theorem create_cases (c : Cfg) (st : State) (i : Nat) (rec : Bytes) :
    (stored c st = none ∧
      create c st i rec = (.ok, written c st i rec { lastVal := some rec, tso := st.clock + 1 })) ∨
    (∃ v, stored c st = some v ∧ create c st i rec = (.condFailed, st)) := by
  unfold create stored
  rcases commit_pine c.q st.store c.key rec with ⟨h, e⟩ | ⟨old, h, e⟩
  · exact .inl ⟨h, by rw [e]; rfl⟩
  · exact .inr ⟨old, h, by rw [e]; rfl⟩

theorem update_cases (c : Cfg) (st : State) (i : Nat) (rec : Bytes) :
    ((st.cands i).tso = 0 ∧ update c st i rec = (.notInitialised, st)) ∨
    ((st.cands i).tso ≠ 0 ∧ stored c st = some (expected (st.cands i)) ∧
      update c st i rec = (.ok, written c st i rec { (st.cands i) with tso := st.clock + 1 })) ∨
    ((st.cands i).tso ≠ 0 ∧ stored c st ≠ some (expected (st.cands i)) ∧
      (update c st i rec = (.condFailed, st) ∨
        (c.q.casMissingNotFound = true ∧ stored c st = none ∧ update c st i rec = (.notFound, st)))) := by
  unfold update stored
  by_cases ht : (st.cands i).tso = 0
  · exact .inl ⟨ht, by simp [ht]⟩
  · right
    simp only [ht, if_false]
    rcases commit_cas c.q st.store c.key rec (expected (st.cands i)) with
      ⟨h, e⟩ | ⟨h, ⟨idx, val, e⟩ | ⟨hq, hn, e⟩⟩
    · exact .inl ⟨ht, h, by rw [e]; rfl⟩
    · exact .inr ⟨ht, h, .inl (by rw [e]; rfl)⟩
    · exact .inr ⟨ht, h, .inr ⟨hq, hn, by rw [e]; rfl⟩⟩

theorem create_ok {c : Cfg} {st : State} {i : Nat} {rec : Bytes} (h : (create c st i rec).1 = .ok) :
    stored c st = none ∧
      create c st i rec = (.ok, written c st i rec { lastVal := some rec, tso := st.clock + 1 }) := by
  rcases create_cases c st i rec with r | ⟨v, _, u⟩
  · exact r
  · rw [u] at h; cases h

theorem update_ok {c : Cfg} {st : State} {i : Nat} {rec : Bytes} (h : (update c st i rec).1 = .ok) :
    (st.cands i).tso ≠ 0 ∧ stored c st = some (expected (st.cands i)) ∧
      update c st i rec = (.ok, written c st i rec { (st.cands i) with tso := st.clock + 1 }) := by
  rcases update_cases c st i rec with ⟨_, u⟩ | r | ⟨_, _, u | ⟨_, _, u⟩⟩
  · rw [u] at h; cases h
  · exact r
  · rw [u] at h; cases h
  · rw [u] at h; cases h

theorem trace_mem (c : Cfg) (st : State) (sched : List Step) (e : Entry) (h : e ∈ trace c st sched) :
    e.out = (step c e.pre e.step).1 ∧ e.post = (step c e.pre e.step).2 := by
  induction sched generalizing st with
  | nil => simp [trace] at h
  | cons s rest ih =>
    simp only [trace, List.mem_cons] at h
    rcases h with h | h
    · subst h; exact ⟨rfl, rfl⟩
    · exact ih _ h

theorem trace_append (c : Cfg) (st : State) (a b : List Step) :
    trace c st (a ++ b) = trace c st a ++ trace c (run c st a) b := by
  induction a generalizing st with
  | nil => rfl
  | cons s rest ih => simp [trace, run, ih]

theorem run_append (c : Cfg) (st : State) (a b : List Step) :
    run c st (a ++ b) = run c (run c st a) b := by
  induction a generalizing st with
  | nil => rfl
  | cons s rest ih => simp [run, ih]

theorem step_stored (c : Cfg) (st : State) (s : Step) :
    stored c (step c st s).2 = stored c st ∨
    ((step c st s).1 = .ok ∧ ∃ rec, s.writes = some rec ∧ stored c (step c st s).2 = some rec) := by
  cases s with
  | get i =>
    rcases get_cases c st i with ⟨_, e⟩ | ⟨v, _, e⟩ <;> simp [step, e, stored]
  | create i rec =>
    rcases create_cases c st i rec with ⟨_, e⟩ | ⟨v, _, e⟩
    · exact .inr ⟨by simp [step, e], rec, rfl, by simp [step, e, stored_written]⟩
    · exact .inl (by simp [step, e])
  | update i rec =>
    rcases update_cases c st i rec with ⟨_, e⟩ | ⟨_, _, e⟩ | ⟨_, _, e | ⟨_, _, e⟩⟩
    · exact .inl (by simp [step, e])
    · exact .inr ⟨by simp [step, e], rec, rfl, by simp [step, e, stored_written]⟩
    · exact .inl (by simp [step, e])
    · exact .inl (by simp [step, e])

theorem step_stored_some (c : Cfg) (st : State) (s : Step) (h : stored c st ≠ none) :
    stored c (step c st s).2 ≠ none := by
  rcases step_stored c st s with e | ⟨_, rec, _, e⟩
  · rw [e]; exact h
  · rw [e]; simp

theorem step_cands (c : Cfg) (st : State) (s : Step) :
    (step c st s).2.cands = st.cands ∨
    ∃ cd, (step c st s).2.cands = setCand st.cands s.who cd ∧
      ((s.rereads s.who = true ∧ cd.lastVal ≠ none) ∨
       ((st.cands s.who).tso ≠ 0 ∧ cd.lastVal = (st.cands s.who).lastVal)) := by
  cases s with
  | get i =>
    rcases get_cases c st i with ⟨_, e⟩ | ⟨v, _, e⟩
    · exact .inl (congrArg (·.2.cands) e)
    · exact .inr ⟨_, congrArg (·.2.cands) e, .inl ⟨beq_self_eq_true i, Option.some_ne_none v⟩⟩
  | create i rec =>
    rcases create_cases c st i rec with ⟨_, e⟩ | ⟨v, _, e⟩
    · exact .inr ⟨_, congrArg (·.2.cands) e, .inl ⟨beq_self_eq_true i, Option.some_ne_none rec⟩⟩
    · exact .inl (congrArg (·.2.cands) e)
  | update i rec =>
    rcases update_cases c st i rec with ⟨_, e⟩ | ⟨ht, _, e⟩ | ⟨_, _, e | ⟨_, _, e⟩⟩
    · exact .inl (congrArg (·.2.cands) e)
    · exact .inr ⟨{ (st.cands i) with tso := st.clock + 1 }, congrArg (·.2.cands) e, .inr ⟨ht, rfl⟩⟩
    · exact .inl (congrArg (·.2.cands) e)
    · exact .inl (congrArg (·.2.cands) e)

theorem step_lastVal (c : Cfg) (st : State) (s : Step) (j : Nat) (h : s.rereads j = false) :
    ((step c st s).2.cands j).lastVal = (st.cands j).lastVal := by
  rcases step_cands c st s with e | ⟨cd, e, hcd⟩
  · rw [e]
  · rw [e]
    by_cases hj : j = s.who
    · subst hj
      rw [setCand_same]
      rcases hcd with ⟨hr, _⟩ | ⟨_, hl⟩
      · rw [h] at hr; cases hr
      · exact hl
    · rw [setCand_other _ _ hj]

theorem wf_step (c : Cfg) (st : State) (s : Step) (h : WF st) : WF (step c st s).2 := by
  intro k
  rcases step_cands c st s with e | ⟨cd, e, hcd⟩
  · rw [e]; exact h k
  · rw [e]
    by_cases hk : k = s.who
    · subst hk
      rw [setCand_same]
      rcases hcd with ⟨_, hl⟩ | ⟨ht, hl⟩
      · exact fun _ => hl
      · rw [hl]; exact fun _ => h _ ht
    · rw [setCand_other _ _ hk]; exact h k

theorem run_invariant (c : Cfg) (P : State → Prop) (hstep : ∀ st s, P st → P (step c st s).2)
    (st : State) (sched : List Step) (h : P st) :
    P (run c st sched) ∧ ∀ e ∈ trace c st sched, P e.pre := by
  induction sched generalizing st with
  | nil => exact ⟨h, fun _ he => nomatch he⟩
  | cons s rest ih =>
    obtain ⟨h1, h2⟩ := ih _ (hstep st s h)
    refine ⟨h1, fun e he => ?_⟩
    rcases List.mem_cons.mp he with rfl | he
    · exact h
    · exact h2 e he

theorem wf_fresh (s : Store) : WF (State.fresh s) := by
  intro i h; simp [State.fresh] at h

theorem expected_of_wf {st : State} (h : WF st) {i : Nat} (ht : (st.cands i).tso ≠ 0) :
    some (expected (st.cands i)) = (st.cands i).lastVal := by
  have := h i ht
  unfold expected
  cases hl : (st.cands i).lastVal with
  | none => exact absurd hl this
  | some v => rfl

theorem createOks_cons (e : Entry) (l : List Entry) :
    createOks (e :: l) = (if e.isCreateOk then 1 else 0) + createOks l := by
  unfold createOks
  by_cases h : e.isCreateOk = true <;> simp [h] <;> omega

end KB.Election
