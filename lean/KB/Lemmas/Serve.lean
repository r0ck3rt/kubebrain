/- For the request part of C20 (KB.Props.C20Requests): what a fresh request does on an arbitrary state, as explicit runs
(`run_update_drift`, `run_create_fresh`); the store stays sorted and over the alphabet (`act_sorted`, `AlphaInv`), so that on
a reachable quiescent state a create of a fresh key is served and read back (`probe_serves`). -/
import KB.Props.C02Store
import KB.Props.C04
import KB.Lemmas.Retry
namespace KB
open Generated SysStore

/-! ### running a fresh request: `begin` and the first steps, on an arbitrary state -/

theorem act_step_of (g : G) (id : Nat) (f : Fault) (c : Client) (h : g.client id = some c) :
    act g (.step id f) = stepClient g c f := by simp [act, h]

theorem act_begin_free (g : G) (id : Nat) (kind : ReqKind) (hfree : g.client id = none) :
    act g (.begin id kind) =
      { g with clients := g.clients ++ [{ id := id, kind := kind, pc := .start, beginDealt := g.dealt }],
               begins := (id, g.wlog.length) :: g.begins } := by
  simp [act, hfree]

theorem client_snoc_free (g : G) (c : Client) {bs : List (Nat × Nat)} (hfree : g.client c.id = none) :
    G.client { g with clients := g.clients ++ [c], begins := bs } c.id = some c := by
  unfold G.client at *
  simp [List.find?_append, hfree]

theorem filter_free (g : G) (id : Nat) (hfree : g.client id = none) (c : Client) (hc : c.id = id) :
    (g.clients ++ [c]).filter (fun x => x.id != id) = g.clients := by
  unfold G.client at hfree
  rw [List.find?_eq_none] at hfree
  rw [List.filter_append]
  have : [c].filter (fun x => x.id != id) = [] := by simp [hc]
  rw [this, List.append_nil, List.filter_eq_self]
  intro x hx
  have := hfree x hx
  simpa using this

theorem map_free (g : G) (id : Nat) (hfree : g.client id = none) (c c' : Client) (hc : c.id = id) :
    (g.clients ++ [c]).map (fun x => if x.id == id then c' else x) = g.clients ++ [c'] := by
  unfold G.client at hfree
  rw [List.find?_eq_none] at hfree
  rw [List.map_append]
  congr 1
  · conv => rhs; rw [← List.map_id g.clients]
    apply List.map_congr_left
    intro x hx
    have := hfree x hx
    simp only [Bool.not_eq_true] at this
    simp [this]
  · simp [hc]

/-- `exp = g.dealt + 1` is rejected too: it names a version nobody has written yet, which the update would overwrite
itself. -/
theorem run_update_drift (g : G) (id : Nat) (k v : Bytes) (exp : Nat)
    (hfree : g.client id = none) (hwf : g.windowFull = false) (hexp : g.dealt + 1 ≤ exp) :
    run g [.begin id (.update k v exp), .step id .none] =
      { g with dealt := g.dealt + 1, slots := g.slots ++ [mkW (g.dealt + 1) exp false .put k v],
               done := g.done ++ [{ id := id, kind := .update k v exp, res := .error .drift, rev := g.dealt + 1,
                                    beginDealt := g.dealt, endDealt := g.dealt + 1 }],
               begins := (id, g.wlog.length) :: g.begins,
               spans := g.spans ++ [⟨id, g.dealt + 1, g.wlog.length, g.wlog.length⟩] } := by
  show act (act g (.begin id (.update k v exp))) (.step id .none) = _
  rw [act_begin_free g id _ hfree, act_step_of _ id _ _ (client_snoc_free g _ hfree)]
  have e0 : (exp == 0) = false := by simp; omega
  have hwf' : windowFullAt g.cfg g.dealt g.committed = false := hwf
  simp only [stepClient, stepClientCore, dealSite, G.windowFull, hwf', Bool.and_false, e0, hexp, if_true,
    Bool.false_eq_true, if_false]
  rw [notify_pos _ _ (by simp [mkW])]
  simp only [G.finish]
  rw [filter_free g id hfree _ rfl]
  simp [G.beginOf]

theorem run_delete_drift (g : G) (id : Nat) (k : Bytes) (exp : Nat)
    (hfree : g.client id = none) (hwf : g.windowFull = false) (hexp : g.dealt + 1 ≤ exp) (v : Bytes) (m : Nat)
    (hfound : bget g.cfg g.store k 0 = .found v m) :
    run g [.begin id (.delete k exp), .step id .none, .step id .none] =
      { g with dealt := g.dealt + 1, slots := g.slots ++ [mkW (g.dealt + 1) m false .delete k v],
               done := g.done ++ [{ id := id, kind := .delete k exp, res := .error .drift, rev := g.dealt + 1,
                                    beginDealt := g.dealt, endDealt := g.dealt + 1 }],
               begins := (id, g.wlog.length) :: g.begins,
               spans := g.spans ++ [⟨id, g.dealt + 1, g.wlog.length, g.wlog.length⟩] } := by
  show act (act (act g (.begin id (.delete k exp))) (.step id .none)) (.step id .none) = _
  rw [act_begin_free g id _ hfree]
  rw [act_step_of { g with clients := g.clients ++ [{ id := id, kind := .delete k exp, pc := .start, beginDealt := g.dealt }],
                           begins := (id, g.wlog.length) :: g.begins }
    id .none _ (client_snoc_free g _ hfree)]
  have hwf' : windowFullAt g.cfg g.dealt g.committed = false := hwf
  simp only [stepClient, stepClientCore, dealSite, Bool.false_and, Bool.false_eq_true, if_false, hfound, G.setClient]
  rw [map_free g id hfree _ _ rfl]
  rw [act_step_of _ id _ _ (client_snoc_free g
    { id := id, kind := .delete k exp, pc := .deleteDeal (some (v, m)), beginDealt := g.dealt } hfree)]
  have e0 : (decide (exp > 0) && decide (g.dealt + 1 ≤ exp)) = true := by simp; omega
  simp only [stepClient, stepClientCore, dealSite, G.windowFull, hwf', Bool.and_false, Bool.false_eq_true, if_false,
    e0, if_true]
  rw [notify_pos _ _ (by simp [mkW])]
  simp only [G.finish]
  rw [filter_free g id hfree _ rfl]
  simp [G.beginOf]

theorem run_create_fresh (g : G) (id : Nat) (k v : Bytes) (hfree : g.client id = none)
    (hwf : g.windowFull = false) (hfresh : g.store.get (idxKey k) = none) :
    run g [.begin id (.create k v), .step id .none, .step id .none] =
      { g with dealt := g.dealt + 1,
               store := (g.store.put (idxKey k) (be8 (g.dealt + 1))).put (encode k (g.dealt + 1)) v,
               slots := g.slots ++ [mkW (g.dealt + 1) 0 true .create k v false],
               hist := g.hist ++ [{ key := k, rev := g.dealt + 1, val := some v }],
               wlog := g.wlog ++ [{ key := k, rev := g.dealt + 1, val := some v, exp := .absent }],
               done := g.done ++ [{ id := id, kind := .create k v, res := .ok (g.dealt + 1), rev := g.dealt + 1,
                                    beginDealt := g.dealt, endDealt := g.dealt + 1 }],
               begins := (id, g.wlog.length) :: g.begins,
               spans := g.spans ++ [⟨id, g.dealt + 1, g.wlog.length, g.wlog.length + 1⟩] } := by
  show act (act (act g (.begin id (.create k v))) (.step id .none)) (.step id .none) = _
  rw [act_begin_free g id _ hfree]
  rw [act_step_of { g with clients := g.clients ++ [{ id := id, kind := .create k v, pc := .start, beginDealt := g.dealt }],
                           begins := (id, g.wlog.length) :: g.begins }
    id .none _ (client_snoc_free g _ hfree)]
  have hwf' : windowFullAt g.cfg g.dealt g.committed = false := hwf
  simp only [stepClient, stepClientCore, dealSite, G.windowFull, hwf', Bool.and_false, Bool.false_eq_true, if_false,
    G.setClient]
  rw [map_free g id hfree _ _ rfl]
  rw [act_step_of _ id _ _ (client_snoc_free { g with dealt := g.dealt + 1 }
    { id := id, kind := .create k v, pc := .createCommit (g.dealt + 1), beginDealt := g.dealt } hfree)]
  simp only [stepClient, stepClientCore, dealSite, Bool.false_and, Bool.false_eq_true, if_false, createOps, doCommit,
    commit, applyOps, applyOp, hfresh, applied, G.logWrite, finishCreate,
    beq_self_eq_true, Bool.true_or, if_true]
  rw [notify_pos _ _ (by simp [mkW])]
  simp only [G.finish]
  rw [filter_free g id hfree _ rfl]
  simp [mkW, G.beginOf]

/-! ### the sequencer touches neither the store nor the log of finished requests -/

theorem stepSeq_frame (g : G) : (stepSeq g).store = g.store ∧ (stepSeq g).cfg = g.cfg ∧ (stepSeq g).done = g.done := by
  unfold stepSeq
  split <;> exact ⟨rfl, rfl, rfl⟩

theorem run_seq_frame (n : Nat) (g : G) :
    (run g (List.replicate n Action.seq)).store = g.store ∧ (run g (List.replicate n Action.seq)).cfg = g.cfg ∧
    (run g (List.replicate n Action.seq)).done = g.done := by
  induction n generalizing g with
  | zero => exact ⟨rfl, rfl, rfl⟩
  | succ n ih =>
    obtain ⟨a, b, c⟩ := ih (stepSeq g)
    obtain ⟨a', b', c'⟩ := stepSeq_frame g
    simp only [List.replicate_succ, run, List.foldl_cons, act] at a b c ⊢
    exact ⟨a.trans a', b.trans b', c.trans c'⟩

theorem Reachable.run {g0 g : G} (hr : Reachable g0 g) (s : List Action) : Reachable g0 (run g s) := by
  obtain ⟨s0, rfl⟩ := hr
  exact ⟨s0 ++ s, run_append ..⟩

/-! ### the engine store stays sorted -/

theorem applyOp_sorted {q : Quirks} {s s' : Store} {i : Nat} {op : BOp} (hs : s.Sorted)
    (h : applyOp q s i op = .ok s') : s'.Sorted := by
  cases op with
  | pine k v =>
    simp only [applyOp] at h
    split at h
    · cases h
    · cases h; exact Store.put_sorted _ hs _ _
  | cas k new old =>
    simp only [applyOp] at h
    split at h
    · split at h <;> cases h
    · split at h
      · cases h; exact Store.put_sorted _ hs _ _
      · cases h
  | put k v => simp only [applyOp] at h; cases h; exact Store.put_sorted _ hs _ _
  | del k => simp only [applyOp] at h; cases h; exact Store.erase_sorted _ hs _
  | delcur k v =>
    simp only [applyOp] at h
    split at h
    · cases h
    · split at h
      · cases h; exact Store.erase_sorted _ hs _
      · cases h

theorem applyOps_sorted {q : Quirks} {s s' : Store} {i : Nat} {ops : List BOp} (hs : s.Sorted)
    (h : applyOps q s i ops = .ok s') : s'.Sorted := by
  induction ops generalizing s i with
  | nil => simp only [applyOps] at h; cases h; exact hs
  | cons op ops ih =>
    simp only [applyOps] at h
    split at h
    · cases h
    · rename_i s1 h1
      exact ih (applyOp_sorted hs h1) h

theorem doCommit_sorted' {c : Cfg} {s st : Store} {ops : List BOp} {f : Fault} {r : CommitRes} (hs : s.Sorted)
    (h : doCommit c s ops f = (r, st)) : st.Sorted := by
  have : (doCommit c s ops f).2.Sorted := by
    unfold doCommit
    split
    · exact hs
    · exact hs
    · rename_i st' hc
      have := applyOps_sorted hs hc
      cases f <;> assumption
  rw [h] at this
  exact this

@[simp] theorem afterCommit_store (g : G) (r : CommitRes) (st : Store) (f : Fault) (key : Bytes) (rev : Nat)
    (val : Option Bytes) (exp : Expect) : (afterCommit g r st f key rev val exp).store = st := by
  unfold SysStore.afterCommit; split <;> rfl

theorem stepRetryRead_sorted (g : G) (hs : g.store.Sorted) : (stepRetryRead g).store.Sorted := by
  apply stepRetryRead_cases (P := fun g' => g'.store.Sorted) <;> intros <;> exact hs

theorem stepRetryCommit_sorted (g : G) (f : Fault) (hs : g.store.Sorted) : (stepRetryCommit g f).store.Sorted := by
  apply stepRetryCommit_cases (P := fun g' => g'.store.Sorted)
  · intro _; exact hs
  · intro p r st _ hdc
    simpa using doCommit_sorted' hs hdc

theorem storeOK_sorted {g0 : G} (hs : C02.StoreOK g0) : g0.store.Sorted := by
  obtain ⟨recs, hst, hsr, hrecs, hb⟩ := hs
  rw [hst]
  refine encodeStore_sorted hsr (fun r hr => ⟨(hrecs r hr).1, ?_⟩)
  have := (hrecs r hr).2.1
  omega

theorem sorted_moves : Moves (fun g : G => g.store.Sorted) where
  deal h := h
  notify w h := by rw [G.notify_store]; exact h
  set _ h := h
  finish _ _ _ h := h

theorem act_sorted (g : G) (a : Action) (h : g.store.Sorted) : (act g a).store.Sorted :=
  act_cases (P := fun g' => g'.store.Sorted) g a h (fun _ _ _ _ => h)
    (fun c f _ => sorted_moves.stepClient h c f (fun _ hdc => by rw [afterCommit_store]; exact doCommit_sorted' h hdc) h)
    (by rw [(stepSeq_frame g).1]; exact h) (fun f => stepRetryCommit_sorted _ f (stepRetryRead_sorted g h))
    (stepRetryRead_sorted g h) (fun f => stepRetryCommit_sorted g f h)

theorem reachable_sorted {g0 g : G} (hs : C02.StoreOK g0) (hr : Reachable g0 g) : g.store.Sorted :=
  hr.induct (P := fun g => g.store.Sorted) (storeOK_sorted hs) fun g a _ h => act_sorted g a h

/-! ### requests over the documented alphabet keep the store over the alphabet -/

def StoreAlpha (st : Store) : Prop := ∀ kv ∈ st, ∃ k r, kv.1 = encode k r ∧ Alphabet k

structure AlphaInv (g : G) : Prop where
  cl : ∀ c ∈ g.clients, Alphabet c.kind.key
  sl : ∀ s ∈ g.slots, Alphabet s.key
  rq : ∀ q ∈ g.retryQ, Alphabet q.key
  st : StoreAlpha g.store
  rp : ∀ p, g.retryPc = some p → Alphabet p.w.key

theorem StoreAlpha.wstore {st : Store} (h : StoreAlpha st) {key : Bytes} (hk : Alphabet key) (rev : Nat) (new v : Bytes) :
    StoreAlpha ((st.put (idxKey key) new).put (encode key rev) v) := by
  intro kv hkv
  rcases Store.mem_put hkv with h1 | h1
  · exact ⟨key, rev, h1, hk⟩
  · rcases Store.mem_put h1 with h2 | h2
    · exact ⟨key, 0, h2, hk⟩
    · exact h kv h2

theorem StoreAlpha.pine {c : Cfg} {s st : Store} {key new v : Bytes} {rev : Nat} {f : Fault} {r : CommitRes}
    (h : StoreAlpha s) (hk : Alphabet key)
    (hdc : doCommit c s [.pine (idxKey key) new, .put (encode key rev) v] f = (r, st)) : StoreAlpha st := by
  rcases doCommit_pine_cases hdc with ⟨_, _, e⟩ | ⟨_, e⟩
  · rw [e]; exact h.wstore hk rev new v
  · rw [e]; exact h

theorem StoreAlpha.cas {c : Cfg} {s st : Store} {key new old v : Bytes} {rev : Nat} {f : Fault} {r : CommitRes}
    (h : StoreAlpha s) (hk : Alphabet key)
    (hdc : doCommit c s [.cas (idxKey key) new old, .put (encode key rev) v] f = (r, st)) : StoreAlpha st := by
  rcases doCommit_cas_cases hdc with ⟨_, _, e⟩ | ⟨_, e⟩
  · rw [e]; exact h.wstore hk rev new v
  · rw [e]; exact h

theorem AlphaInv.deal {g : G} (h : AlphaInv g) (d : Nat) : AlphaInv { g with dealt := d } :=
  ⟨h.cl, h.sl, h.rq, h.st, h.rp⟩

theorem AlphaInv.setClient {g : G} (h : AlphaInv g) (c' : Client) (hc' : Alphabet c'.kind.key) :
    AlphaInv (g.setClient c') := by
  refine ⟨?_, h.sl, h.rq, h.st, h.rp⟩
  intro x hx
  simp only [G.setClient, List.mem_map] at hx
  obtain ⟨y, hy, e⟩ := hx
  split at e
  · rw [← e]; exact hc'
  · rw [← e]; exact h.cl y hy

theorem AlphaInv.finish {g : G} (h : AlphaInv g) (c : Client) (res : WriteRes) (rev : Nat) :
    AlphaInv (g.finish c res rev) :=
  ⟨fun x hx => h.cl x (List.mem_filter.mp hx).1, h.sl, h.rq, h.st, h.rp⟩

theorem AlphaInv.notify {g : G} (h : AlphaInv g) (w : WEvent) (hw : Alphabet w.key) : AlphaInv (g.notify w) := by
  unfold G.notify
  split
  · exact h
  · refine ⟨h.cl, ?_, h.rq, h.st, h.rp⟩
    intro s hs
    rcases List.mem_append.mp hs with hs | hs
    · exact h.sl s hs
    · rw [List.mem_singleton.mp hs]; exact hw

theorem AlphaInv.afterCommit {g : G} (h : AlphaInv g) {st : Store} (hst : StoreAlpha st) (r : CommitRes) (f : Fault)
    (key : Bytes) (rev : Nat) (val : Option Bytes) (exp : Expect) : AlphaInv (afterCommit g r st f key rev val exp) := by
  unfold SysStore.afterCommit
  split
  · exact ⟨h.cl, h.sl, h.rq, hst, h.rp⟩
  · exact ⟨h.cl, h.sl, h.rq, hst, h.rp⟩

theorem AlphaInv.finishCreate {g : G} (h : AlphaInv g) (c : Client) (hc : Alphabet c.kind.key) {key : Bytes}
    (hk : Alphabet key) (val : Bytes) (rev : Nat) (r : CommitRes) : AlphaInv (finishCreate g c key val rev r) := by
  have hn := h.notify (mkW rev 0 (r == .ok) .create key val (r == .uncertain)) hk
  unfold KB.finishCreate
  split
  · exact hn.finish ..
  · split
    · exact hn.setClient _ hc
    · exact hn.finish ..
  · exact hn.finish ..

theorem AlphaInv.createSawIndex {g : G} (h : AlphaInv g) (c : Client) (hc : Alphabet c.kind.key) {key : Bytes}
    (hk : Alphabet key) (val : Bytes) (rev : Nat) (old : Bytes) (att : Nat) :
    AlphaInv (createSawIndex g c key val rev old att) := by
  unfold KB.createSawIndex
  split
  · exact h.finishCreate c hc hk ..
  · split
    · exact h.setClient _ hc
    · exact h.finishCreate c hc hk ..

theorem AlphaInv.stepClient {g : G} (h : AlphaInv g) {c : Client} (hc : c ∈ g.clients) (f : Fault) :
    AlphaInv (stepClient g c f) := by
  have hck := h.cl c hc
  have hkv : ∀ {key val : Bytes}, c.kind.kv = (key, val) → Alphabet key := fun {key _} e => by
    have : key = c.kind.key := (congrArg Prod.fst e).symm.trans c.kind.kv_key
    rw [this]; exact hck
  have hif : ∀ {p : Prop} [Decidable p] {a b : G}, AlphaInv a → AlphaInv b → AlphaInv (if p then a else b) :=
    fun ha hb => by split <;> assumption
  apply stepClient_cases' (P := AlphaInv)
  case hStartCreate => intros; exact (h.deal _).setClient _ hck
  case hStartUpdate =>
    intro key val exp _ hkind
    have hkey : Alphabet key := by simpa [hkind, ReqKind.key] using hck
    exact hif ((h.deal _).setClient _ hck) (hif (((h.deal _).notify _ hkey).finish ..) ((h.deal _).setClient _ hck))
  case hCreateCommit =>
    intro rev key val r st _ hk hdc
    have hkey := hkv hk
    have ha := h.afterCommit (h.st.pine hkey hdc) r f key rev (some val) .absent
    split
    · exact hif (ha.createSawIndex c hck hkey ..) (ha.setClient _ hck)
    · exact ha.finishCreate c hck hkey ..
  case hCreateReread =>
    intro rev key val _ hk
    cases g.store.get (idxKey key) with
    | some old => exact h.createSawIndex c hck (hkv hk) ..
    | none => exact h.setClient _ hck
  case hCreateRetry =>
    intro rev key val r st _ hk hdc
    exact (h.afterCommit (h.st.pine (hkv hk) hdc) r f key rev (some val) .absent).finishCreate c hck (hkv hk) ..
  case hCreateOver =>
    intro rev old att key val r st _ hk hdc
    have ha := h.afterCommit (h.st.cas (hkv hk) hdc) r f key rev (some val) .absent
    split
    · exact ha.setClient _ hck
    · exact ha.finishCreate c hck (hkv hk) ..
  case hCreateRecheck =>
    intro rev att key val _ hk
    cases g.store.get (idxKey key) with
    | some cur => exact hif (h.finishCreate c hck (hkv hk) ..) (h.createSawIndex c hck (hkv hk) ..)
    | none => exact h.setClient _ hck
  case hUpdateCommit =>
    intro rev key val exp r st _ hkind hdc
    have hkey : Alphabet key := by simpa [hkind, ReqKind.key] using hck
    have ha := (h.afterCommit (h.st.cas hkey hdc) r f key rev (some val) (.rev exp)).notify
      (mkW rev exp (r == .ok) .put key val (r == .uncertain)) hkey
    split
    · exact ha.finish ..
    · exact ha.setClient _ hck
    · exact ha.finish ..
  case hStartDelete => intros; cases bget g.cfg g.store _ 0 <;> exact h.setClient _ hck
  case hDeleteDealNone =>
    intro key exp _ hkind
    have hkey : Alphabet key := by simpa [hkind, ReqKind.key] using hck
    exact ((h.deal _).notify _ hkey).finish ..
  case hDeleteDealSome =>
    intro oldVal modRev key exp _ hkind
    have hkey : Alphabet key := by simpa [hkind, ReqKind.key] using hck
    have hn := (h.deal (g.dealt + 1)).notify (mkW (g.dealt + 1) modRev false .delete key oldVal) hkey
    exact hif (hn.finish ..) (hif (hn.setClient _ hck) (hif (hn.finish ..) ((h.deal _).setClient _ hck)))
  case hDeleteCommit =>
    intro rev oldVal modRev key exp r st _ hkind hdc
    have hkey : Alphabet key := by simpa [hkind, ReqKind.key] using hck
    have ha := (h.afterCommit (h.st.cas hkey hdc) r f key rev none (.rev modRev)).notify
      (mkW rev modRev (r == .ok) .delete key oldVal (r == .uncertain)) hkey
    split
    · exact ha.finish ..
    · exact ha.setClient _ hck
    · exact ha.finish ..
  case hReadLatest => intros; cases bget g.cfg g.store c.kind.key 0 <;> exact h.finish ..
  case hNop => exact h
  case hRefuse =>
    intro _ _
    exact ⟨fun x hx => h.cl x (List.mem_filter.mp hx).1, h.sl, h.rq, h.st, h.rp⟩

theorem AlphaInv.stepSeq {g : G} (h : AlphaInv g) : AlphaInv (stepSeq g) := by
  unfold KB.stepSeq
  split
  · exact h
  · rename_i w hw
    have hwm : w ∈ g.slots := List.mem_of_find?_eq_some hw
    refine ⟨h.cl, fun s hs => h.sl s (List.mem_filter.mp hs).1, ?_, h.st, h.rp⟩
    intro q hq
    simp only at hq
    split at hq
    · rcases List.mem_append.mp hq with hq | hq
      · exact h.rq q hq
      · rw [List.mem_singleton.mp hq]; exact h.sl w hwm
    · exact h.rq q hq

theorem AlphaInv.stepRetryRead {g : G} (h : AlphaInv g) : AlphaInv (stepRetryRead g) := by
  apply stepRetryRead_cases (P := AlphaInv)
  case hBusy => intros; exact h
  case hNop => intros; exact h
  case hPop =>
    intro w rest _ hq _
    exact ⟨h.cl, h.sl, fun q hqm => h.rq q (by rw [hq]; exact List.mem_cons_of_mem _ hqm), h.st, h.rp⟩
  case hDeal =>
    intro w rest val _ hq _ _ _
    refine ⟨h.cl, h.sl, h.rq, h.st, ?_⟩
    intro p hp
    have hp' : some ({ w := w, rev := g.dealt + 1, val := val } : RetryPc) = some p := hp
    simp only [Option.some.injEq] at hp'
    subst hp'
    exact h.rq w (by rw [hq]; exact List.mem_cons_self ..)
  case hFull => intros; exact h

theorem AlphaInv.stepRetryCommit {g : G} (h : AlphaInv g) (f : Fault) : AlphaInv (stepRetryCommit g f) := by
  apply stepRetryCommit_cases (P := AlphaInv)
  · intro _; exact h
  · intro p r st hp hdc
    have hw : Alphabet p.w.key := h.rp p hp
    have h1 : AlphaInv ({ g with retryPc := none
                                 retryQ := (if r == CommitRes.ok || r.isCas then g.retryQ.drop 1 else g.retryQ) } : G) := by
      refine ⟨h.cl, h.sl, ?_, h.st, fun q hq => by cases hq⟩
      intro q hqm
      simp only at hqm
      split at hqm
      · exact h.rq q (List.mem_of_mem_drop hqm)
      · exact h.rq q hqm
    exact (h1.afterCommit (h.st.cas hw hdc) r f p.w.key p.rev _ (.rev p.w.rev)).notify _ hw

def ActAlpha (a : Action) : Prop := ∀ id kind, a = .begin id kind → Alphabet kind.key

theorem AlphaInv.act {g : G} (h : AlphaInv g) (a : Action) (ha : ActAlpha a) : AlphaInv (act g a) := by
  refine act_cases g a h (fun id kind e _ => ⟨fun c hc => ?_, h.sl, h.rq, h.st, h.rp⟩) (fun c f hc => h.stepClient hc f)
    h.stepSeq (fun f => h.stepRetryRead.stepRetryCommit f) h.stepRetryRead h.stepRetryCommit
  rcases List.mem_append.mp hc with hc | hc
  · exact h.cl c hc
  · rw [List.mem_singleton.mp hc]; exact ha id kind e

theorem AlphaInv.run {g : G} (h : AlphaInv g) (s : List Action) (hs : ∀ a ∈ s, ActAlpha a) : AlphaInv (run g s) := by
  induction s generalizing g with
  | nil => exact h
  | cons a s ih =>
    exact ih (h.act a (hs a (List.mem_cons_self ..))) (fun b hb => hs b (List.mem_cons_of_mem _ hb))

theorem AlphaInv.init {g0 : G} (h0 : C02.Init g0) (hs : C02.StoreOK g0) : AlphaInv g0 := by
  obtain ⟨⟨_, hsl, hcl, hq, hp⟩, _⟩ := h0
  obtain ⟨recs, hst, _, hrecs, _⟩ := hs
  refine ⟨by simp [hcl], by simp [hsl], by simp [hq], ?_, by simp [hp]⟩
  intro kv hkv
  rw [hst] at hkv
  obtain ⟨r, hr, e⟩ := List.mem_map.mp hkv
  exact ⟨r.key, r.rev, by rw [← e], (hrecs r hr).1⟩

/-! ### a create + read of a fresh key after an arbitrary reachable quiescent state -/

theorem probe_serves {g0 g : G} (h0 : C02.Init g0) (hs : C02.StoreOK g0) (hr : Reachable g0 g)
    (hq : g.clients = []) (hp : g.retryPc = none) (hb : g.dealt + 1 < 2 ^ 64) (hwf : g.windowFull = false)
    (hal : ∀ kv ∈ g.store, ∃ k' r, kv.1 = encode k' r ∧ Alphabet k')
    (id : Nat) (k v : Bytes) (hk : Alphabet k) (hv : v ≠ tombstone)
    (hfresh : g.store.get (idxKey k) = none) :
    let g1 := run g ([.begin id (.create k v), .step id .none, .step id .none] ++
                      List.replicate (g.dealt + 1 - g.committed) Action.seq)
    (∃ d ∈ g1.done, d.id = id ∧ d.res = .ok (g.dealt + 1)) ∧ g1.committed = g.dealt + 1 ∧
    bget g1.cfg g1.store k 0 = .found v (g.dealt + 1) := by
  intro g1
  have hfree : g.client id = none := by simp [G.client, hq]
  have e3 := run_create_fresh g id k v hfree hwf hfresh
  generalize hg3 : run g [.begin id (.create k v), .step id .none, .step id .none] = g3 at e3
  have hg1 : g1 = run g3 (List.replicate (g.dealt + 1 - g.committed) Action.seq) := by
    show run g _ = _
    rw [run_append, hg3]
  have hr3 : Reachable g0 g3 := hg3 ▸ hr.run _
  obtain ⟨hd3, hc3, hcl3, hst3, hp3⟩ : g3.dealt = g.dealt + 1 ∧ g3.committed = g.committed ∧ g3.clients = [] ∧
      g3.store = (g.store.put (idxKey k) (be8 (g.dealt + 1))).put (encode k (g.dealt + 1)) v ∧ g3.retryPc = none := by
    rw [e3]; exact ⟨rfl, rfl, hq, rfl, hp⟩
  have hcatch := C04.quiescent_catches_up h0.1 hr3 (fun c hc => by rw [hcl3] at hc; cases hc) hp3
  rw [hd3, hc3, ← hg1] at hcatch
  obtain ⟨fs, fc, fd⟩ := run_seq_frame (g.dealt + 1 - g.committed) g3
  rw [← hg1] at fs fc fd
  refine ⟨?_, hcatch, ?_⟩
  · refine ⟨{ id := id, kind := .create k v, res := .ok (g.dealt + 1), rev := g.dealt + 1,
              beginDealt := g.dealt, endDealt := g.dealt + 1 }, ?_, rfl, rfl⟩
    rw [fd, e3]
    exact List.mem_append_right _ (List.mem_singleton.mpr rfl)
  · rw [fs, fc]
    have hsorted := reachable_sorted hs hr3
    have hcore := (SInv.reachable h0 hs hr3).core
    have hget : g3.store.get (encode k (g.dealt + 1)) = some v := by
      rw [hst3, Store.get_put_any]; simp
    have hkeys : ∀ kv ∈ g3.store, ∃ k' r, kv.1 = encode k' r ∧ Alphabet k' ∧ r ≤ g.dealt + 1 := by
      intro kv hkv
      obtain ⟨k1, r1, h1, h2⟩ := hcore.keys kv hkv
      obtain ⟨k2, r2, h3, h4⟩ := StoreAlpha.wstore hal hk _ _ _ kv (hst3 ▸ hkv)
      rw [h1, ← encode_mod k2 r2] at h3
      obtain ⟨e1, _⟩ := encode_inj (by omega) (Nat.mod_lt _ (by decide)) h3
      exact ⟨k1, r1, h1, e1 ▸ h4, hd3 ▸ h2⟩
    have := getInternal_max g3.cfg hsorted (fun kv hkv => by
      obtain ⟨k', r, h1, h2, h3⟩ := hkeys kv hkv
      exact ⟨k', r, h1, h2, by omega⟩) hk (by omega) hb hget fun r v' hr hm => by
        obtain ⟨k', r', h1, _, h3⟩ := hkeys _ hm
        obtain ⟨_, e4⟩ := encode_inj hr (by omega) h1
        omega
    have ht : isTomb v = false := by simpa [isTomb] using hv
    simp [bget, this, ht]

end KB
