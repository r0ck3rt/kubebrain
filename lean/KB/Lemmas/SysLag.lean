/-
  Helper lemmas for C02Lag: the write path of KB.Sys over an ARBITRARY well-formed initial store, with a revision
  allocator that may lag behind the revisions the store already holds (`dealt` far below the stored revisions).
  Nothing here bounds a stored revision by `dealt` (contrast `SysStore.Core.keys`, `C02.StoreOK`): what protects a
  key's history are the local guards of the write path
    * `deal`: an update / guarded delete dealt `rev ≤ expected` is refused (drift),
    * `delete`: refused when `rev ≤ modRev` of the version it read,
    * creator: a deletion record is only overwritten when `prevRev < rev`,
    * the repair loop rewrites a revision that the same (monotone) allocator dealt earlier.
  The invariant is the pair `Ctl` (control state) ∧ `LagG` (store and ghost log), preserved together by `LInv.run`.
-/
import KB.Lemmas.Serve
import KB.Lemmas.CompactRace
namespace KB.SysLag
open Generated KB.SysStore

/-! ### well-formed stores -/

/-- parsed index record of raw key `k`: `(revision, deleted?)` -/
def topOf (st : Store) (k : Bytes) : Option (Nat × Bool) := (st.get (idxKey k)).bind parseRevision

theorem topOf_eq_some {st : Store} {k : Bytes} {m : Nat} {t : Bool} :
    topOf st k = some (m, t) ↔ ∃ v, st.get (idxKey k) = some v ∧ parseRevision v = some (m, t) := by
  unfold topOf
  cases st.get (idxKey k) <;> simp

theorem topOf_wstore {store : Store} {key : Bytes} {rev : Nat} {new v : Bytes} (h0 : 0 < rev) (hr : rev < 2 ^ 64)
    (k : Bytes) : topOf (wstore store key rev new v) k = if k = key then parseRevision new else topOf store k := by
  unfold topOf
  rw [wstore_get_idx h0 hr]
  by_cases h : k = key <;> simp [h]

/-- Well-formedness of an engine store as the backend maintains it, WITHOUT any bound by the allocator:
sorted; every stored key is an encoded `(raw key, 8-byte revision)`; the index record of a raw key parses to
`(m, deleted?)`, the key has a version at `m` (the tombstone if the record carries the deletion flag) and no version
above `m`; a raw key without index record has no version at all. -/
structure KeyWF (st : Store) : Prop where
  sorted : st.Sorted
  keys : ∀ kv ∈ st, ∃ k r, kv.1 = encode k r ∧ r < 2 ^ 64
  idx : ∀ k v, st.get (idxKey k) = some v → ∃ m t, parseRevision v = some (m, t) ∧ 0 < m ∧ m < 2 ^ 64 ∧
      (∃ val, st.get (encode k m) = some val ∧ (t = true → val = tombstone)) ∧
      ∀ r, m < r → r < 2 ^ 64 → st.get (encode k r) = none
  noidx : ∀ k, st.get (idxKey k) = none → ∀ r, 0 < r → r < 2 ^ 64 → st.get (encode k r) = none

theorem KeyWF.nil : KeyWF [] := ⟨trivial, nofun, nofun, fun _ _ _ _ _ => rfl⟩

def StoredRev (st : Store) (k : Bytes) (r : Nat) : Prop :=
  (∃ t, topOf st k = some (r, t)) ∨ (0 < r ∧ r < 2 ^ 64 ∧ ∃ v, st.get (encode k r) = some v)

theorem KeyWF.storedRev_le {st : Store} (h : KeyWF st) {k : Bytes} {r : Nat} (hs : StoredRev st k r) :
    ∃ m t, topOf st k = some (m, t) ∧ r ≤ m := by
  rcases hs with ⟨t, ht⟩ | ⟨h0, hb, v, hv⟩
  · exact ⟨r, t, ht, Nat.le_refl _⟩
  · cases hi : st.get (idxKey k) with
    | none => have := h.noidx k hi r h0 hb; rw [hv] at this; cases this
    | some iv =>
      obtain ⟨m, t, hp, _, _, _, habove⟩ := h.idx k iv hi
      refine ⟨m, t, topOf_eq_some.mpr ⟨iv, hi, hp⟩, ?_⟩
      apply Nat.le_of_not_lt
      intro hlt
      have := habove r hlt hb
      rw [hv] at this; cases this

theorem KeyWF.wstore {st : Store} (h : KeyWF st) {key new v : Bytes} {rev : Nat} {t : Bool} (h0 : 0 < rev)
    (hr : rev < 2 ^ 64) (hnew : parseRevision new = some (rev, t)) (hv : t = true → v = tombstone)
    (habove : ∀ r, rev < r → r < 2 ^ 64 → st.get (encode key r) = none) : KeyWF (wstore st key rev new v) where
  sorted := Store.put_sorted _ (Store.put_sorted _ h.sorted _ _) _ _
  keys := fun kv hkv => by
    rcases Store.mem_put hkv with h1 | h1
    · exact ⟨key, rev, h1, hr⟩
    · rcases Store.mem_put h1 with h2 | h2
      · exact ⟨key, 0, h2, by decide⟩
      · exact h.keys kv h2
  idx := fun k iv hi => by
    rw [wstore_get_idx h0 hr] at hi
    by_cases hk : k = key
    · subst hk
      rw [if_pos rfl, Option.some.injEq] at hi
      subst hi
      refine ⟨rev, t, hnew, h0, hr, ⟨v, by rw [wstore_get_ver hr _ _ h0 hr]; simp, hv⟩, fun r hlt hb => ?_⟩
      rw [wstore_get_ver hr _ _ (by omega) hb, if_neg (by omega)]
      exact habove r hlt hb
    · rw [if_neg hk] at hi
      obtain ⟨m, t', hp, hm0, hmb, ⟨val, hval, htv⟩, hab⟩ := h.idx k iv hi
      refine ⟨m, t', hp, hm0, hmb, ⟨val, ?_, htv⟩, fun r hlt hb => ?_⟩
      · rw [wstore_get_ver hr _ _ hm0 hmb, if_neg (fun e => hk e.1)]; exact hval
      · rw [wstore_get_ver hr _ _ (by omega) hb, if_neg (fun e => hk e.1)]; exact hab r hlt hb
  noidx := fun k hi r hr0 hb => by
    rw [wstore_get_idx h0 hr] at hi
    by_cases hk : k = key
    · rw [if_pos hk] at hi; cases hi
    · rw [if_neg hk] at hi
      rw [wstore_get_ver hr _ _ hr0 hb, if_neg (fun e => hk e.1)]
      exact h.noidx k hi r hr0 hb

/-! ### the store / ghost-log invariant -/

/-- The store is well-formed; the index record of a logged write's key names a revision at or above it (`top`); per key the
logged revisions increase (`inc`) and lie above everything the key had in the initial store (`above`); the index revision of
a key never falls below its initial value, nor is the record removed (`mono`). -/
structure Lag (g0 : G) (store : Store) (wlog : List WLog) : Prop where
  wf : KeyWF store
  top : ∀ w ∈ wlog, ∃ m t, topOf store w.key = some (m, t) ∧ w.rev ≤ m
  inc : ∀ k, ((wlog.filter (fun w => w.key == k)).map (·.rev)).Pairwise (· < ·)
  above : ∀ w ∈ wlog, ∀ r, StoredRev g0.store w.key r → r < w.rev
  mono : ∀ k m0 t0, topOf g0.store k = some (m0, t0) → ∃ m t, topOf store k = some (m, t) ∧ m0 ≤ m

theorem Lag.init {g0 : G} (hwf : KeyWF g0.store) : Lag g0 g0.store [] :=
  ⟨hwf, by simp, by simp, by simp, fun _ m0 t0 h => ⟨m0, t0, h, Nat.le_refl _⟩⟩

/-- The one hypothesis about the key, `hpre`: its index record, if there is one, names a revision below `rev`. Then
everything the key has — in the store, in the log, in the initial store — is below `rev`. -/
theorem Lag.write {g0 : G} (hwf0 : KeyWF g0.store) {store : Store} {wlog : List WLog} (h : Lag g0 store wlog)
    (w : WLog) (new v : Bytes) {t : Bool} (h0 : 0 < w.rev) (hr : w.rev < 2 ^ 64)
    (hnew : parseRevision new = some (w.rev, t)) (hv : t = true → v = tombstone)
    (hpre : ∀ m t', topOf store w.key = some (m, t') → m < w.rev) :
    Lag g0 (wstore store w.key w.rev new v) (wlog ++ [w]) := by
  have hstored : ∀ r, StoredRev store w.key r → r < w.rev := fun r hs => by
    obtain ⟨m, t', hm, hle⟩ := h.wf.storedRev_le hs
    exact Nat.lt_of_le_of_lt hle (hpre m t' hm)
  have hlog : ∀ x ∈ wlog, x.key = w.key → x.rev < w.rev := fun x hx hk => by
    obtain ⟨m, t', hm, hle⟩ := h.top x hx
    exact Nat.lt_of_le_of_lt hle (hpre m t' (hk ▸ hm))
  have htop : topOf (wstore store w.key w.rev new v) w.key = some (w.rev, t) := by
    rw [topOf_wstore h0 hr, if_pos rfl, hnew]
  have hother : ∀ k, k ≠ w.key → topOf (wstore store w.key w.rev new v) k = topOf store k := fun k hk => by
    rw [topOf_wstore h0 hr, if_neg hk]
  refine ⟨h.wf.wstore h0 hr hnew hv fun r hlt hb => ?_, ?_, ?_, ?_, ?_⟩
  · cases hg : store.get (encode w.key r) with
    | none => rfl
    | some x => exact absurd (hstored r (.inr ⟨by omega, hb, x, hg⟩)) (by omega)
  · intro x hx
    rcases List.mem_append.mp hx with hx | hx
    · by_cases hk : x.key = w.key
      · exact ⟨w.rev, t, hk ▸ htop, Nat.le_of_lt (hlog x hx hk)⟩
      · rw [hother _ hk]; exact h.top x hx
    · rw [List.mem_singleton.mp hx]
      exact ⟨w.rev, t, htop, Nat.le_refl _⟩
  · intro k
    rw [List.filter_append, List.map_append, List.pairwise_append]
    refine ⟨h.inc k, (List.pairwise_map.mpr (List.Pairwise.filter _ (List.pairwise_singleton _ _))), ?_⟩
    intro a ha b hb
    obtain ⟨x, hx, rfl⟩ := List.mem_map.mp ha
    obtain ⟨y, hy, rfl⟩ := List.mem_map.mp hb
    obtain ⟨hxm, hxk⟩ := List.mem_filter.mp hx
    obtain ⟨hym, hyk⟩ := List.mem_filter.mp hy
    rw [List.mem_singleton.mp hym] at hyk ⊢
    exact hlog x hxm ((beq_iff_eq.mp hxk).trans (beq_iff_eq.mp hyk).symm)
  · intro x hx
    rcases List.mem_append.mp hx with hx | hx
    · exact h.above x hx
    · rw [List.mem_singleton.mp hx]
      intro r hs
      obtain ⟨m0, t0, hm0, hle⟩ := hwf0.storedRev_le hs
      obtain ⟨m, t', hm, hle'⟩ := h.mono _ m0 t0 hm0
      have := hpre m t' hm
      omega
  · intro k m0 t0 hm0
    obtain ⟨m, t', hm, hle⟩ := h.mono k m0 t0 hm0
    by_cases hk : k = w.key
    · subst hk
      exact ⟨w.rev, t, htop, Nat.le_trans hle (Nat.le_of_lt (hpre m t' hm))⟩
    · exact ⟨m, t', (hother k hk).trans hm, hle⟩

structure LagG (g0 g : G) : Prop where
  lag : Lag g0 g.store g.wlog
  hist : g.hist = g.wlog.map toH

theorem LagG.frame {g0 g g' : G} (h : LagG g0 g) (hs : g'.store = g.store) (hw : g'.wlog = g.wlog)
    (hh : g'.hist = g.hist) : LagG g0 g' := by
  constructor
  · rw [hs, hw]; exact h.lag
  · rw [hh, hw]; exact h.hist

theorem LagG.moves (g0 : G) : Moves (LagG g0) where
  deal h := h.frame rfl rfl rfl
  notify w h := h.frame (G.notify_store _ w) (G.notify_wlog _ w) (G.notify_hist _ w)
  set _ h := h.frame rfl rfl rfl
  finish _ _ _ h := h.frame rfl rfl rfl

theorem LagG.createSawIndex {g0 g : G} (h : LagG g0 g) (c : Client) (key val : Bytes) (rev : Nat) (old : Bytes)
    (att : Nat) : LagG g0 (createSawIndex g c key val rev old att) :=
  (LagG.moves g0).createSawIndex h ..

/-- The state after a commit: an applied batch `[index := new, version rev := v]` was conditioned on the index record
(`cond` its condition: absent for put-if-absent, a given value for compare-and-swap), and a record that meets the
condition is below `rev`; a batch that was not applied left the store alone. -/
theorem LagG.afterCommit {g0 g : G} (hwf0 : KeyWF g0.store) (h : LagG g0 g)
    {r : CommitRes} {st : Store} {f : Fault} {key : Bytes} {rev : Nat} (val : Option Bytes) (exp : Expect)
    {new v : Bytes} {t : Bool} {cond : Option Bytes} (h0 : 0 < rev) (hr : rev < 2 ^ 64)
    (hnew : parseRevision new = some (rev, t)) (hv : t = true → v = tombstone)
    (hcond : ∀ m t', cond.bind parseRevision = some (m, t') → m < rev)
    (hcase : (applied r f = true ∧ g.store.get (idxKey key) = cond ∧
               st = (g.store.put (idxKey key) new).put (encode key rev) v) ∨
             (applied r f = false ∧ st = g.store)) :
    LagG g0 (SysStore.afterCommit g r st f key rev val exp) := by
  unfold KB.SysStore.afterCommit
  rcases hcase with ⟨ha, hget, hst⟩ | ⟨ha, hst⟩
  · rw [if_pos ha]
    constructor
    · simp only [G.logWrite, hst]
      exact h.lag.write hwf0 ⟨key, rev, val, exp⟩ new v h0 hr hnew hv (by unfold topOf; rw [hget]; exact hcond)
    · simp [G.logWrite, h.hist, toH]
  · rw [ha]
    simp only [Bool.false_eq_true, if_false, hst]
    exact ⟨h.lag, h.hist⟩

theorem LagG.commit_cas {g0 g : G} (hwf0 : KeyWF g0.store) (h : LagG g0 g) {r : CommitRes} {st : Store} {f : Fault}
    {key new old v : Bytes} {rev : Nat} (val : Option Bytes) (exp : Expect) {t t' : Bool} {m : Nat}
    (hdc : doCommit g.cfg g.store [.cas (idxKey key) new old, .put (encode key rev) v] f = (r, st))
    (h0 : 0 < rev) (hr : rev < 2 ^ 64) (hnew : parseRevision new = some (rev, t)) (hv : t = true → v = tombstone)
    (hold : parseRevision old = some (m, t')) (hlt : m < rev) :
    LagG g0 (SysStore.afterCommit g r st f key rev val exp) :=
  h.afterCommit hwf0 val exp h0 hr hnew hv (cond := some old)
    (fun _ _ e => by cases hold.symm.trans e; exact hlt) (doCommit_cas_cases hdc)

/-! ### the control invariant -/

/-- what a request knows about the revision it holds: it was dealt by the allocator (`0 < r ≤ dealt`), and it passed
the guard of its path (creator: `prevRev < rev`; update: `expected < rev`; delete: `modRev < rev`) -/
def CL (d : Nat) (c : Client) : Prop :=
  match c.pc with
  | .createCommit r => 0 < r ∧ r ≤ d
  | .createReread r => 0 < r ∧ r ≤ d
  | .createRetry r => 0 < r ∧ r ≤ d
  | .createRecheck r _ => 0 < r ∧ r ≤ d
  | .createOver r old _ => (0 < r ∧ r ≤ d) ∧ ∃ p, parseRevision old = some (p, true) ∧ p < r
  | .updateCommit r => (0 < r ∧ r ≤ d) ∧ ∀ k v e, c.kind = .update k v e → e < r
  | .deleteCommit r _ m => (0 < r ∧ r ≤ d) ∧ m < r
  | _ => True

theorem CL.mono {d d' : Nat} {c : Client} (h : CL d c) (hd : d ≤ d') : CL d' c := by
  obtain ⟨id, kind, pc, bd⟩ := c
  cases pc
  case createOver | updateCommit | deleteCommit => exact ⟨⟨h.1.1, Nat.le_trans h.1.2 hd⟩, h.2⟩
  case start | deleteDeal | readLatest => trivial
  all_goals exact ⟨h.1, Nat.le_trans h.2 hd⟩

/-- Control invariant: in-flight requests (`CL`); every revision waiting in a slot or in the repair queue was dealt
by this allocator (`≤ dealt`); the repair loop between its read and its commit holds a revision dealt AFTER the
one it repairs. -/
structure Ctl (g : G) : Prop where
  cl : ∀ c ∈ g.clients, CL g.dealt c
  sl : ∀ w ∈ g.slots, w.rev ≤ g.dealt
  rq : ∀ w ∈ g.retryQ, w.rev ≤ g.dealt
  rp : ∀ p, g.retryPc = some p → (0 < p.rev ∧ p.rev ≤ g.dealt) ∧ p.w.rev < p.rev

theorem Ctl.raise {g : G} (h : Ctl g) {d : Nat} (hd : g.dealt ≤ d) : Ctl { g with dealt := d } :=
  ⟨fun c hc => (h.cl c hc).mono hd, fun w hw => Nat.le_trans (h.sl w hw) hd, fun w hw => Nat.le_trans (h.rq w hw) hd,
   fun p hp => ⟨⟨(h.rp p hp).1.1, Nat.le_trans (h.rp p hp).1.2 hd⟩, (h.rp p hp).2⟩⟩

theorem Ctl.deal {g : G} (h : Ctl g) : Ctl { g with dealt := g.dealt + 1 } := h.raise (Nat.le_succ _)

theorem Ctl.setClient {g : G} (h : Ctl g) {c' : Client} (hc : CL g.dealt c') : Ctl (g.setClient c') :=
  ⟨fun x hx => (mem_setClient hx).elim (fun h1 => h.cl x h1.1) fun e => e ▸ hc, h.sl, h.rq, h.rp⟩

theorem Ctl.finish {g : G} (h : Ctl g) (c : Client) (res : WriteRes) (rev : Nat) : Ctl (g.finish c res rev) :=
  ⟨fun x hx => h.cl x (List.mem_filter.mp hx).1, h.sl, h.rq, h.rp⟩

theorem Ctl.notify {g : G} (h : Ctl g) {w : WEvent} (hw : w.rev ≤ g.dealt) : Ctl (g.notify w) := by
  unfold G.notify
  split
  · exact h
  · refine ⟨h.cl, ?_, h.rq, h.rp⟩
    intro x hx
    rcases List.mem_append.mp hx with hx | hx
    · exact h.sl x hx
    · simp only [List.mem_singleton] at hx; subst hx; exact hw

theorem Ctl.afterCommit {g : G} (h : Ctl g) (r : CommitRes) (st : Store) (f : Fault) (key : Bytes) (rev : Nat)
    (val : Option Bytes) (exp : Expect) : Ctl (afterCommit g r st f key rev val exp) := by
  unfold KB.SysStore.afterCommit
  split <;> exact ⟨h.cl, h.sl, h.rq, h.rp⟩

theorem Ctl.finishCreate {g : G} (h : Ctl g) (c : Client) (key val : Bytes) {rev : Nat} (hr : rev ≤ g.dealt)
    (r : CommitRes) : Ctl (finishCreate g c key val rev r) := by
  unfold KB.finishCreate
  have h' := h.notify (w := mkW rev 0 (r == .ok) .create key val (r == .uncertain)) hr
  split
  · exact h'.finish ..
  · split
    · exact h'.setClient trivial
    · exact h'.finish ..
  · exact h'.finish ..

theorem Ctl.createSawIndex {g : G} (h : Ctl g) (c : Client) (key val : Bytes) {rev : Nat}
    (hr : 0 < rev ∧ rev ≤ g.dealt) (old : Bytes) (att : Nat) : Ctl (createSawIndex g c key val rev old att) := by
  unfold KB.createSawIndex
  split
  · exact h.finishCreate c key val hr.2 _
  · split
    · rename_i prevRev tomb hp hc
      simp only [Bool.and_eq_true, decide_eq_true_eq] at hc
      exact h.setClient ⟨hr, prevRev, by rw [hp, hc.1], hc.2⟩
    · exact h.finishCreate c key val hr.2 _

@[simp] theorem afterCommit_dealt' (g : G) (r : CommitRes) (st : Store) (f : Fault) (key : Bytes) (rev : Nat)
    (val : Option Bytes) (exp : Expect) : (afterCommit g r st f key rev val exp).dealt = g.dealt :=
  afterCommit_dealt ..

theorem Ctl.stepClient {g : G} (h : Ctl g) {c : Client} (hc : c ∈ g.clients) (f : Fault) :
    Ctl (stepClient g c f) := by
  have hci := h.cl c hc
  have hnew : 0 < g.dealt + 1 ∧ g.dealt + 1 ≤ g.dealt + 1 := ⟨Nat.succ_pos _, Nat.le_refl _⟩
  apply stepClient_cases'
  case hStartCreate =>
    intro key val _ _
    exact h.deal.setClient hnew
  case hStartUpdate =>
    intro key val exp _ hk
    refine iteInduction (fun _ => h.deal.setClient hnew) fun _ => ?_
    refine iteInduction (fun _ => (h.deal.notify (Nat.le_refl _)).finish ..) fun hlt => ?_
    -- `deal` let `rev > exp` through
    exact h.deal.setClient ⟨hnew, fun k v e he => by cases hk.symm.trans he; omega⟩
  case hCreateCommit =>
    intro rev key val r st hpc _ _
    simp only [CL, hpc, ← afterCommit_dealt g r st f key rev (some val) .absent] at hci
    have hA := h.afterCommit r st f key rev (some val) .absent
    split
    · exact iteInduction (fun _ => hA.createSawIndex c key val hci _ _) fun _ => hA.setClient hci
    · exact hA.finishCreate c key val hci.2 _
  case hCreateReread =>
    intro rev key val hpc _
    simp only [CL, hpc] at hci
    split
    · exact h.createSawIndex c key val hci _ _
    · exact h.setClient hci
  case hCreateRetry =>
    intro rev key val r st hpc _ _
    simp only [CL, hpc, ← afterCommit_dealt g r st f key rev (some val) .absent] at hci
    exact (h.afterCommit r st f key rev (some val) .absent).finishCreate c key val hci.2 _
  case hCreateOver =>
    intro rev old att key val r st hpc _ _
    simp only [CL, hpc, ← afterCommit_dealt g r st f key rev (some val) .absent] at hci
    have hA := h.afterCommit r st f key rev (some val) .absent
    split
    · exact hA.setClient hci.1
    · exact hA.finishCreate c key val hci.1.2 _
  case hCreateRecheck =>
    intro rev att key val hpc _
    simp only [CL, hpc] at hci
    split
    · exact iteInduction (fun _ => h.finishCreate c key val hci.2 _) fun _ => h.createSawIndex c key val hci _ _
    · exact h.setClient hci
  case hUpdateCommit =>
    intro rev key val exp r st hpc _ _
    simp only [CL, hpc, ← afterCommit_dealt g r st f key rev (some val) (.rev exp)] at hci
    have hA := (h.afterCommit r st f key rev (some val) (.rev exp)).notify
      (w := mkW rev exp (r == .ok) .put key val (r == .uncertain)) hci.1.2
    split
    · exact hA.finish ..
    · exact hA.setClient trivial
    · exact hA.finish ..
  case hStartDelete =>
    intro key exp _ _
    split <;> exact h.setClient trivial
  case hDeleteDealNone =>
    intro key exp _ _
    exact (h.deal.notify (Nat.le_refl _)).finish ..
  case hDeleteDealSome =>
    intro oldVal modRev key exp _ _
    have hN := h.deal.notify (w := mkW (g.dealt + 1) modRev false .delete key oldVal) (Nat.le_refl _)
    refine iteInduction (fun _ => hN.finish ..) fun _ => ?_
    refine iteInduction (fun _ => hN.setClient trivial) fun _ => ?_
    -- `delete` let `rev > modRev` through
    exact iteInduction (fun _ => hN.finish ..) fun hlt => h.deal.setClient ⟨hnew, by omega⟩
  case hDeleteCommit =>
    intro rev oldVal modRev key exp r st hpc _ _
    simp only [CL, hpc, ← afterCommit_dealt g r st f key rev none (.rev modRev)] at hci
    have hA := (h.afterCommit r st f key rev none (.rev modRev)).notify
      (w := mkW rev modRev (r == .ok) .delete key oldVal (r == .uncertain)) hci.1.2
    split
    · exact hA.finish ..
    · exact hA.setClient trivial
    · exact hA.finish ..
  case hReadLatest =>
    intro rev fb _
    split <;> exact h.finish ..
  case hNop => exact h
  case hRefuse =>
    intro _ _
    exact ⟨fun x hx => h.cl x (List.mem_filter.mp hx).1, h.sl, h.rq, h.rp⟩

theorem Ctl.stepSeq {g : G} (h : Ctl g) : Ctl (stepSeq g) := by
  unfold KB.stepSeq
  split
  · exact h
  · rename_i w hw
    have h' := h.raise (Nat.le_max_left g.dealt w.rev)
    refine ⟨h'.cl, fun x hx => h'.sl x (List.mem_filter.mp hx).1, fun x hx => ?_, h'.rp⟩
    split at hx
    · rcases List.mem_append.mp hx with hx | hx
      · exact h'.rq x hx
      · rw [List.mem_singleton.mp hx]; exact Nat.le_max_right _ _
    · exact h'.rq x hx

theorem Ctl.stepRetryRead {g : G} (h : Ctl g) : Ctl (stepRetryRead g) := by
  apply stepRetryRead_cases
  case hBusy => intros; exact h
  case hNop => intros; exact h
  case hPop =>
    intro w rest _ hq _
    exact ⟨h.cl, h.sl, fun x hx => h.rq x (by rw [hq]; exact List.mem_cons_of_mem _ hx), h.rp⟩
  case hDeal =>
    intro w rest val _ hq _ _ _
    have hw : w.rev ≤ g.dealt := h.rq w (by rw [hq]; exact List.mem_cons_self ..)
    have h' := h.deal
    refine ⟨h'.cl, h'.sl, h'.rq, ?_⟩
    intro p hp
    simp only [Option.some.injEq] at hp
    subst hp
    exact ⟨⟨Nat.succ_pos _, Nat.le_refl _⟩, by show w.rev < g.dealt + 1; omega⟩
  case hFull => intros; exact h

theorem Ctl.stepRetryCommit {g : G} (h : Ctl g) (f : Fault) : Ctl (stepRetryCommit g f) := by
  apply stepRetryCommit_cases
  · intro _; exact h
  · intro p r st hp _
    have hpr := (h.rp p hp).1.2
    have hE : Ctl { g with retryPc := none, retryQ := if r == CommitRes.ok || r.isCas then g.retryQ.drop 1 else g.retryQ } := by
      refine ⟨h.cl, h.sl, ?_, fun q hq => by cases hq⟩
      intro x hx
      simp only at hx
      split at hx
      · exact h.rq x (List.mem_of_mem_drop hx)
      · exact h.rq x hx
    exact (hE.afterCommit ..).notify (by simpa using hpr)

theorem Ctl.act {g : G} (h : Ctl g) (a : Action) : Ctl (act g a) := by
  refine act_cases g a h (fun id kind _ _ => ⟨fun x hx => ?_, h.sl, h.rq, h.rp⟩) (fun c f hc => h.stepClient hc f)
    h.stepSeq (fun f => h.stepRetryRead.stepRetryCommit f) h.stepRetryRead h.stepRetryCommit
  rcases List.mem_append.mp hx with hx | hx
  · exact h.cl x hx
  · rw [List.mem_singleton.mp hx]; trivial

/-! ### one step preserves the store / log invariant -/

theorem parse_be8 {e : Nat} (he : e < 2 ^ 64) : parseRevision (be8 e) = some (e, false) := by
  simpa [be8] using C10.parseRevision_live e he

theorem parse_be8_del {e : Nat} (he : e < 2 ^ 64) : parseRevision (be8 e ++ [0]) = some (e, true) :=
  C10.parseRevision_deleted e 0 he

/-- Each of the four batches lands above what its key has: the put-if-absent finds no record; the compare-and-swaps
are conditioned on a record the request knows to be below its revision (`CL`). -/
theorem LagG.stepClient {g0 g : G} (hwf0 : KeyWF g0.store) (hctl : Ctl g) (hb : g.dealt < 2 ^ 64) (h : LagG g0 g)
    {c : Client} (hc : c ∈ g.clients) (f : Fault) : LagG g0 (stepClient g c f) := by
  have hci := hctl.cl c hc
  have h64 : ∀ {r : Nat}, r ≤ g.dealt → r < 2 ^ 64 := fun hle => Nat.lt_of_le_of_lt hle hb
  refine (LagG.moves g0).stepClient h c f (fun hbatch hdc => ?_) (h.frame rfl rfl rfl)
  cases hbatch with
  | create hpc _ =>
    obtain ⟨h0, hle⟩ : 0 < _ ∧ _ ≤ g.dealt := by rcases hpc with hpc | hpc <;> simpa only [CL, hpc] using hci
    exact h.afterCommit hwf0 _ _ h0 (h64 hle) (parse_be8 (h64 hle)) nofun (cond := none) nofun
      (doCommit_pine_cases hdc)
  | over hpc _ =>
    simp only [CL, hpc] at hci
    obtain ⟨⟨h0, hle⟩, p, hp, hlt⟩ := hci
    exact h.commit_cas hwf0 _ _ hdc h0 (h64 hle) (parse_be8 (h64 hle)) nofun hp hlt
  | update hpc hk =>
    simp only [CL, hpc] at hci
    obtain ⟨⟨h0, hle⟩, hexp⟩ := hci
    have hlt := hexp _ _ _ hk
    exact h.commit_cas hwf0 _ _ hdc h0 (h64 hle) (parse_be8 (h64 hle)) nofun
      (parse_be8 (Nat.lt_trans hlt (h64 hle))) hlt
  | delete hpc _ =>
    simp only [CL, hpc] at hci
    obtain ⟨⟨h0, hle⟩, hlt⟩ := hci
    exact h.commit_cas hwf0 _ _ hdc h0 (h64 hle) (parse_be8_del (h64 hle)) (fun _ => rfl)
      (parse_be8 (Nat.lt_trans hlt (h64 hle))) hlt

/-- The repair loop's rewrite is conditioned on the record it repairs, dealt earlier by the same allocator. -/
theorem LagG.stepRetryCommit {g0 g : G} (hwf0 : KeyWF g0.store) (hctl : Ctl g) (hb : g.dealt < 2 ^ 64)
    (h : LagG g0 g) (f : Fault) : LagG g0 (stepRetryCommit g f) := by
  apply stepRetryCommit_cases
  · intro _; exact h
  · intro p r st hp hdc
    obtain ⟨⟨h0, hle⟩, hlt⟩ := hctl.rp p hp
    have hE : LagG g0 { g with retryPc := none, retryQ := if r == CommitRes.ok || r.isCas then g.retryQ.drop 1 else g.retryQ } :=
      h.frame rfl rfl rfl
    refine (LagG.moves g0).notify _ ?_
    cases ht : isTomb p.val with
    | true =>
      rw [ht] at hdc
      exact hE.commit_cas hwf0 _ _ hdc h0 (by omega) (parse_be8_del (by omega)) (fun _ => by simpa [isTomb] using ht)
        (parse_be8_del (by omega)) hlt
    | false =>
      rw [ht] at hdc
      exact hE.commit_cas hwf0 _ _ hdc h0 (by omega) (parse_be8 (by omega)) nofun (parse_be8 (by omega)) hlt

theorem LagG.stepRetryRead {g0 g : G} (h : LagG g0 g) : LagG g0 (stepRetryRead g) := by
  apply stepRetryRead_cases <;> intros <;> exact h.frame rfl rfl rfl

theorem stepRetryRead_dealt_le' (g : G) : g.dealt ≤ (stepRetryRead g).dealt := act_dealt_le g .retryRead

theorem LagG.act {g0 g : G} (hwf0 : KeyWF g0.store) (hctl : Ctl g) (h : LagG g0 g) (a : Action)
    (hb' : (act g a).dealt < 2 ^ 64) : LagG g0 (act g a) := by
  have hb : g.dealt < 2 ^ 64 := Nat.lt_of_le_of_lt (act_dealt_le g a) hb'
  refine act_cases (P := fun g' => g'.dealt < 2 ^ 64 → LagG g0 g') g a (fun _ => h) (fun _ _ _ _ _ => h.frame rfl rfl rfl)
    (fun c f hc _ => h.stepClient hwf0 hctl hb hc f) (fun _ => ?_) (fun f hb1 => ?_) (fun _ => h.stepRetryRead)
    (fun f _ => h.stepRetryCommit hwf0 hctl hb f) hb'
  · unfold KB.stepSeq
    split
    · exact h
    · exact h.frame rfl rfl rfl
  · exact h.stepRetryRead.stepRetryCommit hwf0 hctl.stepRetryRead
      (Nat.lt_of_le_of_lt (act_dealt_le (KB.stepRetryRead g) (.retryCommit f)) hb1) f

theorem LInv.run {g0 : G} (hwf0 : KeyWF g0.store) (s : List Action) :
    ∀ g : G, Ctl g → LagG g0 g → (run g s).dealt < 2 ^ 64 → Ctl (run g s) ∧ LagG g0 (run g s) := by
  induction s with
  | nil => intro g hc hl _; exact ⟨hc, hl⟩
  | cons a s ih =>
    intro g hc hl hb
    have hb' : (act g a).dealt < 2 ^ 64 := Nat.lt_of_le_of_lt (run_dealt_le (act g a) s) hb
    exact ih (act g a) (hc.act a) (hl.act hwf0 hc a hb') hb

/-! ### the point read returns the version the index names -/

/-- Only `k`'s own versions matter: no bound on what other keys hold. -/
theorem getInternal_newest (cfg : Cfg) {store : Store} (hs : store.Sorted) (hal : StoreAlpha store)
    {R : Nat} (h0 : 0 < R) (hb : R < 2 ^ 64) {k : Bytes} (hka : Alphabet k)
    {v : Bytes} (hget : store.get (encode k R) = some v)
    (htop : ∀ r, R < r → r < 2 ^ 64 → store.get (encode k r) = none) :
    getInternal cfg store k 0 = some (v, R) := by
  refine getInternal_max cfg hs (fun kv hkv => ?_) hka h0 hb hget fun r v' hr hm => Nat.le_of_not_lt fun hlt => ?_
  · obtain ⟨k, r, h1, h2⟩ := hal kv hkv
    exact ⟨k, r % 2 ^ 64, by rw [encode_mod]; exact h1, h2, Nat.mod_lt _ (by decide)⟩
  · have := htop r hlt hr
    rw [Store.get_of_mem hs hm] at this
    cases this

theorem KeyWF.read_newest (cfg : Cfg) {st : Store} (h : KeyWF st) (hal : StoreAlpha st) {k : Bytes} (hka : Alphabet k)
    {iv : Bytes} (hi : st.get (idxKey k) = some iv) :
    ∃ m t val, parseRevision iv = some (m, t) ∧ getInternal cfg st k 0 = some (val, m) ∧
      (t = true → val = tombstone) := by
  obtain ⟨m, t, hp, hm0, hmb, ⟨val, hval, htv⟩, habove⟩ := h.idx k iv hi
  exact ⟨m, t, val, hp, getInternal_newest cfg h.sorted hal hm0 hmb hka hval habove, htv⟩

end KB.SysLag
