/- What C09 (unknown outcomes and the retry loop) needs of KB.Sys. `Eff`: a client step applies one batch and reports it
in a slot in the same step, or applies nothing. `AckInv`: acknowledged ⇒ applied, definite failure ⇒ not applied. `Cv`: the
last applied write of every key is emitted, in a filled slot or in the retry queue; once slots and queue are empty the
events of a key end in its last applied write (`Cv.converged`). -/
import KB.Props.C02Store
import KB.Props.C03
import KB.Lemmas.Engine
namespace KB
open Generated SysStore

/-! ### the effect of one client step -/

/-- the value a request writes (`none` for a delete) -/
def ReqKind.wval : ReqKind → Option Bytes
  | .create _ v => some v
  | .update _ v _ => some v
  | .delete _ _ => none

def Pc.createPath : Pc → Bool
  | .createCommit _ | .createReread _ | .createRetry _ | .createOver _ _ _ | .createRecheck _ _ => true
  | _ => false

def ValOK (v : Bytes) : Prop := v ≠ [] ∧ v ≠ tombstone

/-- per-request well-formedness: only creates / updates are on the create path -/
structure CK (c : Client) : Prop where
  path : c.pc.createPath = true → c.kind.wval = some c.kind.kv.2

/-- request kinds the convergence theorem is about -/
structure KOK (k : ReqKind) : Prop where
  alph : Alphabet k.key
  val : ∀ v, k.wval = some v → ValOK v

/-- a revision the stepping request may report to the sequencer -/
def RevI (g : G) (c : Client) (r : Nat) : Prop :=
  c.pc.inflight = some r ∨ (c.pc.held = none ∧ r = g.dealt + 1)

/-- a revision the stepping request may hold / return with -/
def RevH (g : G) (c : Client) (r : Nat) : Prop :=
  c.pc.held = some r ∨ (c.pc.held = none ∧ r = g.dealt + 1)

theorem RevI.toH {g : G} {c : Client} {r : Nat} (h : RevI g c r) : RevH g c r := by
  rcases h with h | h
  · exact .inl (Pc.held_of_inflight h)
  · exact .inr h

def VerbOK (s : WEvent) (x : WLog) : Prop := (s.verb == .delete) = x.val.isNone

/-- what no client step touches -/
structure Frame (g g' : G) : Prop where
  cfg : g'.cfg = g.cfg
  retryQ : g'.retryQ = g.retryQ
  emitted : g'.emitted = g.emitted
  committed : g'.committed = g.committed
  retryPc : g'.retryPc = g.retryPc

/-- the step applied a batch: one log entry, its slot filled in the same step, the request returns -/
structure AppliedEff (g : G) (c : Client) (g' : G) (x : WLog) (s : WEvent) (d : Done) : Prop where
  frame : Frame g g'
  wlog : g'.wlog = g.wlog ++ [x]
  store : g'.store = wstore g.store x.key x.rev (be8 x.rev ++ flagOf x.val) (x.val.getD tombstone)
  slots : g'.slots = g.slots ++ [s]
  done : g'.done = g.done ++ [d]
  clients : g'.clients = others g.clients c.id
  dealt : g'.dealt = g.dealt
  infl : c.pc.inflight = some x.rev
  xkey : x.key = c.kind.key
  xval : ∀ v, x.val = some v → c.kind.wval = some v
  skey : s.key = x.key
  srev : s.rev = x.rev
  sflag : s.valid = true ∨ s.uncertain = true
  verb : VerbOK s x
  dkind : d.kind = c.kind
  drev : d.rev = x.rev
  dres : d.res = .ok x.rev ∨ ∃ e, d.res = .error e

/-- the step applied nothing -/
structure IdleEff (g : G) (c : Client) (g' : G) : Prop where
  frame : Frame g g'
  wlog : g'.wlog = g.wlog
  store : g'.store = g.store
  slots : ∃ sl, g'.slots = g.slots ++ sl ∧ sl.length ≤ 1 ∧
    ∀ s ∈ sl, s.valid = false ∧ s.key = c.kind.key ∧ RevI g c s.rev
  done : g'.done = g.done ∨ ∃ d, g'.done = g.done ++ [d] ∧ d.kind = c.kind ∧ (∀ rv, d.res ≠ .ok rv) ∧ RevH g c d.rev
  clients : ∀ c' ∈ g'.clients, (c' ∈ g.clients ∧ c'.id ≠ c.id) ∨
    (c'.id = c.id ∧ c'.kind = c.kind ∧ CK c' ∧ ∀ r, c'.pc.held = some r → RevH g c r)
  dealt : g'.dealt = g.dealt ∨ (g'.dealt = g.dealt + 1 ∧ c.pc.held = none)

def Eff (g : G) (c : Client) (g' : G) : Prop :=
  (∃ x s d, AppliedEff g c g' x s d) ∨ IdleEff g c g'

/-- intermediate state of a step that applies nothing: only `dealt` and `slots` may have moved -/
structure Mid (g : G) (c : Client) (g1 : G) (sl : List WEvent) : Prop where
  frame : Frame g g1
  wlog : g1.wlog = g.wlog
  store : g1.store = g.store
  slots : g1.slots = g.slots ++ sl
  done : g1.done = g.done
  clients : g1.clients = g.clients
  dealt : g1.dealt = g.dealt ∨ (g1.dealt = g.dealt + 1 ∧ c.pc.held = none)

theorem Mid.refl (g : G) (c : Client) : Mid g c g [] :=
  ⟨⟨rfl, rfl, rfl, rfl, rfl⟩, rfl, rfl, by simp, rfl, rfl, .inl rfl⟩

theorem Mid.deal (g : G) (c : Client) (h : c.pc.held = none) : Mid g c { g with dealt := g.dealt + 1 } [] :=
  ⟨⟨rfl, rfl, rfl, rfl, rfl⟩, rfl, rfl, by simp, rfl, rfl, .inr ⟨rfl, h⟩⟩

theorem notify_pos (g : G) (w : WEvent) (h : w.rev ≠ 0) : g.notify w = { g with slots := g.slots ++ [w] } := by
  simp [G.notify, h]

theorem Mid.notify {g : G} {c : Client} {g1 : G} (h : Mid g c g1 []) (s : WEvent) (hs : s.rev ≠ 0) :
    Mid g c (g1.notify s) [s] := by
  obtain ⟨⟨a1, a2, a3, a4, a5⟩, b, c', d, e, f', g'⟩ := h
  rw [notify_pos _ _ hs]
  exact ⟨⟨a1, a2, a3, a4, a5⟩, b, c', by simpa using d, e, f', g'⟩

theorem mem_setClient {g : G} {c' x : Client} (h : x ∈ (g.setClient c').clients) :
    (x ∈ g.clients ∧ x.id ≠ c'.id) ∨ x = c' := by
  simp only [G.setClient, List.mem_map] at h
  obtain ⟨y, hy, rfl⟩ := h
  by_cases e : y.id = c'.id
  · right; simp [e]
  · left; simp [e, hy]

theorem Mid.finish {g : G} {c : Client} {g1 : G} {sl : List WEvent} (h : Mid g c g1 sl) (hl : sl.length ≤ 1)
    (hsl : ∀ s ∈ sl, s.valid = false ∧ s.key = c.kind.key ∧ RevI g c s.rev)
    {res : WriteRes} (hres : ∀ rv, res ≠ .ok rv) {rev : Nat} (hrev : RevH g c rev) :
    IdleEff g c (g1.finish c res rev) := by
  obtain ⟨⟨a1, a2, a3, a4, a5⟩, b, c', d, e, f', g'⟩ := h
  refine ⟨⟨a1, a2, a3, a4, a5⟩, b, c', ⟨sl, d, hl, hsl⟩, .inr ⟨_, by simp only [G.finish, e]; rfl, rfl, hres, hrev⟩, ?_, g'⟩
  intro x hx
  simp only [G.finish_clients, mem_others, f'] at hx
  exact .inl hx

theorem Mid.set {g : G} {c : Client} {g1 : G} {sl : List WEvent} (h : Mid g c g1 sl) (hl : sl.length ≤ 1)
    (hsl : ∀ s ∈ sl, s.valid = false ∧ s.key = c.kind.key ∧ RevI g c s.rev)
    {c' : Client} (hid : c'.id = c.id) (hkd : c'.kind = c.kind) (hck : CK c')
    (hh : ∀ r, c'.pc.held = some r → RevH g c r) :
    IdleEff g c (g1.setClient c') := by
  obtain ⟨⟨a1, a2, a3, a4, a5⟩, b, c'', d, e, f', g'⟩ := h
  refine ⟨⟨a1, a2, a3, a4, a5⟩, b, c'', ⟨sl, d, hl, hsl⟩, .inl e, ?_, g'⟩
  intro x hx
  rcases mem_setClient hx with ⟨h1, h2⟩ | rfl
  · rw [f'] at h1; rw [hid] at h2; exact .inl ⟨h1, h2⟩
  · exact .inr ⟨hid, hkd, hck, hh⟩

theorem Mid.report_finish {g : G} {c : Client} {g1 : G} (h : Mid g c g1 []) {s : WEvent} (hr : RevI g c s.rev)
    (h0 : s.rev ≠ 0) (hk : s.key = c.kind.key) (hv : s.valid = false) {res : WriteRes} (hres : ∀ rv, res ≠ .ok rv) :
    IdleEff g c ((g1.notify s).finish c res s.rev) :=
  (h.notify s h0).finish (by simp) (List.forall_mem_singleton.mpr ⟨hv, hk, hr⟩) hres hr.toH

theorem Mid.report_set {g : G} {c : Client} {g1 : G} (h : Mid g c g1 []) {s : WEvent} (hr : RevI g c s.rev)
    (h0 : s.rev ≠ 0) (hk : s.key = c.kind.key) (hv : s.valid = false) (fb : Option (Bytes × Bytes × Nat)) :
    IdleEff g c ((g1.notify s).setClient { c with pc := .readLatest s.rev fb }) :=
  (h.notify s h0).set (by simp) (List.forall_mem_singleton.mpr ⟨hv, hk, hr⟩) rfl rfl ⟨by simp [Pc.createPath]⟩
    fun r e => Option.some.inj e ▸ hr.toH

theorem IdleEff.move {g : G} {c : Client} (hck : CK c) {pc : Pc} (hcp : pc.createPath = true → c.pc.createPath = true)
    (hh : pc.held = c.pc.held) : IdleEff g c (g.setClient { c with pc := pc }) :=
  (Mid.refl g c).set (by simp) (by simp) rfl rfl ⟨fun h => hck.path (hcp h)⟩ fun _ e => .inl (hh ▸ e)

theorem IdleEff.deal {g : G} {c : Client} (hn : c.pc.held = none) {pc : Pc}
    (hcp : pc.createPath = true → c.kind.wval = some c.kind.kv.2) (hh : pc.held = some (g.dealt + 1)) :
    IdleEff g c (G.setClient { g with dealt := g.dealt + 1 } { c with pc := pc }) :=
  (Mid.deal g c hn).set (by simp) (by simp) rfl rfl ⟨hcp⟩ fun _ e => .inr ⟨hn, Option.some.inj (e.symm.trans hh)⟩

theorem afterCommit_idle {g : G} {r : CommitRes} {f : Fault} (ha : applied r f = false) (key : Bytes) (rev : Nat)
    (val : Option Bytes) (exp : Expect) : afterCommit g r g.store f key rev val exp = g := by
  simp [afterCommit, ha]

theorem not_ok_of_idle {r : CommitRes} {f : Fault} (ha : applied r f = false) : r ≠ .ok := by
  rintro rfl; simp [applied] at ha

theorem AppliedEff.mk' {g : G} {c : Client} {r : CommitRes} {f : Fault} {st : Store} {key : Bytes} {rev : Nat}
    {val : Option Bytes} {exp : Expect} {s : WEvent} {res : WriteRes}
    (ha : applied r f = true) (hst : st = wstore g.store key rev (be8 rev ++ flagOf val) (val.getD tombstone))
    (hi : c.pc.inflight = some rev) (h0 : rev ≠ 0) (hk : key = c.kind.key) (hv : ∀ v, val = some v → c.kind.wval = some v)
    (hsk : s.key = key) (hsr : s.rev = rev) (hsf : s.valid = true ∨ s.uncertain = true)
    (hverb : (s.verb == .delete) = val.isNone) (hres : res = .ok rev ∨ ∃ e, res = .error e) :
    AppliedEff g c (((afterCommit g r st f key rev val exp).notify s).finish c res rev)
      ⟨key, rev, val, exp⟩ s ⟨c.id, c.kind, res, rev, c.beginDealt, g.dealt⟩ := by
  rw [notify_pos _ _ (hsr ▸ h0), afterCommit, if_pos ha]
  exact ⟨⟨rfl, rfl, rfl, rfl, rfl⟩, rfl, hst, rfl, rfl, rfl, rfl, hi, hk, hv, hsk, hsr, hsf, hverb, rfl, rfl, hres⟩

theorem eff_finishCreate_idle {g : G} {c : Client} {g1 : G} (h : Mid g c g1 []) {key : Bytes} (val : Bytes)
    {rev : Nat} (hi : c.pc.inflight = some rev) (h0 : rev ≠ 0) (hk : key = c.kind.key) {r : CommitRes} (hr : r ≠ .ok) :
    IdleEff g c (finishCreate g1 c key val rev r) := by
  have hv : (mkW rev 0 (r == .ok) .create key val (r == .uncertain)).valid = false := by simp [mkW, hr]
  unfold finishCreate
  split
  · exact absurd rfl hr
  · split
    · exact h.report_set (.inl hi) h0 hk hv none
    · exact h.report_finish (.inl hi) h0 hk hv (by simp)
  · exact h.report_finish (.inl hi) h0 hk hv (by simp)

theorem eff_createSawIndex {g : G} {c : Client} (hck : CK c) {key : Bytes} (val : Bytes)
    {rev : Nat} (hi : c.pc.inflight = some rev) (h0 : rev ≠ 0) (hk : key = c.kind.key)
    (hcp : c.pc.createPath = true) (old : Bytes) (att : Nat) :
    IdleEff g c (createSawIndex g c key val rev old att) := by
  unfold createSawIndex
  split
  · exact eff_finishCreate_idle (Mid.refl g c) val hi h0 hk (by split <;> simp)
  · split
    · exact .move hck (fun _ => hcp) (Pc.held_of_inflight hi).symm
    · exact eff_finishCreate_idle (Mid.refl g c) val hi h0 hk (tombAbove_ne_ok _ _)

theorem eff_finishCreate_applied {g : G} {c : Client} (hck : CK c) {key val : Bytes} {rev : Nat}
    (hi : c.pc.inflight = some rev) (h0 : rev ≠ 0) (hkv : c.kind.kv = (key, val)) (hcp : c.pc.createPath = true)
    {r : CommitRes} {f : Fault} {st : Store} (ha : applied r f = true)
    (hst : st = (g.store.put (idxKey key) (be8 rev)).put (encode key rev) val) :
    ∃ x s d, AppliedEff g c (finishCreate (afterCommit g r st f key rev (some val) .absent) c key val rev r) x s d := by
  have hk : key = c.kind.key := by rw [← ReqKind.kv_key, hkv]
  have hv : ∀ v, some val = some v → c.kind.wval = some v := by
    intro v hv
    rw [hck.path hcp, hkv]; exact hv
  have hst' : st = wstore g.store key rev (be8 rev ++ flagOf (some val)) ((some val).getD tombstone) := by
    simp [wstore, flagOf, hst]
  rcases applied_cases ha with rfl | rfl
  · exact ⟨_, _, _, AppliedEff.mk' (res := .ok rev) ha hst' hi h0 hk hv rfl rfl (.inl rfl) rfl (.inl rfl)⟩
  · exact ⟨_, _, _, AppliedEff.mk' (res := .error (commitErr .uncertain)) ha hst' hi h0 hk hv rfl rfl (.inr rfl) rfl
      (.inr ⟨_, rfl⟩)⟩

theorem eff_commit {g : G} {c : Client} {key : Bytes} {rev : Nat} {new old v : Bytes} {val : Option Bytes}
    {r : CommitRes} {st : Store} {f : Fault} (hi : c.pc.inflight = some rev) (h0 : rev ≠ 0) (hk : key = c.kind.key)
    (hv : ∀ v, val = some v → c.kind.wval = some v)
    (hdc : doCommit g.cfg g.store [BOp.cas (idxKey key) new old, BOp.put (encode key rev) v] f = (r, st))
    (hnew : new = be8 rev ++ flagOf val) (hval : v = val.getD tombstone) (exp : Expect) (prev : Nat) (verb : Verb)
    (hverb : (verb == .delete) = val.isNone) (sv : Bytes) (fb : Option (Bytes × Bytes × Nat)) :
    Eff g c (match (generalizing := false) r with
      | .ok => ((afterCommit g r st f key rev val exp).notify
          (mkW rev prev (r == .ok) verb key sv (r == .uncertain))).finish c (.ok rev) rev
      | .conflict _ _ => ((afterCommit g r st f key rev val exp).notify
          (mkW rev prev (r == .ok) verb key sv (r == .uncertain))).setClient { c with pc := .readLatest rev fb }
      | r' => ((afterCommit g r st f key rev val exp).notify
          (mkW rev prev (r == .ok) verb key sv (r == .uncertain))).finish c (.error (commitErr r')) rev) := by
  rcases doCommit_cas_cases hdc with ⟨ha, _, hst⟩ | ⟨ha, hst⟩
  · have hst' : st = wstore g.store key rev (be8 rev ++ flagOf val) (val.getD tombstone) := by rw [hst, hnew, hval]; rfl
    rcases applied_cases ha with rfl | rfl
    · exact .inl ⟨_, _, _, AppliedEff.mk' ha hst' hi h0 hk hv rfl rfl (.inl rfl) hverb (.inl rfl)⟩
    · exact .inl ⟨_, _, _, AppliedEff.mk' ha hst' hi h0 hk hv rfl rfl (.inr rfl) hverb (.inr ⟨_, rfl⟩)⟩
  · subst hst
    rw [afterCommit_idle ha]
    have hne := not_ok_of_idle ha
    have hsv : (mkW rev prev (r == .ok) verb key sv (r == .uncertain)).valid = false := by simp [mkW, hne]
    cases r with
    | ok => exact absurd rfl hne
    | conflict i cv => exact .inr ((Mid.refl g c).report_set (.inl hi) h0 hk hsv fb)
    | _ => exact .inr ((Mid.refl g c).report_finish (.inl hi) h0 hk hsv (by simp))

theorem stepClient_eff {g : G} {c : Client} (f : Fault) (hck : CK c) (hpos : ∀ r, c.pc.inflight = some r → r ≠ 0)
    (hid : ∀ c' ∈ g.clients, c'.id = c.id → c' = c) : Eff g c (stepClient g c f) := by
  -- branches by `iteInduction` and `cases` on the scrutinee: `split` on these goals is slow
  apply stepClient_cases'
  case hStartCreate =>
    intro key val hpc hk
    exact .inr (.deal (by rw [hpc]; rfl) (fun _ => by rw [hk]; rfl) rfl)
  case hStartUpdate =>
    intro key val exp hpc hk
    have hn : c.pc.held = none := by rw [hpc]; rfl
    refine iteInduction (motive := Eff g c) (fun _ => ?_) fun _ => iteInduction (fun _ => ?_) fun _ => ?_
    · exact .inr (.deal hn (fun _ => by rw [hk]; rfl) rfl)
    · exact .inr ((Mid.deal g c hn).report_finish (.inr ⟨hn, rfl⟩) (by simp [mkW]) (by rw [hk]; rfl) rfl (by simp))
    · exact .inr (.deal hn (by simp [Pc.createPath]) rfl)
  case hCreateCommit =>
    intro rev key val r st hpc hkv hdc
    have hi : c.pc.inflight = some rev := by rw [hpc]; rfl
    have hcp : c.pc.createPath = true := by rw [hpc]; rfl
    have h0 := hpos rev hi
    have hk : key = c.kind.key := by rw [← ReqKind.kv_key, hkv]
    rcases doCommit_pine_cases hdc with ⟨ha, _, hst⟩ | ⟨ha, hst⟩
    · have := eff_finishCreate_applied hck hi h0 hkv hcp ha hst
      rcases applied_cases ha with rfl | rfl <;> exact .inl this
    · subst hst
      rw [afterCommit_idle ha]
      split
      · refine iteInduction (motive := Eff g c) (fun _ => ?_) fun _ => ?_
        · exact .inr (eff_createSawIndex hck val hi h0 hk hcp _ _)
        · exact .inr (.move hck (fun _ => hcp) (by rw [hpc]; rfl))
      · exact .inr (eff_finishCreate_idle (Mid.refl g c) val hi h0 hk (not_ok_of_idle ha))
  case hCreateReread =>
    intro rev key val hpc hkv
    have hi : c.pc.inflight = some rev := by rw [hpc]; rfl
    have hcp : c.pc.createPath = true := by rw [hpc]; rfl
    have hk : key = c.kind.key := by rw [← ReqKind.kv_key, hkv]
    cases g.store.get (idxKey key) with
    | some old => exact .inr (eff_createSawIndex hck val hi (hpos rev hi) hk hcp _ _)
    | none => exact .inr (.move hck (fun _ => hcp) (by rw [hpc]; rfl))
  case hCreateRetry =>
    intro rev key val r st hpc hkv hdc
    have hi : c.pc.inflight = some rev := by rw [hpc]; rfl
    have h0 := hpos rev hi
    rcases doCommit_pine_cases hdc with ⟨ha, _, hst⟩ | ⟨ha, hst⟩
    · exact .inl (eff_finishCreate_applied hck hi h0 hkv (by rw [hpc]; rfl) ha hst)
    · subst hst
      rw [afterCommit_idle ha]
      exact .inr (eff_finishCreate_idle (Mid.refl g c) val hi h0 (by rw [← ReqKind.kv_key, hkv]) (not_ok_of_idle ha))
  case hCreateOver =>
    intro rev old att key val r st hpc hkv hdc
    have hi : c.pc.inflight = some rev := by rw [hpc]; rfl
    have hcp : c.pc.createPath = true := by rw [hpc]; rfl
    have h0 := hpos rev hi
    rcases doCommit_cas_cases hdc with ⟨ha, _, hst⟩ | ⟨ha, hst⟩
    · have := eff_finishCreate_applied hck hi h0 hkv hcp ha hst
      rcases applied_cases ha with rfl | rfl <;> exact .inl this
    · subst hst
      rw [afterCommit_idle ha]
      split
      · exact .inr (.move hck (fun _ => hcp) (by rw [hpc]; rfl))
      · exact .inr (eff_finishCreate_idle (Mid.refl g c) val hi h0 (by rw [← ReqKind.kv_key, hkv]) (not_ok_of_idle ha))
  case hCreateRecheck =>
    intro rev att key val hpc hkv
    have hi : c.pc.inflight = some rev := by rw [hpc]; rfl
    have hcp : c.pc.createPath = true := by rw [hpc]; rfl
    have h0 := hpos rev hi
    have hk : key = c.kind.key := by rw [← ReqKind.kv_key, hkv]
    cases g.store.get (idxKey key) with
    | some cur =>
      refine iteInduction (motive := Eff g c) (fun _ => ?_) fun _ => ?_
      · exact .inr (eff_finishCreate_idle (Mid.refl g c) val hi h0 hk (by simp))
      · exact .inr (eff_createSawIndex hck val hi h0 hk hcp _ _)
    | none => exact .inr (.move hck (fun _ => hcp) (by rw [hpc]; rfl))
  case hUpdateCommit =>
    intro rev key val exp r st hpc hkind hdc
    have hi : c.pc.inflight = some rev := by rw [hpc]; rfl
    exact eff_commit (val := some val) hi (hpos rev hi) (by rw [hkind]; rfl) (fun v hv => by rw [hkind]; exact hv) hdc
      rfl rfl _ _ .put rfl _ _
  case hStartDelete =>
    intro key exp hpc hkind
    cases bget g.cfg g.store key 0 <;> exact .inr (.move hck (by simp [Pc.createPath]) (by rw [hpc]; rfl))
  case hDeleteDealNone =>
    intro key exp hpc hkind
    have hn : c.pc.held = none := by rw [hpc]; rfl
    exact .inr ((Mid.deal g c hn).report_finish (.inr ⟨hn, rfl⟩) (by simp [mkW]) (by rw [hkind]; rfl) rfl (by simp))
  case hDeleteDealSome =>
    intro oldVal modRev key exp hpc hkind
    have hn : c.pc.held = none := by rw [hpc]; rfl
    have hri : RevI g c (mkW (g.dealt + 1) modRev false .delete key oldVal).rev := .inr ⟨hn, rfl⟩
    have hk : (mkW (g.dealt + 1) modRev false .delete key oldVal).key = c.kind.key := by rw [hkind]; rfl
    refine iteInduction (motive := Eff g c) (fun _ => ?_) fun _ =>
      iteInduction (fun _ => ?_) fun _ => iteInduction (fun _ => ?_) fun _ => ?_
    · exact .inr ((Mid.deal g c hn).report_finish hri (by simp [mkW]) hk rfl (by simp))
    · exact .inr ((Mid.deal g c hn).report_set hri (by simp [mkW]) hk rfl _)
    · exact .inr ((Mid.deal g c hn).report_finish hri (by simp [mkW]) hk rfl (by simp))
    · exact .inr (.deal hn (by simp [Pc.createPath]) rfl)
  case hDeleteCommit =>
    intro rev oldVal modRev key exp r st hpc hkind hdc
    have hi : c.pc.inflight = some rev := by rw [hpc]; rfl
    exact eff_commit (val := none) hi (hpos rev hi) (by rw [hkind]; rfl) (by simp) hdc rfl rfl _ _ .delete rfl _ _
  case hReadLatest =>
    intro rev fb hpc
    have hh : RevH g c rev := .inl (by rw [hpc]; rfl)
    cases bget g.cfg g.store c.kind.key 0 <;> exact .inr ((Mid.refl g c).finish (by simp) (by simp) (by simp) hh)
  case hNop =>
    refine .inr ⟨⟨rfl, rfl, rfl, rfl, rfl⟩, rfl, rfl, ⟨[], by simp, by simp, by simp⟩, .inl rfl, fun c' hc' => ?_, .inl rfl⟩
    by_cases e : c'.id = c.id
    · have := hid c' hc' e
      subst this
      exact .inr ⟨rfl, rfl, hck, fun r hr => .inl hr⟩
    · exact .inl ⟨hc', e⟩
  case hRefuse =>
    intro _ _
    refine .inr ⟨⟨rfl, rfl, rfl, rfl, rfl⟩, rfl, rfl, ⟨[], by simp [G.refuse], by simp, by simp⟩, .inl rfl, fun c' hc' => ?_, .inl rfl⟩
    simp only [G.refuse, List.mem_filter, bne_iff_ne, ne_eq] at hc'
    exact .inl hc'

theorem SInv.stepClient_eff {g : G} (hs : SInv g.view) {c : Client} (hc : c ∈ g.clients) (hck : CK c) (f : Fault) :
    Eff g c (stepClient g c f) :=
  KB.stepClient_eff f hck (fun r hr => by have := hs.inflR c hc r hr; omega) fun c' hc' e => hs.idU c' hc' c hc e

/-! ### acknowledged ⇒ applied, definite failure ⇒ not applied -/

def WriteRes.definite (r : WriteRes) : Prop := (∃ h kv, r = .condFailed h kv) ∨ (∃ h, r = .notFound h)

structure AckInv (g : G) : Prop where
  ck : ∀ c ∈ g.clients, CK c
  wle : ∀ w ∈ g.wlog, w.rev ≤ g.dealt
  held : ∀ c ∈ g.clients, ∀ r, c.pc.held = some r → ∀ w ∈ g.wlog, w.rev ≠ r
  ok : ∀ d ∈ g.done, ∀ rev, d.res = .ok rev → ∃ w ∈ g.wlog, w.rev = rev ∧ w.key = d.kind.key
  cf : ∀ d ∈ g.done, d.res.definite → ∀ w ∈ g.wlog, w.rev ≠ d.rev

theorem AckInv.init {g : G} (h : C02.Init g) : AckInv g := by
  obtain ⟨⟨_, _, hcl, _⟩, _, hw, hd⟩ := h
  constructor <;> simp [hcl, hw, hd]

theorem AckInv.fresh {g : G} (h : AckInv g) {c : Client} (hc : c ∈ g.clients) {r : Nat} (hr : RevH g c r) :
    ∀ w ∈ g.wlog, w.rev ≠ r := by
  intro w hw
  rcases hr with hr | ⟨_, rfl⟩
  · exact h.held c hc r hr w hw
  · have := h.wle w hw; omega

theorem retry_write_proj (g : G) (q : WEvent) (rev : Nat) (Q : List WEvent) (r : CommitRes) (st : Store) (f : Fault)
    (val : Option Bytes) (h0 : rev ≠ 0) :
    let x : WLog := ⟨q.key, rev, val, .rev q.rev⟩
    let s : WEvent := { q with rev := rev, valid := r == .ok, uncertain := r == .uncertain }
    let g' := (afterCommit { g with retryPc := none, retryQ := Q } r st f q.key rev val (.rev q.rev)).notify s
    g'.slots = g.slots ++ [s] ∧ g'.retryQ = Q ∧ g'.emitted = g.emitted ∧ g'.committed = g.committed ∧
      g'.clients = g.clients ∧ g'.dealt = g.dealt ∧ g'.store = st ∧ g'.cfg = g.cfg ∧ g'.retryPc = none ∧
      g'.wlog = (if applied r f = true then g.wlog ++ [x] else g.wlog) ∧ g'.done = g.done := by
  simp only [G.notify, afterCommit, h0, beq_iff_eq, if_false]
  split <;> simp [G.logWrite]

theorem AckInv.idle {g g' : G} (h : AckInv g) {ds : List Done} (hwl : g'.wlog = g.wlog) (hdl : g.dealt ≤ g'.dealt)
    (hcl : ∀ c ∈ g'.clients, c ∈ g.clients ∨ (CK c ∧ ∀ r, c.pc.held = some r → ∀ w ∈ g.wlog, w.rev ≠ r))
    (hdn : g'.done = g.done ++ ds)
    (hds : ∀ d ∈ ds, (∀ rev, d.res ≠ .ok rev) ∧ (d.res.definite → ∀ w ∈ g.wlog, w.rev ≠ d.rev)) : AckInv g' := by
  have hmd : ∀ d, d ∈ g'.done ↔ d ∈ g.done ∨ d ∈ ds := by simp [hdn]
  constructor
  · intro c hc
    rcases hcl c hc with hc | hc
    · exact h.ck c hc
    · exact hc.1
  · rw [hwl]; exact fun w hw => Nat.le_trans (h.wle w hw) hdl
  · rw [hwl]
    intro c hc
    rcases hcl c hc with hc | hc
    · exact h.held c hc
    · exact hc.2
  · rw [hwl]
    intro d hd rev hres
    rcases (hmd d).mp hd with hd | hd
    · exact h.ok d hd rev hres
    · exact absurd hres ((hds d hd).1 rev)
  · rw [hwl]
    intro d hd hdef
    rcases (hmd d).mp hd with hd | hd
    · exact h.cf d hd hdef
    · exact (hds d hd).2 hdef

theorem AckInv.write {g g' : G} (h : AckInv g) {x : WLog} {ds : List Done} (hwl : g'.wlog = g.wlog ++ [x])
    (hdl : g.dealt ≤ g'.dealt) (hx : x.rev ≤ g'.dealt)
    (hcl : ∀ c ∈ g'.clients, c ∈ g.clients ∧ c.pc.held ≠ some x.rev)
    (hold : ∀ d ∈ g.done, d.res.definite → x.rev ≠ d.rev) (hdn : g'.done = g.done ++ ds)
    (hds : ∀ d ∈ ds, ¬ d.res.definite ∧ ∀ rev, d.res = .ok rev → x.rev = rev ∧ x.key = d.kind.key) : AckInv g' := by
  have hmd : ∀ d, d ∈ g'.done ↔ d ∈ g.done ∨ d ∈ ds := by simp [hdn]
  have hmw : ∀ w, w ∈ g'.wlog ↔ w ∈ g.wlog ∨ w = x := by simp [hwl]
  constructor
  · exact fun c hc => h.ck c (hcl c hc).1
  · intro w hw
    rcases (hmw w).mp hw with hw | rfl
    · exact Nat.le_trans (h.wle w hw) hdl
    · exact hx
  · intro c hc r hr w hw
    rcases (hmw w).mp hw with hw | rfl
    · exact h.held c (hcl c hc).1 r hr w hw
    · exact fun e => (hcl c hc).2 (e ▸ hr)
  · intro d hd rev hres
    rcases (hmd d).mp hd with hd | hd
    · obtain ⟨w, hw, h1⟩ := h.ok d hd rev hres
      exact ⟨w, (hmw w).mpr (.inl hw), h1⟩
    · exact ⟨x, (hmw x).mpr (.inr rfl), (hds d hd).2 rev hres⟩
  · intro d hd hdef w hw
    rcases (hmd d).mp hd with hd | hd
    · rcases (hmw w).mp hw with hw | rfl
      · exact h.cf d hd hdef w hw
      · exact hold d hd hdef
    · exact absurd hdef (hds d hd).1

theorem AckInv.stepClient {g : G} (hf : FInv g.view) (h : AckInv g) {c : Client} (hc : c ∈ g.clients) (f : Fault) :
    AckInv (stepClient g c f) := by
  obtain ⟨hs, hd⟩ := hf
  rcases hs.stepClient_eff hc (h.ck c hc) f with ⟨x, s, d, e⟩ | e
  · have hxh : c.pc.held = some x.rev := Pc.held_of_inflight e.infl
    refine h.write e.wlog (Nat.le_of_eq e.dealt.symm) (e.dealt ▸ (hs.inflD c hc _ e.infl).2) ?_
      (fun d' hd' _ e' => hd.dHeld d' hd' c hc (e' ▸ hxh)) e.done ?_
    · intro c' hc'
      obtain ⟨hc', hne⟩ := mem_others.mp (e.clients ▸ hc')
      exact ⟨hc', fun hr => hne (congrArg Client.id (hs.heldU c' hc' c hc _ hr hxh))⟩
    · intro d' hd'
      rw [List.mem_singleton.mp hd']
      constructor
      · rintro (⟨a, b, h2⟩ | ⟨a, h2⟩) <;> rcases e.dres with h1 | ⟨er, h1⟩ <;> rw [h1] at h2 <;> cases h2
      · intro rev hres
        rcases e.dres with h1 | ⟨er, h1⟩
        · rw [h1] at hres; cases hres; exact ⟨rfl, by rw [e.xkey, e.dkind]⟩
        · rw [h1] at hres; cases hres
  · have hcl : ∀ c' ∈ (KB.stepClient g c f).clients,
        c' ∈ g.clients ∨ (CK c' ∧ ∀ r, c'.pc.held = some r → ∀ w ∈ g.wlog, w.rev ≠ r) := by
      intro c' hc'
      rcases e.clients c' hc' with ⟨h1, _⟩ | ⟨_, _, h1, h2⟩
      · exact .inl h1
      · exact .inr ⟨h1, fun r hr => h.fresh hc (h2 r hr)⟩
    have hdl : g.dealt ≤ (KB.stepClient g c f).dealt := by rcases e.dealt with h1 | ⟨h1, _⟩ <;> omega
    rcases e.done with h1 | ⟨d, h1, _, h2, h3⟩
    · exact h.idle (ds := []) e.wlog hdl hcl (by simp [h1]) (by simp)
    · exact h.idle e.wlog hdl hcl h1 (List.forall_mem_singleton.mpr ⟨h2, fun _ => h.fresh hc h3⟩)

theorem AckInv.stepSeq {g : G} (h : AckInv g) : AckInv (stepSeq g) := by
  unfold KB.stepSeq
  split
  · exact h
  · exact ⟨h.ck, fun w hw => Nat.le_trans (h.wle w hw) (Nat.le_max_left _ _), h.held, h.ok, h.cf⟩

theorem AckInv.stepRetryRead {g : G} (h : AckInv g) : AckInv (stepRetryRead g) := by
  apply stepRetryRead_cases
  case hBusy => intros; exact h
  case hNop => intros; exact h
  case hPop => intros; exact ⟨h.ck, h.wle, h.held, h.ok, h.cf⟩
  case hDeal =>
    intros
    exact ⟨h.ck, fun w hw => Nat.le_trans (h.wle w hw) (Nat.le_succ _), h.held, h.ok, h.cf⟩
  case hFull => intros; exact h

theorem AckInv.stepRetryCommit {g : G} (hf : FInv g.view) (h : AckInv g) (f : Fault) : AckInv (stepRetryCommit g f) := by
  obtain ⟨hs, hd⟩ := hf
  apply stepRetryCommit_cases
  · intro _; exact h
  · intro p r st hp _
    have hrpc : g.view.rpc = some p.rev := by simp [G.view, hp]
    have hpc : g.committed < p.rev := (hs.rpcR _ hrpc).1
    have hpd : p.rev ≤ g.dealt := (hs.rpcR _ hrpc).2
    obtain ⟨-, -, -, -, pCl, pD, -, -, -, pW, pDn⟩ := retry_write_proj g p.w p.rev
      (if r == CommitRes.ok || r.isCas then g.retryQ.drop 1 else g.retryQ) r st f
      (if isTomb p.val then none else some p.val) (by omega)
    generalize G.notify _ _ = g' at pCl pD pW pDn ⊢
    by_cases ha : applied r f = true
    · rw [if_pos ha] at pW
      exact h.write (ds := []) pW (Nat.le_of_eq pD.symm) (pD ▸ hpd)
        (fun c hc => have hc' : c ∈ g.clients := pCl ▸ hc; ⟨hc', fun e => hs.rpcHeld c hc' _ e hrpc⟩)
        (fun d hd' _ e => hd.dRpc d hd' (hrpc.trans (congrArg some e))) (by simp [pDn]) (by simp)
    · rw [if_neg ha] at pW
      exact h.idle (ds := []) pW (Nat.le_of_eq pD.symm) (fun c hc => .inl (pCl ▸ hc)) (by simp [pDn]) (by simp)

theorem AckInv.act {g : G} (hf : FInv g.view) (h : AckInv g) (a : Action) : AckInv (act g a) := by
  refine act_cases g a h (fun id kind _ _ => ?_) (fun c f hc => h.stepClient hf hc f) h.stepSeq
    (fun f => h.stepRetryRead.stepRetryCommit (stepRetryRead_P FInv.closed hf) f) h.stepRetryRead (h.stepRetryCommit hf)
  refine h.idle (ds := []) rfl (Nat.le_refl _) (fun x hx => ?_) (by simp) (by simp)
  rcases List.mem_append.mp hx with hx | hx
  · exact .inl hx
  · rw [List.mem_singleton.mp hx]
    exact .inr ⟨⟨fun e => nomatch e⟩, fun r e => nomatch e⟩

theorem Reachable.induct {g0 : G} {P : G → Prop} (h0 : P g0)
    (hstep : ∀ g a, Reachable g0 g → P g → P (act g a)) {g : G} (hr : Reachable g0 g) : P g := by
  obtain ⟨sched, rfl⟩ := hr
  suffices ∀ g, Reachable g0 g → P g → Reachable g0 (run g sched) ∧ P (run g sched) from
    (this g0 ⟨[], rfl⟩ h0).2
  induction sched with
  | nil => intro g hr hp; exact ⟨hr, hp⟩
  | cons a as ih => intro g hr hp; exact ih (KB.act g a) (hr.step a) (hstep g a hr hp)

theorem AckInv.reachable {g0 g : G} (h0 : C02.Init g0) (hr : Reachable g0 g) : AckInv g :=
  hr.induct (AckInv.init h0) (fun _ a hr' h => h.act (C02.finv h0 hr') a)

/-! ### the point read of a key returns its last applied write -/

theorem exists_recs (store : Store) (hs : store.Sorted)
    (hk : ∀ kv ∈ store, ∃ k r, kv.1 = encode k r ∧ Alphabet k ∧ r < 2 ^ 64) :
    ∃ recs : List Rec, store = encodeStore recs ∧ SortedRecs recs ∧ ∀ r ∈ recs, Alphabet r.key ∧ r.rev < 2 ^ 64 := by
  induction store with
  | nil => exact ⟨[], rfl, List.Pairwise.nil, by simp⟩
  | cons x rest ih =>
    obtain ⟨hlt, hs'⟩ := Store.sorted_cons.mp hs
    obtain ⟨recs, hst, hsr, hall⟩ := ih hs' (fun kv hkv => hk kv (List.mem_cons_of_mem _ hkv))
    obtain ⟨k, r, hx, hka, hr⟩ := hk x (List.mem_cons_self ..)
    refine ⟨{ key := k, rev := r, val := x.2, ik := x.1 } :: recs, ?_, ?_, ?_⟩
    · simp only [encodeStore, List.map_cons]
      rw [← hx]
      congr 1
    · refine List.Pairwise.cons ?_ hsr
      intro q hq
      have hm : (encode q.key q.rev, q.val) ∈ rest := by rw [hst]; exact List.mem_map.mpr ⟨q, hq, rfl⟩
      have := hlt _ hm
      simp only [hx] at this
      rw [encode_cmp hka (hall q hq).1 hr (hall q hq).2] at this
      unfold recLt
      by_cases e : k = q.key
      · right
        simp only [e, if_true] at this
        exact ⟨e, Nat.compare_eq_lt.mp this⟩
      · left
        simpa [e] using this
    · intro q hq
      rcases List.mem_cons.mp hq with rfl | hq
      · exact ⟨hka, hr⟩
      · exact hall q hq

theorem getInternal_max (cfg : Cfg) {store : Store} (hs : store.Sorted)
    (hk : ∀ kv ∈ store, ∃ k r, kv.1 = encode k r ∧ Alphabet k ∧ r < 2 ^ 64) {k : Bytes} (hka : Alphabet k) {R : Nat}
    (h0 : 0 < R) (hb : R < 2 ^ 64) {v : Bytes} (hget : store.get (encode k R) = some v)
    (hmax : ∀ r v', r < 2 ^ 64 → (encode k r, v') ∈ store → r ≤ R) :
    getInternal cfg store k 0 = some (v, R) := by
  obtain ⟨recs, hst, hsr, hall⟩ := exists_recs store hs hk
  obtain ⟨rs, hrs, e⟩ := List.mem_map.mp (hst ▸ Store.mem_of_get hget : (encode k R, v) ∈ encodeStore recs)
  simp only [Prod.mk.injEq] at e
  obtain ⟨e1, e2⟩ := encode_inj (hall rs hrs).2 hb e.1
  rw [hst, C03.get_spec cfg hsr hall k hka 0 (by decide)]
  simp only [beq_self_eq_true, if_true]
  rw [visible_of_max hsr hrs (vis_iff.mpr ⟨e1, by omega, by omega⟩)]
  · simp [e2, e.2]
  · intro y hy hv
    rw [e2]
    exact hmax y.rev y.val (hall y hy).2 (by
      rw [hst, ← (vis_iff.mp hv).1]; exact List.mem_map.mpr ⟨y, hy, rfl⟩)

/-! ### the convergence invariant -/

/-- the last applied write `w` of a key is accounted for: already emitted, or in a filled slot that the
sequencer will emit or queue, or in the retry queue -/
def Covered (em : List Event) (sl rq : List WEvent) (w : WLog) : Prop :=
  (∃ e ∈ em, e.rev = w.rev ∧ e.key = w.key ∧ (e.verb == .delete) = w.val.isNone) ∨
  (∃ s ∈ sl, s.rev = w.rev ∧ (s.valid = true ∨ s.uncertain = true)) ∨
  (∃ q ∈ rq, q.rev = w.rev)

def StoreKeys (store : Store) (wlog : List WLog) : Prop :=
  ∀ kv ∈ store, ∃ k r, kv.1 = encode k r ∧ Alphabet k ∧ r < 2 ^ 64 ∧ (r = 0 ∨ ∃ x ∈ wlog, x.key = k ∧ x.rev = r)

theorem StoreKeys.write {store : Store} {wlog : List WLog} (h : StoreKeys store wlog) (x : WLog) (new v : Bytes)
    (ha : Alphabet x.key) (hr : x.rev < 2 ^ 64) : StoreKeys (wstore store x.key x.rev new v) (wlog ++ [x]) := by
  intro kv hkv
  rcases Store.mem_put hkv with h1 | h1
  · exact ⟨x.key, x.rev, h1, ha, hr, .inr ⟨x, by simp, rfl, rfl⟩⟩
  · rcases Store.mem_put h1 with h2 | h2
    · exact ⟨x.key, 0, h2, ha, by decide, .inl rfl⟩
    · obtain ⟨k, r, a, b, c, d⟩ := h kv h2
      refine ⟨k, r, a, b, c, ?_⟩
      rcases d with d | ⟨y, hy, d⟩
      · exact .inl d
      · exact .inr ⟨y, List.mem_append_left _ hy, d⟩

/-- Convergence invariant (runs from the empty store, request keys over the alphabet): the last applied write of every key
is `Covered` (`cover`); the other fields tie slots, queue entries and emitted events to the log entries of their revisions
and keep the store readable (`sorted`, `skeys`: `getInternal_max` applies). -/
structure Cv (g : G) : Prop where
  kok : ∀ c ∈ g.clients, KOK c.kind
  salph : ∀ s ∈ g.slots, Alphabet s.key
  qalph : ∀ q ∈ g.retryQ, Alphabet q.key
  wval : ∀ x ∈ g.wlog, ∀ v, x.val = some v → ValOK v
  sorted : g.store.Sorted
  skeys : StoreKeys g.store g.wlog
  sv : ∀ s ∈ g.slots, ∀ x ∈ g.wlog, x.rev = s.rev → x.key = s.key ∧ VerbOK s x
  qv : ∀ q ∈ g.retryQ, ∀ x ∈ g.wlog, x.rev = q.rev → x.key = q.key ∧ VerbOK q x
  svalid : ∀ s ∈ g.slots, s.valid = true → ∃ x ∈ g.wlog, x.rev = s.rev
  suniq : ∀ s1 ∈ g.slots, ∀ s2 ∈ g.slots, s1.rev = s2.rev → s1 = s2
  qle : ∀ q ∈ g.retryQ, q.rev ≤ g.committed
  em : ∀ e ∈ g.emitted, e.rev ≤ g.committed ∧
    ∃ x ∈ g.wlog, x.rev = e.rev ∧ x.key = e.key ∧ (e.verb == .delete) = x.val.isNone
  emsorted : (g.emitted.map (·.rev)).Pairwise (· < ·)
  cover : ∀ k w, lastW g.wlog k = some w → Covered g.emitted g.slots g.retryQ w
  /-- the retry loop between its read and its commit is repairing the head of its queue ... -/
  pq : ∀ p, g.retryPc = some p → ∃ rest, g.retryQ = p.w :: rest
  /-- ... the value it read is not empty ... -/
  pne : ∀ p, g.retryPc = some p → p.val ≠ []
  /-- ... and is a deletion marker iff the write it repairs was a deletion -/
  pv : ∀ p, g.retryPc = some p → ∀ x ∈ g.wlog, x.rev = p.w.rev → isTomb p.val = x.val.isNone

structure Ctx (g0 g : G) : Prop where
  finv : FInv g.view
  sinv : SysStore.SInv g0 g
  ack : AckInv g
  st0 : g0.store = []

theorem G0OK.of_empty {g0 : G} (hs : g0.store = []) : G0OK g0 := by
  constructor
  · intro kv hkv; rw [hs] at hkv; cases hkv
  · intro k v m t hget; rw [hs] at hget; simp [Store.get] at hget

theorem Ctx.reachable {g0 g : G} (h0 : C02.Init g0) (hs : g0.store = []) (hr : Reachable g0 g) : Ctx g0 g := by
  refine ⟨C02.finv h0 hr, ?_, AckInv.reachable h0 hr, hs⟩
  obtain ⟨sched, rfl⟩ := hr
  exact (SysStore.SInv.init h0 (G0OK.of_empty hs)).run (G0OK.of_empty hs) (vinv_init h0) sched

theorem Cv.init {g : G} (h : C02.Init g) (hs : g.store = []) (hem : g.emitted = []) : Cv g := by
  obtain ⟨⟨_, hsl, hcl, hq, hp⟩, _, hw, _⟩ := h
  have nil : ∀ {α : Type} {l : List α} {P : α → Prop}, l = [] → ∀ x ∈ l, P x := fun e _ hx => by rw [e] at hx; cases hx
  have np : ∀ {P : RetryPc → Prop} (p : RetryPc), g.retryPc = some p → P p := fun p e => nomatch hp.symm.trans e
  exact ⟨nil hcl, nil hsl, nil hq, nil hw, (by rw [hs]; simp [Store.Sorted]), nil hs, nil hsl, nil hq, nil hsl, nil hsl,
    nil hq, nil hem, (by rw [hem]; exact .nil), (fun k w hl => by rw [hw] at hl; cases hl), np, np, np⟩

theorem mem_ite_snoc {α : Type} {p : Prop} [Decidable p] {l : List α} {a x : α} :
    x ∈ (if p then l ++ [a] else l) ↔ x ∈ l ∨ (x = a ∧ p) := by
  split <;> simp [*]

/-- What covered a last write through the consumed slot now covers it through the event or the queue. -/
theorem Cv.stepSeq {g : G} (h : Cv g) : Cv (stepSeq g) := by
  unfold KB.stepSeq
  split
  · exact h
  · rename_i s hfind
    have hsm : s ∈ g.slots := List.mem_of_find?_eq_some hfind
    have hsr : s.rev = g.committed + 1 := by simpa using List.find?_some hfind
    have hfil : ∀ {x}, x ∈ g.slots.filter (fun x => x.rev != s.rev) ↔ x ∈ g.slots ∧ x.rev ≠ s.rev := by
      simp [List.mem_filter]
    constructor
    · exact h.kok
    · exact fun x hx => h.salph x (hfil.mp hx).1
    · intro q hq
      rcases mem_ite_snoc.mp hq with hq | ⟨rfl, _⟩
      · exact h.qalph q hq
      · exact h.salph q hsm
    · exact h.wval
    · exact h.sorted
    · exact h.skeys
    · exact fun x hx => h.sv x (hfil.mp hx).1
    · intro q hq
      rcases mem_ite_snoc.mp hq with hq | ⟨rfl, _⟩
      · exact h.qv q hq
      · exact h.sv q hsm
    · exact fun x hx => h.svalid x (hfil.mp hx).1
    · exact fun x hx y hy => h.suniq x (hfil.mp hx).1 y (hfil.mp hy).1
    · intro q hq
      show q.rev ≤ s.rev
      rcases mem_ite_snoc.mp hq with hq | ⟨rfl, _⟩
      · have := h.qle q hq; omega
      · exact Nat.le_refl _
    · intro e he
      show e.rev ≤ s.rev ∧ _
      rcases mem_ite_snoc.mp he with he | ⟨rfl, hv⟩
      · obtain ⟨h1, h2⟩ := h.em e he
        exact ⟨by omega, h2⟩
      · obtain ⟨x, hx, hxr⟩ := h.svalid s hsm hv
        obtain ⟨hk, hvb⟩ := h.sv s hsm x hx hxr
        exact ⟨Nat.le_refl _, x, hx, hxr, hk, hvb⟩
    · show (List.map (·.rev) (if s.valid = true then g.emitted ++ [mkEvent s] else g.emitted)).Pairwise (· < ·)
      split
      · rw [List.map_append, List.pairwise_append]
        refine ⟨h.emsorted, by simp, ?_⟩
        intro a ha b hb
        obtain ⟨e, he, rfl⟩ := List.mem_map.mp ha
        rw [List.mem_singleton.mp hb]
        have := (h.em e he).1
        show e.rev < s.rev
        omega
      · exact h.emsorted
    · intro k w hl
      show Covered (if s.valid = true then g.emitted ++ [mkEvent s] else g.emitted)
        (g.slots.filter (fun x => x.rev != s.rev))
        (if (!s.valid && s.uncertain) = true then g.retryQ ++ [s] else g.retryQ) w
      rcases h.cover k w hl with ⟨e, he, hh⟩ | ⟨s', hs', hr', hfl⟩ | ⟨q, hq, hh⟩
      · exact .inl ⟨e, mem_ite_snoc.mpr (.inl he), hh⟩
      · by_cases e : s'.rev = s.rev
        · obtain rfl := h.suniq s' hs' s hsm e
          by_cases hv : s'.valid = true
          · obtain ⟨hk, hvb⟩ := h.sv s' hsm w (lastW_some hl).1 hr'.symm
            exact .inl ⟨mkEvent s', mem_ite_snoc.mpr (.inr ⟨rfl, hv⟩), hr', hk.symm, hvb⟩
          · exact .inr (.inr ⟨s', mem_ite_snoc.mpr (.inr ⟨rfl, by simp [hv, hfl.resolve_left hv]⟩), hr'⟩)
        · exact .inr (.inl ⟨s', hfil.mpr ⟨hs', e⟩, hr', hfl⟩)
      · exact .inr (.inr ⟨q, mem_ite_snoc.mpr (.inl hq), hh⟩)
    · intro p hp
      obtain ⟨rest, hr⟩ := h.pq p hp
      show ∃ rest', (if (!s.valid && s.uncertain) = true then g.retryQ ++ [s] else g.retryQ) = p.w :: rest'
      split
      · exact ⟨rest ++ [s], by rw [hr]; rfl⟩
      · exact ⟨rest, hr⟩
    · exact h.pne
    · exact h.pv

theorem lastW_mem_ne {l : List WLog} {x : WLog} {k : Bytes} {w : WLog} (h : lastW (l ++ [x]) k = some w)
    (hne : x.key ≠ k) : lastW l k = some w := by
  rw [lastW_append, if_neg hne] at h; exact h

/-- Entries of the retry queue may go if they are for the written key (`hq'`): none of them is a key's last write any
more. -/
theorem Cv.write {g g' : G} (h : Cv g) {x : WLog} {s : WEvent}
    (hcl : ∀ c ∈ g'.clients, c ∈ g.clients) (hwl : g'.wlog = g.wlog ++ [x])
    (hst : g'.store = wstore g.store x.key x.rev (be8 x.rev ++ flagOf x.val) (x.val.getD tombstone))
    (hsl : g'.slots = g.slots ++ [s]) (hem : g'.emitted = g.emitted) (hcm : g'.committed = g.committed)
    (hq : ∀ q ∈ g'.retryQ, q ∈ g.retryQ) (hq' : ∀ q ∈ g.retryQ, q ∈ g'.retryQ ∨ q.key = x.key)
    (hp : ∀ p, g'.retryPc = some p → g.retryPc = some p ∧ g'.retryQ = g.retryQ)
    (hxa : Alphabet x.key) (hxv : ∀ v, x.val = some v → ValOK v) (hxc : g.committed < x.rev) (hxb : x.rev < 2 ^ 64)
    (hfw : ∀ y ∈ g.wlog, y.rev ≠ x.rev) (hfs : ∀ s' ∈ g.slots, s'.rev ≠ x.rev)
    (hsk : s.key = x.key) (hsr : s.rev = x.rev) (hsf : s.valid = true ∨ s.uncertain = true) (hverb : VerbOK s x) :
    Cv g' := by
  have hmw : ∀ y, y ∈ g'.wlog ↔ y ∈ g.wlog ∨ y = x := by simp [hwl]
  have hms : ∀ t, t ∈ g'.slots ↔ t ∈ g.slots ∨ t = s := by simp [hsl]
  have hqx : ∀ q ∈ g.retryQ, x.rev ≠ q.rev := fun q hq e => by have := h.qle q hq; omega
  constructor
  · exact fun c hc => h.kok c (hcl c hc)
  · intro t ht
    rcases (hms t).mp ht with ht | rfl
    · exact h.salph t ht
    · rw [hsk]; exact hxa
  · exact fun q hqm => h.qalph q (hq q hqm)
  · intro y hy
    rcases (hmw y).mp hy with hy | rfl
    · exact h.wval y hy
    · exact hxv
  · rw [hst]; exact Store.put_sorted _ (Store.put_sorted _ h.sorted _ _) _ _
  · rw [hst, hwl]; exact h.skeys.write x _ _ hxa hxb
  · intro t ht y hy hyr
    rcases (hms t).mp ht with ht | rfl <;> rcases (hmw y).mp hy with hy | rfl
    · exact h.sv t ht y hy hyr
    · exact absurd hyr.symm (hfs t ht)
    · exact absurd (hyr.trans hsr) (hfw y hy)
    · exact ⟨hsk.symm, hverb⟩
  · intro q hqm y hy hyr
    rcases (hmw y).mp hy with hy | rfl
    · exact h.qv q (hq q hqm) y hy hyr
    · exact absurd hyr (hqx q (hq q hqm))
  · intro t ht hv
    rcases (hms t).mp ht with ht | rfl
    · obtain ⟨y, hy, hyr⟩ := h.svalid t ht hv
      exact ⟨y, (hmw y).mpr (.inl hy), hyr⟩
    · exact ⟨x, (hmw x).mpr (.inr rfl), hsr.symm⟩
  · intro t1 h1 t2 h2 e
    rcases (hms t1).mp h1 with h1 | rfl <;> rcases (hms t2).mp h2 with h2 | rfl
    · exact h.suniq t1 h1 t2 h2 e
    · exact absurd (e.trans hsr) (hfs t1 h1)
    · exact absurd (e.symm.trans hsr) (hfs t2 h2)
    · rfl
  · rw [hcm]; exact fun q hqm => h.qle q (hq q hqm)
  · intro ev hev
    rw [hem] at hev
    obtain ⟨h1, y, hy, h2⟩ := h.em ev hev
    exact ⟨hcm ▸ h1, y, (hmw y).mpr (.inl hy), h2⟩
  · rw [hem]; exact h.emsorted
  · intro k w hl
    rw [hem]
    rw [hwl, lastW_append] at hl
    split at hl
    · cases hl
      exact .inr (.inl ⟨s, (hms s).mpr (.inr rfl), hsr, hsf⟩)
    · rename_i hne
      rcases h.cover k w hl with hc | ⟨t, ht, hc⟩ | ⟨q, hqm, hr⟩
      · exact .inl hc
      · exact .inr (.inl ⟨t, (hms t).mpr (.inl ht), hc⟩)
      · rcases hq' q hqm with hqm' | hk
        · exact .inr (.inr ⟨q, hqm', hr⟩)
        · exact absurd (hk.symm.trans ((h.qv q hqm w (lastW_some hl).1 hr.symm).1.symm.trans (lastW_some hl).2)) hne
  · intro p hp'
    obtain ⟨h1, h2⟩ := hp p hp'
    rw [h2]; exact h.pq p h1
  · exact fun p hp' => h.pne p (hp p hp').1
  · intro p hp' y hy hyr
    obtain ⟨h1, _⟩ := hp p hp'
    rcases (hmw y).mp hy with hy | rfl
    · exact h.pv p h1 y hy hyr
    · obtain ⟨rest, hr⟩ := h.pq p h1
      exact absurd hyr (hqx p.w (by rw [hr]; exact List.mem_cons_self ..))

theorem eq_of_mem_of_length_le_one {α : Type} {l : List α} (hl : l.length ≤ 1) {a b : α} (ha : a ∈ l) (hb : b ∈ l) :
    a = b := by
  cases l with
  | nil => cases ha
  | cons x tl =>
    cases tl with
    | nil => rw [List.mem_singleton.mp ha, List.mem_singleton.mp hb]
    | cons y tl => simp at hl

theorem Cv.idle {g g' : G} (h : Cv g) {sl : List WEvent}
    (hcl : ∀ c ∈ g'.clients, KOK c.kind) (hwl : g'.wlog = g.wlog) (hst : g'.store = g.store)
    (hsl : g'.slots = g.slots ++ sl) (hlen : sl.length ≤ 1)
    (hs : ∀ s ∈ sl, s.valid = false ∧ Alphabet s.key ∧ (∀ y ∈ g.wlog, y.rev ≠ s.rev) ∧ ∀ t ∈ g.slots, t.rev ≠ s.rev)
    (hem : g'.emitted = g.emitted) (hcm : g'.committed = g.committed)
    (hq : ∀ q ∈ g'.retryQ, q ∈ g.retryQ)
    (hq' : ∀ q ∈ g.retryQ, q ∈ g'.retryQ ∨ ∀ k w, lastW g.wlog k = some w → w.rev ≠ q.rev)
    (hp : ∀ p, g'.retryPc = some p → g.retryPc = some p ∧ g'.retryQ = g.retryQ) : Cv g' := by
  have hms : ∀ t, t ∈ g'.slots ↔ t ∈ g.slots ∨ t ∈ sl := by simp [hsl]
  constructor
  · exact hcl
  · intro t ht
    rcases (hms t).mp ht with ht | ht
    · exact h.salph t ht
    · exact (hs t ht).2.1
  · exact fun q hqm => h.qalph q (hq q hqm)
  · rw [hwl]; exact h.wval
  · rw [hst]; exact h.sorted
  · rw [hst, hwl]; exact h.skeys
  · intro t ht y hy hyr
    rw [hwl] at hy
    rcases (hms t).mp ht with ht | ht
    · exact h.sv t ht y hy hyr
    · exact absurd hyr ((hs t ht).2.2.1 y hy)
  · rw [hwl]; exact fun q hqm => h.qv q (hq q hqm)
  · intro t ht hv
    rw [hwl]
    rcases (hms t).mp ht with ht | ht
    · exact h.svalid t ht hv
    · rw [(hs t ht).1] at hv; cases hv
  · intro t1 h1 t2 h2 e
    rcases (hms t1).mp h1 with h1 | h1 <;> rcases (hms t2).mp h2 with h2 | h2
    · exact h.suniq t1 h1 t2 h2 e
    · exact absurd e ((hs t2 h2).2.2.2 t1 h1)
    · exact absurd e.symm ((hs t1 h1).2.2.2 t2 h2)
    · exact eq_of_mem_of_length_le_one hlen h1 h2
  · rw [hcm]; exact fun q hqm => h.qle q (hq q hqm)
  · rw [hem, hcm, hwl]; exact h.em
  · rw [hem]; exact h.emsorted
  · intro k w hl
    rw [hem]
    rw [hwl] at hl
    rcases h.cover k w hl with hc | ⟨t, ht, hc⟩ | ⟨q, hqm, hr⟩
    · exact .inl hc
    · exact .inr (.inl ⟨t, (hms t).mpr (.inl ht), hc⟩)
    · rcases hq' q hqm with hqm' | hno
      · exact .inr (.inr ⟨q, hqm', hr⟩)
      · exact absurd hr.symm (hno k w hl)
  · intro p hp'
    obtain ⟨h1, h2⟩ := hp p hp'
    rw [h2]; exact h.pq p h1
  · exact fun p hp' => h.pne p (hp p hp').1
  · rw [hwl]; exact fun p hp' => h.pv p (hp p hp').1

theorem Cv.stepClient {g0 g : G} (ctx : Ctx g0 g) (h : Cv g) {c : Client} (hc : c ∈ g.clients) (f : Fault)
    (hb : (stepClient g c f).dealt < 2 ^ 64) : Cv (stepClient g c f) := by
  obtain ⟨hs, hd⟩ := ctx.finv
  have hA := ctx.ack
  have hfreshS : ∀ r, RevI g c r → ∀ s ∈ g.slots, s.rev ≠ r := by
    intro r hr s hsm e
    rcases hr with hr | ⟨_, rfl⟩
    · exact hs.slotInfl s hsm c hc (e ▸ hr)
    · have : s.rev ≤ g.dealt := (hs.slotR s hsm).2
      omega
  have hkok := h.kok c hc
  rcases hs.stepClient_eff hc (hA.ck c hc) f with ⟨x, s, d, e⟩ | e
  · have hxd : x.rev ≤ g.dealt := (hs.inflD c hc _ e.infl).2
    rw [e.dealt] at hb
    exact h.write (fun c' hc' => (mem_others.mp (e.clients ▸ hc')).1) e.wlog e.store e.slots e.frame.emitted
      e.frame.committed (fun q hq => e.frame.retryQ ▸ hq) (fun q hq => .inl (e.frame.retryQ ▸ hq))
      (fun p hp => ⟨e.frame.retryPc ▸ hp, e.frame.retryQ⟩) (e.xkey ▸ hkok.alph) (fun v hv => hkok.val v (e.xval v hv))
      (hs.inflR c hc _ e.infl) (by omega) (hA.fresh hc (RevI.toH (.inl e.infl))) (hfreshS _ (.inl e.infl))
      e.skey e.srev e.sflag e.verb
  · obtain ⟨sl, hsl, hlen, hprop⟩ := e.slots
    refine h.idle ?_ e.wlog e.store hsl hlen ?_ e.frame.emitted e.frame.committed (fun q hq => e.frame.retryQ ▸ hq)
      (fun q hq => .inl (e.frame.retryQ ▸ hq)) (fun p hp => ⟨e.frame.retryPc ▸ hp, e.frame.retryQ⟩)
    · intro c' hc'
      rcases e.clients c' hc' with ⟨h1, _⟩ | ⟨_, h1, _, _⟩
      · exact h.kok c' h1
      · rw [h1]; exact hkok
    · intro t ht
      obtain ⟨h1, h2, h3⟩ := hprop t ht
      exact ⟨h1, h2 ▸ hkok.alph, hA.fresh hc h3.toH, hfreshS _ h3⟩

theorem isTomb_getD {o : Option Bytes} (h : ∀ v, o = some v → ValOK v) :
    isTomb (o.getD tombstone) = o.isNone ∧ o.getD tombstone ≠ [] := by
  cases o with
  | none => exact ⟨by simp [isTomb], by decide⟩
  | some v =>
    obtain ⟨h1, h2⟩ := h v rfl
    exact ⟨by simp [isTomb, h2], h1⟩

theorem read_last {g0 g : G} (ctx : Ctx g0 g) (h : Cv g) (hb : g.dealt < 2 ^ 64) {k : Bytes} (hka : Alphabet k)
    {w : WLog} (hl : lastW g.wlog k = some w) :
    getInternal g.cfg g.store k 0 = some (w.val.getD tombstone, w.rev) ∧
      g.store.get (idxKey k) = some (be8 w.rev ++ flagOf w.val) := by
  have hcore := ctx.sinv.core
  have hi := hcore.idx hb k
  rw [hl] at hi
  simp only [IdxOK] at hi
  have hr := hcore.revs w (lastW_some hl).1
  refine ⟨getInternal_max g.cfg h.sorted (fun kv hkv => ?_) hka (by omega) (by omega) hi.2 fun r v' hr' hm => ?_, hi.1⟩
  · obtain ⟨k, r, h1, h2, h3, _⟩ := h.skeys kv hkv
    exact ⟨k, r, h1, h2, h3⟩
  · -- a stored version of `k` is a logged write of `k`, hence not newer than `w`
    obtain ⟨k', r', h1, _, h3, h4⟩ := h.skeys _ hm
    obtain ⟨e3, e4⟩ := encode_inj hr' h3 h1
    rcases h4 with h4 | ⟨x, hx, hxk, hxr⟩
    · omega
    · have := pairwise_le_last (chain_pairwise (hcore.chain hb) k) hl (List.mem_filter.mpr ⟨hx, by simp [hxk, e3]⟩)
      omega

theorem flag_eq_iff {b : Bool} {o : Option Bytes} : (if b = true then ([0] : Bytes) else []) = flagOf o ↔ b = o.isNone := by
  cases b <;> cases o <;> simp [flagOf]

theorem doCommit_ok_not_conflict {c : Cfg} {st st' : Store} {ops : List BOp} {f : Fault}
    (h : commit c.q st ops = .ok st') (i : Option Nat) (cv : Option Bytes) : (doCommit c st ops f).1 ≠ .conflict i cv := by
  rw [doCommit_of_ok c st ops st' h]
  cases f <;> nofun

theorem retryVal (v : Bytes) :
    flagOf (if isTomb v then none else some v) = (if isTomb v then [0] else []) ∧
      (if isTomb v then none else some v : Option Bytes).getD tombstone = v := by
  cases h : isTomb v
  · exact ⟨rfl, rfl⟩
  · exact ⟨rfl, (by simpa [isTomb] using h : v = tombstone).symm⟩

theorem Cv.stepRetryRead {g0 g : G} (ctx : Ctx g0 g) (h : Cv g)
    (hb' : (stepRetryRead g).dealt < 2 ^ 64) : Cv (stepRetryRead g) := by
  revert hb'
  apply stepRetryRead_cases (P := fun g' => g'.dealt < 2 ^ 64 → Cv g')
  case hBusy => intro _ _ _; exact h
  case hNop => intro _ _ _; exact h
  case hPop => -- the head is dropped: it is not the last write of its key
    intro q rest hn hq hpop hb
    have hqm : q ∈ g.retryQ := by rw [hq]; exact List.mem_cons_self ..
    refine h.idle (sl := []) h.kok rfl rfl (by simp) (by simp) (by simp) rfl rfl
      (fun x hx => by rw [hq]; exact List.mem_cons_of_mem _ hx) ?_ (fun p hp => nomatch hn.symm.trans hp)
    intro q' hq'
    rw [hq] at hq'
    rcases List.mem_cons.mp hq' with rfl | hq'
    · right
      intro k w hl hr
      obtain ⟨hk, _⟩ := h.qv q' hqm w (lastW_some hl).1 hr
      have hkk : k = q'.key := (lastW_some hl).2.symm.trans hk
      subst hkk
      obtain ⟨hget, _⟩ := read_last ctx h hb (h.qalph q' hqm) hl
      have hne := (isTomb_getD (h.wval w (lastW_some hl).1)).2
      rcases hpop with hp | ⟨val, m, hp, hp'⟩
      · rw [hp] at hget; cases hget
      · rw [hp] at hget
        simp only [Option.some.injEq, Prod.mk.injEq] at hget
        rcases hp' with hp' | hp'
        · exact hne (hget.1 ▸ hp')
        · exact hp' (hget.2.trans hr)
    · exact .inl hq'
  case hDeal =>
    intro w rest val hn hq hget hne _ hb
    have hb0 : g.dealt < 2 ^ 64 := by
      have : g.dealt + 1 < 2 ^ 64 := hb
      omega
    have hqm : w ∈ g.retryQ := by rw [hq]; exact List.mem_cons_self ..
    refine ⟨h.kok, h.salph, h.qalph, h.wval, h.sorted, h.skeys, h.sv, h.qv, h.svalid, h.suniq, h.qle, h.em,
      h.emsorted, h.cover, ?_, ?_, ?_⟩
    · intro p hp
      obtain rfl := Option.some.inj hp
      exact ⟨rest, hq⟩
    · intro p hp
      obtain rfl := Option.some.inj hp
      exact hne
    · intro p hp x hx hxr
      obtain rfl := Option.some.inj hp
      have hx' : x ∈ g.wlog := hx
      have hxr' : x.rev = w.rev := hxr
      obtain ⟨hk, hvb⟩ := h.qv w hqm x hx' hxr'
      cases hl : lastW g.wlog w.key with
      | none =>
        exfalso
        have hnil : g.wlog.filter (fun y => y.key == w.key) = [] := List.getLast?_eq_none_iff.mp hl
        have : x ∈ g.wlog.filter (fun y => y.key == w.key) := List.mem_filter.mpr ⟨hx', by simp [hk]⟩
        rw [hnil] at this; cases this
      | some x' =>
        obtain ⟨hget', _⟩ := read_last ctx h hb0 (h.qalph w hqm) hl
        rw [hget] at hget'
        simp only [Option.some.injEq, Prod.mk.injEq] at hget'
        have ht := (isTomb_getD (h.wval x' (lastW_some hl).1)).1
        obtain ⟨_, hvb'⟩ := h.qv w hqm x' (lastW_some hl).1 hget'.2.symm
        show isTomb val = x.val.isNone
        rw [hget'.1, ht]
        unfold VerbOK at hvb hvb'
        rw [← hvb, ← hvb']
  case hFull => intro _ _ _; exact h

theorem Cv.stepRetryCommit {g0 g : G} (ctx : Ctx g0 g) (h : Cv g) (f : Fault)
    (hb : g.dealt < 2 ^ 64) : Cv (stepRetryCommit g f) := by
  obtain ⟨hs, hd⟩ := ctx.finv
  have hcore := ctx.sinv.core
  apply stepRetryCommit_cases
  · intro _; exact h
  · intro p r st hp hdc
    obtain ⟨rest, hq⟩ := h.pq p hp
    have hrpc : g.view.rpc = some p.rev := by simp [G.view, hp]
    have hpc : g.committed < p.rev := (hs.rpcR _ hrpc).1
    have hpd : p.rev ≤ g.dealt := (hs.rpcR _ hrpc).2
    have hqm : p.w ∈ g.retryQ := by rw [hq]; exact List.mem_cons_self ..
    have hqa := h.qalph p.w hqm
    have hslot : ∀ s ∈ g.slots, s.rev ≠ p.rev := fun s hsm e => hs.rpcSlot s hsm (by rw [hrpc, e])
    have hwl : ∀ y ∈ g.wlog, y.rev ≠ p.rev := (ctx.sinv.rp p hp).1.2.2
    have hlt : p.w.rev < p.rev := (ctx.sinv.rp p hp).2
    obtain ⟨pS, pQ, pE, pC, pCl, pD, pSt, pCfg, pP, pW, -⟩ := retry_write_proj g p.w p.rev
      (if r == CommitRes.ok || r.isCas then g.retryQ.drop 1 else g.retryQ) r st f
      (if isTomb p.val then none else some p.val) (by omega)
    generalize hg' : G.notify _ _ = g' at pS pQ pE pC pCl pD pSt pCfg pP pW ⊢
    have hQsub : ∀ q ∈ g'.retryQ, q ∈ g.retryQ := by
      intro q hq'
      rw [pQ] at hq'
      split at hq'
      · exact List.mem_of_mem_drop hq'
      · exact hq'
    have hnp : ∀ p', g'.retryPc = some p' → g.retryPc = some p' ∧ g'.retryQ = g.retryQ :=
      fun p' hp' => nomatch pP.symm.trans hp'
    have hQtail : ∀ q ∈ g.retryQ, q ∈ g'.retryQ ∨ q = p.w := by
      intro q hqm'
      rw [hq] at hqm'
      rw [pQ, hq]
      rcases List.mem_cons.mp hqm' with e | hqm'
      · exact .inr e
      · left
        split
        · exact hqm'
        · exact List.mem_cons_of_mem _ hqm'
    rcases doCommit_cas_cases hdc with ⟨ha, hidx, hst⟩ | ⟨ha, hst⟩
    · -- applied: the compare-and-swap succeeded, so the head was the last write of its key
      rw [if_pos ha] at pW
      obtain ⟨w, hl, hwr, hfl⟩ : ∃ w, lastW g.wlog p.w.key = some w ∧ w.rev = p.w.rev ∧
          isTomb p.val = w.val.isNone := by
        have hi := hcore.idx hb p.w.key
        cases hl : lastW g.wlog p.w.key with
        | none =>
          rw [hl] at hi; simp only [IdxOK] at hi
          rw [hidx, ctx.st0] at hi; simp [Store.get] at hi
        | some w =>
          rw [hl] at hi; simp only [IdxOK] at hi
          have hwle := (hcore.revs w (lastW_some hl).1).2
          have := hi.1; rw [hidx] at this
          obtain ⟨e1, e2⟩ := be8_append_inj (by omega) (by omega) (Option.some.inj this)
          exact ⟨w, rfl, e1.symm, flag_eq_iff.mp e2⟩
      have hverb : VerbOK p.w w := (h.qv p.w hqm w (lastW_some hl).1 hwr).2
      have hxv : (p.w.verb == Verb.delete) = (if isTomb p.val = true then none else some p.val : Option Bytes).isNone := by
        rw [hverb, ← hfl]
        cases isTomb p.val <;> rfl
      refine h.write (x := ⟨p.w.key, p.rev, _, .rev p.w.rev⟩) (fun c hc => pCl ▸ hc) pW ?_ pS pE pC hQsub
        (fun q hqm' => (hQtail q hqm').imp id (congrArg WEvent.key)) hnp hqa ?_ hpc (by show p.rev < 2 ^ 64; omega) hwl hslot
        rfl rfl ?_ hxv
      · rw [pSt, hst, (retryVal p.val).1, (retryVal p.val).2]; rfl
      · intro v hv
        split at hv
        · cases hv
        · rename_i ht
          cases hv
          exact ⟨h.pne p hp, by simpa [isTomb] using ht⟩
      · rcases applied_cases ha with rfl | rfl
        · exact .inl rfl
        · exact .inr rfl
    · -- not applied: the head goes only if the condition failed, and then it was not the last write of its key
      rw [if_neg (by rw [ha]; simp)] at pW
      subst hst
      have hrne : r ≠ .ok := not_ok_of_idle ha
      refine h.idle (sl := [_]) (fun c hc => h.kok c (pCl ▸ hc)) pW pSt pS (by simp) ?_ pE pC hQsub ?_ hnp
      · intro s hsm
        rw [List.mem_singleton.mp hsm]
        exact ⟨by simp [hrne], hqa, hwl, hslot⟩
      · intro q hqm'
        rcases hQtail q hqm' with h1 | rfl
        · exact .inl h1
        by_cases hcond : (r == CommitRes.ok || r.isCas) = true
        · right
          intro k w0 hl0 hr'
          obtain ⟨hk, _⟩ := h.qv p.w hqm w0 (lastW_some hl0).1 hr'
          have hkk : k = p.w.key := (lastW_some hl0).2.symm.trans hk
          subst hkk
          obtain ⟨_, hidx⟩ := read_last ctx h hb hqa hl0
          have hfl := h.pv p hp w0 (lastW_some hl0).1 hr'
          rw [hr', ← flag_eq_iff.mpr hfl] at hidx
          have hcm := (commit_cas_put g.cfg.q g.store (idxKey p.w.key)
            (be8 p.rev ++ if isTomb p.val then [0] else [])
            (be8 p.w.rev ++ if isTomb p.val then [0] else []) (encode p.w.key p.rev) p.val _).mpr ⟨hidx, rfl⟩
          have hnc := doCommit_ok_not_conflict (f := f) hcm
          rw [hdc] at hnc
          simp only [Bool.or_eq_true, beq_iff_eq] at hcond
          rcases hcond with hcond | hcond
          · exact hrne hcond
          · cases r <;> simp [CommitRes.isCas] at hcond
            exact hnc _ _ rfl
        · left
          rw [pQ, if_neg hcond]; exact hqm

theorem compaction_rev (c : Cfg) (s : BState) (rev : Nat) (mask : Nat → DelOutcome) (R : Nat)
    (h : (doCompact c s rev mask).1 = .ok R) :
    R = (match s.retryQ.head? with
         | some w => min (w.rev - 1) (if (rev == 0 || decide (rev > s.committed)) = true then s.committed else rev)
         | none => (if (rev == 0 || decide (rev > s.committed)) = true then s.committed else rev)) := by
  unfold doCompact at h
  simp only at h
  generalize (if (rev == 0 || decide (rev > s.committed)) = true then s.committed else rev) = rev' at h ⊢
  generalize (List.foldl (β := Bytes × Bytes) (α := BState × Nat × Bool) _ _ (pairs (compactBorders c))) = x at h
  obtain ⟨_, _, pan⟩ := x
  cases pan with
  | true => simp at h
  | false =>
    simp only [Bool.false_eq_true, if_false, ScanRes.ok.injEq] at h
    exact h.symm

def ActOK (a : Action) : Prop := ∀ id kind, a = .begin id kind → KOK kind

theorem dealtGe_closed (d : Nat) : Closed (fun v => d ≤ v.dealt) where
  dealTo := fun h _ _ _ _ => Nat.le_succ_of_le h
  move := fun h _ _ _ _ => h
  report := fun {v c w} h _ _ _ => by
    show d ≤ (v.push w).dealt
    unfold View.push; split <;> exact h
  ret := fun h _ _ _ => h
  consume := fun h _ _ => Nat.le_trans h (Nat.le_max_left _ _)
  rdeal := fun h _ _ => Nat.le_succ_of_le h
  rpush := fun {v w} h _ => by
    show d ≤ (v.push w).dealt
    unfold View.push; split <;> exact h
  spawn := fun h _ _ => h
  drop := fun h _ _ => h

theorem act_dealt_le (g : G) (a : Action) : g.dealt ≤ (act g a).dealt :=
  act_P (dealtGe_closed g.dealt) a (Nat.le_refl _)

theorem run_dealt_le (g : G) (s : List Action) : g.dealt ≤ (run g s).dealt :=
  run_P (dealtGe_closed g.dealt) s (Nat.le_refl _)

theorem stepRetryCommit_dealt (g : G) (f : Fault) : (stepRetryCommit g f).dealt = g.dealt := by
  apply stepRetryCommit_cases (P := fun g' => g'.dealt = g.dealt) <;> intros <;> simp

theorem Cv.act {g0 g : G} (h0 : C02.Init g0) (hs0 : g0.store = []) (hr : Reachable g0 g) (h : Cv g) (a : Action)
    (ha : ActOK a) (hb : (act g a).dealt < 2 ^ 64) : Cv (act g a) := by
  have ctx := Ctx.reachable h0 hs0 hr
  revert hb
  refine act_cases (P := fun g' => g'.dealt < 2 ^ 64 → Cv g') g a (fun _ => h) (fun id kind e _ _ => ?_)
    (fun c f hc hb => h.stepClient ctx hc f hb) (fun _ => h.stepSeq) (fun f hb => ?_) (h.stepRetryRead ctx)
    (fun f hb => h.stepRetryCommit ctx f (stepRetryCommit_dealt g f ▸ hb))
  · refine ⟨fun c hc => ?_, h.salph, h.qalph, h.wval, h.sorted, h.skeys, h.sv, h.qv, h.svalid, h.suniq, h.qle, h.em,
      h.emsorted, h.cover, h.pq, h.pne, h.pv⟩
    rcases List.mem_append.mp hc with hc | hc
    · exact h.kok c hc
    · rw [List.mem_singleton.mp hc]; exact ha id kind e
  · have hb1 : (KB.stepRetryRead g).dealt < 2 ^ 64 := stepRetryCommit_dealt _ f ▸ hb
    exact (h.stepRetryRead ctx hb1).stepRetryCommit (Ctx.reachable h0 hs0 (hr.step .retryRead)) f hb1

theorem Cv.run {g0 : G} (h0 : C02.Init g0) (hs : g0.store = []) (hem : g0.emitted = []) (sched : List Action)
    (hok : ∀ a ∈ sched, ActOK a) (hb : (run g0 sched).dealt < 2 ^ 64) : Cv (run g0 sched) := by
  suffices ∀ sched g, Reachable g0 g → (g.dealt < 2 ^ 64 → Cv g) → (∀ a ∈ sched, ActOK a) →
      ((KB.run g sched).dealt < 2 ^ 64 → Cv (KB.run g sched)) from
    this sched g0 ⟨[], rfl⟩ (fun _ => Cv.init h0 hs hem) hok hb
  intro sched
  induction sched with
  | nil => intro g _ hJ _; exact hJ
  | cons a as ih =>
    intro g hr hJ hok
    have ctx := Ctx.reachable h0 hs hr
    refine ih (KB.act g a) (hr.step a) ?_ (fun b hb => hok b (List.mem_cons_of_mem _ hb))
    intro hb'
    exact Cv.act h0 hs hr (hJ (Nat.lt_of_le_of_lt (act_dealt_le g a) hb')) a (hok a (List.mem_cons_self ..)) hb'

theorem Cv.converged {g0 g : G} (ctx : Ctx g0 g) (h : Cv g) (hb : g.dealt < 2 ^ 64) (hsl : g.slots = [])
    (hrq : g.retryQ = []) (k : Bytes) :
    (lastW g.wlog k).map (fun w => (w.rev, w.val.isNone)) =
      ((g.emitted.filter (fun e => e.key == k)).getLast?).map (fun e => (e.rev, e.verb == .delete)) := by
  have hcore := ctx.sinv.core
  have hpw := chain_pairwise (hcore.chain hb) k
  have hev : ∀ e ∈ g.emitted.filter (fun e => e.key == k), ∃ x ∈ g.wlog.filter (fun w => w.key == k), x.rev = e.rev := by
    intro e he
    obtain ⟨he1, he2⟩ := List.mem_filter.mp he
    obtain ⟨_, x, hx, h1, h2, _⟩ := h.em e he1
    refine ⟨x, List.mem_filter.mpr ⟨hx, ?_⟩, h1⟩
    simp only [beq_iff_eq] at he2 ⊢
    rw [h2, he2]
  have hsorted : (g.emitted.filter (fun e => e.key == k)).Pairwise (fun a b => a.rev < b.rev) :=
    List.Pairwise.filter _ (List.pairwise_map.mp h.emsorted)
  cases hl : lastW g.wlog k with
  | none =>
    have hnil : g.wlog.filter (fun w => w.key == k) = [] := List.getLast?_eq_none_iff.mp hl
    have : g.emitted.filter (fun e => e.key == k) = [] := by
      apply List.eq_nil_iff_forall_not_mem.mpr
      intro e he
      obtain ⟨x, hx, _⟩ := hev e he
      rw [hnil] at hx; cases hx
    rw [this]; rfl
  | some w =>
    have hwk := (lastW_some hl).2
    rcases h.cover k w hl with ⟨e, he, h1, h2, h3⟩ | ⟨s, hs, _⟩ | ⟨q, hq, _⟩
    · have hem : e ∈ g.emitted.filter (fun e => e.key == k) :=
        List.mem_filter.mpr ⟨he, by simp [h2, hwk]⟩
      cases hlast : (g.emitted.filter (fun e => e.key == k)).getLast? with
      | none =>
        rw [List.getLast?_eq_none_iff] at hlast
        rw [hlast] at hem; cases hem
      | some e' =>
        obtain ⟨x', hx', hxr⟩ := hev e' (List.mem_of_getLast? hlast)
        have hle := pairwise_le_last hpw hl hx'
        rcases pairwise_getLast hsorted hlast hem with rfl | hlt
        · simp [h1, h3]
        · omega
    · rw [hsl] at hs; cases hs
    · rw [hrq] at hq; cases hq

end KB
