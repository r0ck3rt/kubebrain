/- Helper lemmas for C07Par: several compaction workers, each over its own key range, racing each other
   and the writers. Everything here is per-key locality: the store restricted to a set of raw keys
   (`proj`), and how the steps of the race commute with that restriction. -/
import KB.Props.C07Race
namespace KB.Par
open KB KB.Compact KB.Race KB.C07

/-- does the internal key `ik` belong to a raw key in `K`? (anything that does not decode belongs to no
raw key) -/
def inDom (K : Bytes → Bool) (ik : Bytes) : Bool :=
  match decode ik with
  | .ok k _ => K k
  | _ => false

/-- the records of the raw keys in `K` -/
def proj (K : Bytes → Bool) (s : Store) : Store := s.filter (fun kv => inDom K kv.1)

theorem inDom_encode (K : Bytes → Bool) (k : Bytes) {n : Nat} (hn : n < 2 ^ 64) :
    inDom K (encode k n) = K k := by
  simp only [inDom, decode_encode k n hn]

theorem inDom_idxKey (K : Bytes → Bool) (k : Bytes) : inDom K (idxKey k) = K k :=
  inDom_encode K k (by decide)

theorem proj_sorted (K : Bytes → Bool) {s : Store} (hs : s.Sorted) : (proj K s).Sorted := by
  rw [KB.Store.sorted_iff_pairwise] at hs ⊢
  exact List.Pairwise.sublist List.filter_sublist hs

theorem proj_goodKeys (K : Bytes → Bool) {s : Store} (hg : GoodKeys s) : GoodKeys (proj K s) :=
  fun kv hkv => hg kv (List.mem_filter.1 hkv).1

theorem get_proj (K : Bytes → Bool) {s : Store} (hs : s.Sorted) (x : Bytes) :
    (proj K s).get x = if inDom K x = true then s.get x else none := by
  apply Option.ext
  intro v
  constructor
  · intro h
    have hm := List.mem_filter.1 (Store.mem_of_get h)
    simp only at hm
    rw [if_pos hm.2]
    exact Store.get_of_mem hs hm.1
  · intro h
    by_cases hx : inDom K x = true
    · rw [if_pos hx] at h
      exact Store.get_of_mem (proj_sorted K hs) (List.mem_filter.2 ⟨Store.mem_of_get h, hx⟩)
    · rw [if_neg hx] at h; cases h

theorem get_proj_in (K : Bytes → Bool) {s : Store} (hs : s.Sorted) {x : Bytes} (hx : inDom K x = true) :
    (proj K s).get x = s.get x := by rw [get_proj K hs, if_pos hx]

theorem proj_erase (K : Bytes → Bool) {s : Store} (hs : s.Sorted) (ik : Bytes) :
    proj K (s.erase ik) = (proj K s).erase ik := by
  have h1 := KB.Store.erase_sorted s hs ik
  apply store_ext (proj_sorted K h1) (KB.Store.erase_sorted _ (proj_sorted K hs) ik)
  intro x
  rw [get_proj K h1, KB.Store.get_erase _ (proj_sorted K hs), KB.Store.get_erase _ hs, get_proj K hs]
  by_cases hx : x = ik <;> by_cases hd : inDom K x = true <;> simp [hx, hd]

theorem proj_erase_out (K : Bytes → Bool) {s : Store} (hs : s.Sorted) {ik : Bytes}
    (hik : inDom K ik = false) : proj K (s.erase ik) = proj K s := by
  have h1 := KB.Store.erase_sorted s hs ik
  apply store_ext (proj_sorted K h1) (proj_sorted K hs)
  intro x
  rw [get_proj K h1, get_proj K hs, KB.Store.get_erase _ hs]
  by_cases hx : x = ik
  · subst hx; simp [hik]
  · simp [hx]

theorem proj_put_in (K : Bytes → Bool) {s : Store} (hs : s.Sorted) {a : Bytes} (va : Bytes)
    (ha : inDom K a = true) : proj K (s.put a va) = (proj K s).put a va := by
  have h1 := KB.Store.put_sorted s hs a va
  have p0 := proj_sorted K hs
  apply store_ext (proj_sorted K h1) (KB.Store.put_sorted _ p0 a va)
  intro x
  rw [get_proj K h1, Store.get_put_any, Store.get_put_any, get_proj K hs]
  by_cases hx : x = a
  · subst hx; simp [ha]
  · simp [hx]

theorem proj_put_out (K : Bytes → Bool) {s : Store} (hs : s.Sorted) {a : Bytes} (va : Bytes)
    (ha : inDom K a = false) : proj K (s.put a va) = proj K s := by
  have h1 := KB.Store.put_sorted s hs a va
  apply store_ext (proj_sorted K h1) (proj_sorted K hs)
  intro x
  rw [get_proj K h1, get_proj K hs, Store.get_put_any]
  by_cases hx : x = a
  · subst hx; simp [ha]
  · simp [hx]

theorem mem_storeRecs_proj (K : Bytes → Bool) {s : Store} (hs : s.Sorted) (hg : GoodKeys s) {x : Rec}
    (hx : K x.key = true) : x ∈ storeRecs (proj K s) ↔ x ∈ storeRecs s := by
  rw [mem_storeRecs (proj_sorted K hs) (proj_goodKeys K hg), mem_storeRecs hs hg]
  refine and_congr_right fun h1 => and_congr_right fun h2 => ?_
  rw [get_proj_in K hs (by rw [h2, inDom_encode K _ h1]; exact hx)]

theorem readS_proj (K : Bytes → Bool) {s : Store} (hs : s.Sorted) (hg : GoodKeys s) (R : Nat) {k : Bytes}
    (hk : K k = true) : readS R (proj K s) k = readS R s k := by
  unfold readS
  apply readAt_congr_key (storeRecs_sorted (proj_sorted K hs) (proj_goodKeys K hg)) (storeRecs_sorted hs hg)
  intro x hx _
  exact mem_storeRecs_proj K hs hg (hx ▸ hk)

theorem logicalIdx_proj (K : Bytes → Bool) {s : Store} (hs : s.Sorted) {k : Bytes} (hk : K k = true) :
    logicalIdx (proj K s) k = logicalIdx s k :=
  logicalIdx_congr (get_proj_in K hs (by rw [inDom_idxKey]; exact hk))

theorem reads_of_proj_eq (K : Bytes → Bool) {s1 s2 : Store} (h1 : s1.Sorted) (g1 : GoodKeys s1)
    (h2 : s2.Sorted) (g2 : GoodKeys s2) (h : proj K s1 = proj K s2) {k : Bytes} (hk : K k = true) :
    (∀ R, readS R s1 k = readS R s2 k) ∧ logicalIdx s1 k = logicalIdx s2 k := by
  constructor
  · intro R; rw [← readS_proj K h1 g1 R hk, h, readS_proj K h2 g2 R hk]
  · rw [← logicalIdx_proj K h1 hk, h, logicalIdx_proj K h2 hk]

/-- every delete target of the actions belongs to a raw key in `K` -/
def TargetsIn (K : Bytes → Bool) (acts : List Act) : Prop :=
  ∀ a ∈ acts, ∀ ik, actTarget a = some ik → inDom K ik = true

theorem workerActs_targetsIn {R : Nat} {recs : List Rec} (hw : WellKeyed recs)
    (hk : ∀ r ∈ recs, Alphabet r.key ∧ r.rev < 2 ^ 64) (K : Bytes → Bool) (hK : ∀ r ∈ recs, K r.key = true) :
    TargetsIn K (workerActs (ccfg R) recs) := by
  -- every target is an internal key of the raw key of a record of the pass: of `prev`'s, or of the current one's
  refine workerLoop_all_of_inv (I := fun p => p.rev < 2 ^ 64)
    (fun _ _ a h ik ht => by rw [eq_of_mem_emitPrev h] at ht; cases ht) ?_ (by decide)
  intro q hq r hr
  refine ⟨workerStep_rev_lt hq (hk r hr).2, fun a ha ik ht => ?_⟩
  obtain ⟨_, h | ⟨rfl, hkey, _⟩ | ⟨rfl, _⟩ | ⟨rfl, _⟩⟩ := workerStep_ccfg_acts ha
  · rw [eq_of_mem_emitPrev h] at ht; cases ht
  · cases ht; rw [inDom_encode K _ hq, ← hkey]; exact hK r hr
  · cases ht; rw [hw r hr, inDom_encode K _ (hk r hr).2]; exact hK r hr
  · cases ht; rw [hw r hr, inDom_encode K _ (hk r hr).2]; exact hK r hr

theorem TargetsIn.tail {K : Bytes → Bool} {a : Act} {rest : List Act} (h : TargetsIn K (a :: rest)) :
    TargetsIn K rest := fun b hb => h b (List.mem_cons_of_mem _ hb)

theorem TargetsIn.of_append {K : Bytes → Bool} {l1 l2 : List Act} (h : TargetsIn K (l1 ++ l2)) :
    TargetsIn K l2 := fun b hb => h b (List.mem_append_right _ hb)

theorem inDom_disjoint {K K' : Bytes → Bool} (hd : ∀ k, K k = true → K' k = true → False) {ik : Bytes}
    (h : inDom K ik = true) : inDom K' ik = false := by
  unfold inDom at h ⊢
  split at h
  · rename_i k _ hdec
    cases hk' : K' k with
    | false => rfl
    | true => exact (hd k h hk').elim
  · cases h

/-- the store after a batch commit (a refused commit changes nothing) -/
def commitOr (q : Quirks) (s : Store) (ops : List BOp) : Store :=
  match commit q s ops with
  | .ok s' => s'
  | .error _ => s

/-- `ops` is a writer batch on raw key `k`: a conditional write of `k`'s index record, then the put of a
new version `> R` of `k` (`KB.Race.RaceBatch` with the key exposed) -/
def BatchOn (R : Nat) (k : Bytes) (ops : List BOp) : Prop :=
  ∃ rev v new, Alphabet k ∧ R < rev ∧ rev < 2 ^ 64 ∧
    (ops = [.pine (idxKey k) new, .put (encode k rev) v] ∨
     ∃ old, ops = [.cas (idxKey k) new old, .put (encode k rev) v])

theorem BatchOn.raceBatch {R : Nat} {k : Bytes} {ops : List BOp} (h : BatchOn R k ops) : RaceBatch R ops := by
  obtain ⟨rev, v, new, h1, h2, h3, h4⟩ := h
  exact ⟨k, rev, v, new, h1, h2, h3, h4⟩

theorem raceBatch_batchOn {R : Nat} {ops : List BOp} (h : RaceBatch R ops) : ∃ k, BatchOn R k ops := by
  obtain ⟨k, rev, v, new, h1, h2, h3, h4⟩ := h
  exact ⟨k, rev, v, new, h1, h2, h3, h4⟩

/-- the raw key a batch is about: the raw key of its first operation's engine key -/
def batchRaw : List BOp → Option Bytes
  | .pine ik _ :: _ => match decode ik with | .ok k _ => some k | _ => none
  | .cas ik _ _ :: _ => match decode ik with | .ok k _ => some k | _ => none
  | _ => none

theorem batchRaw_batchOn {R : Nat} {k : Bytes} {ops : List BOp} (h : BatchOn R k ops) :
    batchRaw ops = some k := by
  obtain ⟨rev, v, new, _, _, _, rfl | ⟨old, rfl⟩⟩ := h <;>
    simp only [batchRaw, idxKey, decode_encode k 0 (by decide)]

/-- what a writer batch on `k` does depends only on `k`'s index record -/
theorem commitOr_shape {q : Quirks} {k : Bytes} {rev : Nat} {v new : Bytes} {ops : List BOp}
    (hops : ops = [.pine (idxKey k) new, .put (encode k rev) v] ∨
      ∃ old, ops = [.cas (idxKey k) new old, .put (encode k rev) v]) :
    ∃ c : Option Bytes → Bool, ∀ s : Store,
      commitOr q s ops = if c (s.get (idxKey k)) = true then (s.put (idxKey k) new).put (encode k rev) v else s := by
  obtain ⟨f, hf⟩ := commit_cond_put (q := q) hops
  refine ⟨fun o => (f o).isNone, fun s => ?_⟩
  rw [commitOr, hf]
  cases hfs : f (s.get (idxKey k)) <;> simp [hfs]

theorem commitOr_batchOn {q : Quirks} {R : Nat} {k : Bytes} {ops : List BOp} (h : BatchOn R k ops) :
    ∃ rev v new, R < rev ∧ rev < 2 ^ 64 ∧ ∃ c : Option Bytes → Bool, ∀ s : Store,
      commitOr q s ops = if c (s.get (idxKey k)) = true then (s.put (idxKey k) new).put (encode k rev) v else s := by
  obtain ⟨rev, v, new, _, h2, h3, hops⟩ := h
  exact ⟨rev, v, new, h2, h3, commitOr_shape hops⟩

theorem commitOr_proj_in {q : Quirks} {R : Nat} {k : Bytes} {ops : List BOp} (h : BatchOn R k ops)
    (K : Bytes → Bool) (hK : K k = true) {s : Store} (hs : s.Sorted) :
    commitOr q (proj K s) ops = proj K (commitOr q s ops) := by
  obtain ⟨rev, v, new, _, h64, c, hc⟩ := commitOr_batchOn (q := q) h
  rw [hc, hc, get_proj_in K hs (by rw [inDom_idxKey]; exact hK)]
  split
  · rw [proj_put_in K (KB.Store.put_sorted s hs _ _) _ (by rw [inDom_encode K _ h64]; exact hK),
      proj_put_in K hs _ (by rw [inDom_idxKey]; exact hK)]
  · rfl

theorem commitOr_proj_out {q : Quirks} {R : Nat} {k : Bytes} {ops : List BOp} (h : BatchOn R k ops)
    (K : Bytes → Bool) (hK : K k = false) {s : Store} (hs : s.Sorted) :
    proj K (commitOr q s ops) = proj K s := by
  obtain ⟨rev, v, new, _, h64, c, hc⟩ := commitOr_batchOn (q := q) h
  rw [hc]
  split
  · rw [proj_put_out K (KB.Store.put_sorted s hs _ _) _ (by rw [inDom_encode K _ h64]; exact hK),
      proj_put_out K hs _ (by rw [inDom_idxKey]; exact hK)]
  · rfl

theorem commitOr_wf {q : Quirks} {R : Nat} {ops : List BOp} (h : RaceBatch R ops) {s : Store}
    (hs : s.Sorted) (hg : GoodKeys s) : (commitOr q s ops).Sorted ∧ GoodKeys (commitOr q s ops) := by
  unfold commitOr
  cases hc : commit q s ops with
  | error e => exact ⟨hs, hg⟩
  | ok s' =>
    obtain ⟨k, rev, v, new, ha, _, h64, rfl⟩ := commit_raceBatch h hc
    exact ⟨KB.Store.put_sorted _ (KB.Store.put_sorted s hs _ _) _ _,
      goodKeys_put (goodKeys_put hg ha (by decide) new) ha h64 v⟩

open KB.C07Race in
theorem revsOf_proj (K : Bytes → Bool) (s : Store) (k : Bytes) {n : Nat} (h : n ∈ revsOf (proj K s) k) :
    n ∈ revsOf s k := by
  unfold revsOf at h ⊢
  exact (List.Sublist.filterMap _ List.filter_sublist).subset h

open KB.C07Race in
theorem fresh_proj (K : Bytes → Bool) {R : Nat} {s : Store} {k : Bytes} {rev : Nat} (h : Fresh R s k rev) :
    Fresh R (proj K s) k rev :=
  ⟨h.1, h.2.1, h.2.2.1, h.2.2.2.1, fun n hn => h.2.2.2.2 n (revsOf_proj K s k hn)⟩

open KB.C07Race in
theorem writerBatch_proj (K : Bytes → Bool) {R : Nat} {s : Store} {ops : List BOp} (h : WriterBatch R s ops) :
    WriterBatch R (proj K s) ops := by
  cases h with
  | create k v rev h => exact .create k v rev (fresh_proj K h)
  | recreate k v old rev h => exact .recreate k v old rev (fresh_proj K h)
  | update k v rev exp h => exact .update k v rev exp (fresh_proj K h)
  | delete k rev modRev h => exact .delete k rev modRev (fresh_proj K h)
  | retry k v flag rev old h => exact .retry k v flag rev old (fresh_proj K h)

open KB.C07Race in
theorem writerBatch_batchOn {R : Nat} {s : Store} {ops : List BOp} (h : WriterBatch R s ops) :
    ∃ k, k ≠ [] ∧ BatchOn R k ops := by
  obtain ⟨k, rev, v, new, hf, hops⟩ := h.shape
  exact ⟨k, hf.2.1, rev, v, new, hf.1, hf.2.2.1, hf.2.2.2.1, hops⟩

open KB.C07Race in
/-- the single-worker race state `u` is the view worker (`lf`, `calls`, `pending`) has of the records of
its own raw keys `K` in the shared store -/
def Sim (K : Bytes → Bool) (store : Store) (lf : Bytes) (calls : Nat) (pending : List Act) (u : RState) : Prop :=
  u.comp.store = proj K store ∧ u.comp.lastFailed = lf ∧ u.comp.calls = calls ∧ u.pending = pending

open KB.C07Race in
/-- the worker's own call: the same call in its single-worker race -/
theorem sim_compDel {K : Bytes → Bool} {q : Quirks} {mask : Nat → DelOutcome} {st : CompState}
    {a : Act} {rest : List Act} {u : RState} (hsorted : st.store.Sorted)
    (hsim : Sim K st.store st.lastFailed st.calls (a :: rest) u)
    (hin : ∀ ik, actTarget a = some ik → inDom K ik = true) :
    Sim K (runDelete mask st a).store (runDelete mask st a).lastFailed (runDelete mask st a).calls rest
      (step q mask u .compDel) := by
  obtain ⟨hst, hlf, hc, hp⟩ := hsim
  rw [step_compDel_cons hp]
  obtain ⟨e1, e2, _⟩ := runDelete_ctrl mask a u.comp st hlf hc
  refine ⟨?_, e1, e2, rfl⟩
  show (runDelete mask u.comp a).store = proj K (runDelete mask st a).store
  -- a compare-and-delete finds in the worker's part of the store what it finds in the whole
  have hg : ∀ ik v raw, a = .delcur ik v raw → u.comp.store.get ik = st.store.get ik := by
    intro ik v raw e
    rw [hst]; exact get_proj_in K hsorted (hin ik (e ▸ rfl))
  rcases runDelete_store_congr mask a hlf hc hg with ⟨h1, h2⟩ | ⟨ik, _, h1, h2⟩
  · rw [h1, h2, hst]
  · rw [h1, h2, hst]; exact (proj_erase K hsorted ik).symm

/-- another worker's call leaves the records of the raw keys in `K'` alone -/
theorem compDel_out {K' : Bytes → Bool} (mask : Nat → DelOutcome) {st : CompState} (hsorted : st.store.Sorted)
    {a : Act} (hout : ∀ ik, actTarget a = some ik → inDom K' ik = false) :
    proj K' (runDelete mask st a).store = proj K' st.store := by
  rcases runDelete_store mask st a with e | ⟨ik, ht, e⟩
  · rw [e]
  · rw [e]; exact proj_erase_out K' hsorted (hout ik ht)

open KB.C07Race in
theorem step_write_store (q : Quirks) (mask : Nat → DelOutcome) (u : RState) (ops : List BOp) :
    step q mask u (.write ops) = { u with comp := { u.comp with store := commitOr q u.comp.store ops } } := by
  unfold commitOr
  cases hc : commit q u.comp.store ops with
  | ok st' => rw [step_write_ok hc]
  | error e => rw [step_write_error hc]

open KB.C07Race in
/-- a writer batch on one of the worker's raw keys: the same batch in its single-worker race -/
theorem sim_write_in {K : Bytes → Bool} {q : Quirks} {mask : Nat → DelOutcome} {R : Nat} {store : Store}
    {lf : Bytes} {calls : Nat} {pending : List Act} {u : RState} {k : Bytes} {ops : List BOp}
    (hsorted : store.Sorted) (hsim : Sim K store lf calls pending u) (hb : BatchOn R k ops) (hK : K k = true) :
    Sim K (commitOr q store ops) lf calls pending (step q mask u (.write ops)) := by
  obtain ⟨hst, hlf, hc, hp⟩ := hsim
  rw [step_write_store]
  refine ⟨?_, hlf, hc, hp⟩
  show commitOr q u.comp.store ops = _
  rw [hst]; exact commitOr_proj_in hb K hK hsorted

/-- `snapI` is the part of `all` with raw keys in `K`: restoring `all` in the whole store and restoring
`snapI` in the `K`-part of the store give the same records of the raw keys in `K` -/
theorem restored_local {all snapI : List Rec} (K : Bytes → Bool)
    (hsub : ∀ r ∈ snapI, r ∈ all) (hback : ∀ r ∈ all, K r.key = true → r ∈ snapI)
    (hw : WellKeyed all) (hk : ∀ r ∈ all, Alphabet r.key ∧ r.rev < 2 ^ 64)
    (huniq : ∀ a ∈ all, ∀ b ∈ all, a.ik = b.ik → a.val = b.val)
    {s : Store} (hs : s.Sorted) (hg : GoodKeys s) {x : Rec} (hx : K x.key = true) :
    x ∈ storeRecs (restored snapI (proj K s)) ↔ x ∈ storeRecs (restored all s) := by
  have hwI : WellKeyed snapI := fun r hr => hw r (hsub r hr)
  have hkI : ∀ r ∈ snapI, Alphabet r.key ∧ r.rev < 2 ^ 64 := fun r hr => hk r (hsub r hr)
  have huniqI : ∀ a ∈ snapI, ∀ b ∈ snapI, a.ik = b.ik → a.val = b.val :=
    fun a ha b hb => huniq a (hsub a ha) b (hsub b hb)
  have hps := proj_sorted K hs
  rw [mem_storeRecs (restored_sorted snapI hps) (restored_goodKeys hwI hkI (proj_goodKeys K hg)),
    mem_storeRecs (restored_sorted all hs) (restored_goodKeys hw hk hg),
    get_restored huniqI hps, get_restored huniq hs]
  refine and_congr_right fun h1 => and_congr_right fun h2 => ?_
  rw [get_proj_in K hs (by rw [h2, inDom_encode K _ h1]; exact hx)]
  refine or_congr_right (and_congr_right fun _ => ⟨?_, ?_⟩)
  · rintro ⟨r, hr, h⟩; exact ⟨r, hsub r hr, h⟩
  · rintro ⟨r, hr, h0, e1, e2⟩
    refine ⟨r, hback r hr ?_, h0, e1, e2⟩
    rw [hw r hr, h2] at e1
    rw [(encode_inj (hk r hr).2 h1 e1).1]; exact hx

theorem restored_absent {all : List Rec} (hw : WellKeyed all) (hk : ∀ r ∈ all, Alphabet r.key ∧ r.rev < 2 ^ 64)
    (huniq : ∀ a ∈ all, ∀ b ∈ all, a.ik = b.ik → a.val = b.val)
    {s : Store} (hs : s.Sorted) (hg : GoodKeys s) {x : Rec} (hx : ∀ r ∈ all, r.key ≠ x.key) :
    x ∈ storeRecs (restored all s) ↔ x ∈ storeRecs s := by
  rw [mem_storeRecs (restored_sorted all hs) (restored_goodKeys hw hk hg), mem_storeRecs hs hg,
    get_restored huniq hs]
  refine and_congr_right fun h1 => and_congr_right fun h2 => or_iff_left ?_
  rintro ⟨_, r, hr, _, e1, _⟩
  rw [hw r hr, h2] at e1
  exact hx r hr (encode_inj (hk r hr).2 h1 e1).1

theorem decodeRecs_encodeStore_wellKeyed {recs : List Rec} (hw : WellKeyed recs) (hk : ∀ r ∈ recs, r.rev < 2 ^ 64) :
    decodeRecs (encodeStore recs) = some recs := by
  rw [decodeRecs_encodeStore hk]
  congr 1
  conv => rhs; rw [← List.map_id recs]
  exact List.map_congr_left fun r hr => by
    have := hw r hr
    cases r
    simp only [encOf, id] at this ⊢
    rw [this]

theorem storeRecs_encodeStore {recs : List Rec} (hw : WellKeyed recs)
    (hk : ∀ r ∈ recs, Alphabet r.key ∧ r.rev < 2 ^ 64) : storeRecs (encodeStore recs) = recs := by
  rw [storeRecs, decodeRecs_encodeStore_wellKeyed hw (fun r hr => (hk r hr).2)]; rfl

theorem storeRecs_proj_keys (K : Bytes → Bool) {s : Store} (hs : s.Sorted) (hg : GoodKeys s) :
    ∀ r ∈ storeRecs (proj K s), K r.key = true := by
  intro r hr
  obtain ⟨h1, h2, h3⟩ := (mem_storeRecs (proj_sorted K hs) (proj_goodKeys K hg)).1 hr
  rw [get_proj K hs] at h3
  split at h3
  · rename_i hin
    rwa [h2, inDom_encode K _ h1] at hin
  · cases h3

theorem proj_encodeStore (K : Bytes → Bool) {recs : List Rec} (hk : ∀ r ∈ recs, r.rev < 2 ^ 64) :
    proj K (encodeStore recs) = encodeStore (recs.filter (fun r => K r.key)) := by
  induction recs with
  | nil => rfl
  | cons r rs ih =>
    have ih' := ih (fun x hx => hk x (List.mem_cons_of_mem _ hx))
    have hr := hk r (List.mem_cons_self ..)
    simp only [proj, encodeStore, List.map_cons, List.filter_cons, inDom_encode K _ hr] at ih' ⊢
    cases hK : K r.key with
    | true => simp only [if_true, List.map_cons, ih']
    | false => simpa using ih'

/-- the hypotheses of the single-worker theorems on a snapshot -/
def SnapOK (recs : List Rec) : Prop :=
  SortedRecs recs ∧ WellKeyed recs ∧ (∀ r ∈ recs, Alphabet r.key ∧ r.rev < 2 ^ 64) ∧
    (∀ r ∈ recs, r.key ≠ []) ∧ IdxWF recs

/-- no record of the store belongs to the empty raw key, and no index record carries the deletion marker
as its value -/
def KeysWF (s : Store) : Prop :=
  ∀ kv ∈ s, ∀ k n, kv.1 = encode k n → n < 2 ^ 64 → k ≠ [] ∧ (n = 0 → isTomb kv.2 = false)

def idxValOp : BOp → Bool
  | .pine _ v => !isTomb v
  | .cas _ v _ => !isTomb v
  | _ => true

/-- the batch writes no index value equal to the deletion marker (the backend writes `be8 rev` and
`be8 rev ++ [0]` there) -/
def IdxValOK (ops : List BOp) : Prop := ∀ op ∈ ops, idxValOp op = true

instance (ops : List BOp) : Decidable (IdxValOK ops) := by unfold IdxValOK; infer_instance

theorem keysWF_encodeStore {recs : List Rec} (h : SnapOK recs) : KeysWF (encodeStore recs) := by
  obtain ⟨_, _, hk, hne, hidx⟩ := h
  intro kv hkv k n e hn
  simp only [encodeStore, List.mem_map] at hkv
  obtain ⟨r, hr, rfl⟩ := hkv
  simp only at e ⊢
  obtain ⟨e1, e2⟩ := encode_inj (hk r hr).2 hn e
  subst e1; subst e2
  exact ⟨hne r hr, hidx r hr⟩

theorem keysWF_erase {s : Store} (h : KeysWF s) (ik : Bytes) : KeysWF (s.erase ik) :=
  fun kv hkv => h kv (KB.Store.mem_erase hkv)

theorem runDelete_keysWF (mask : Nat → DelOutcome) {st : CompState} (h : KeysWF st.store) (a : Act) :
    KeysWF (runDelete mask st a).store :=
  runDelete_preserves (P := KeysWF) mask a (fun _ ik h => keysWF_erase h ik) h

theorem keysWF_commitOr {q : Quirks} {R : Nat} {k : Bytes} {ops : List BOp} (hb : BatchOn R k ops)
    (hne : k ≠ []) (hv : IdxValOK ops) {s : Store} (hs : s.Sorted) (h : KeysWF s) :
    KeysWF (commitOr q s ops) := by
  obtain ⟨rev, v, new, _, hR, h64, hops⟩ := hb
  have hnew : isTomb new = false := by
    rcases hops with rfl | ⟨old, rfl⟩
    · simpa [idxValOp] using hv (.pine (idxKey k) new) (List.mem_cons_self ..)
    · simpa [idxValOp] using hv (.cas (idxKey k) new old) (List.mem_cons_self ..)
  obtain ⟨c, hc⟩ := commitOr_shape (q := q) hops
  rw [hc]
  split
  · have h1 := KB.Store.put_sorted s hs (idxKey k) new
    have h2 := KB.Store.put_sorted _ h1 (encode k rev) v
    intro kv hkv k' n e hn
    have hg := Store.get_of_mem h2 hkv
    rw [Store.get_put_any, Store.get_put_any] at hg
    by_cases e1 : kv.1 = encode k rev
    · obtain ⟨ek, en⟩ := encode_inj h64 hn (e1.symm.trans e)
      subst ek
      exact ⟨hne, fun h0 => by omega⟩
    · rw [if_neg e1] at hg
      by_cases e2 : kv.1 = idxKey k
      · rw [if_pos e2] at hg
        obtain ⟨ek, en⟩ := encode_inj (by decide) hn (e2.symm.trans e)
        subst ek
        refine ⟨hne, fun _ => ?_⟩
        injection hg with hg
        rw [← hg]; exact hnew
      · rw [if_neg e2] at hg
        exact h kv (Store.mem_of_get hg) k' n e hn
  · exact h

/-- the records of a key range of a well-formed live store are a snapshot the single-worker theorems
apply to -/
theorem snapOK_storeRecs_proj (K : Bytes → Bool) {s : Store} (hs : s.Sorted) (hg : GoodKeys s)
    (hwf : KeysWF s) : SnapOK (storeRecs (proj K s)) := by
  have hps := proj_sorted K hs
  have hpg := proj_goodKeys K hg
  have key : ∀ r ∈ storeRecs (proj K s), r.key ≠ [] ∧ (r.rev = 0 → isTomb r.val = false) := by
    intro r hr
    obtain ⟨h1, h2, h3⟩ := (mem_storeRecs hps hpg).1 hr
    have hm := (List.mem_filter.1 (Store.mem_of_get h3)).1
    exact hwf _ hm r.key r.rev h2 h1
  exact ⟨storeRecs_sorted hps hpg, storeRecs_wellKeyed hps hpg, storeRecs_bounds hpg,
    fun r hr => (key r hr).1, fun r hr => (key r hr).2⟩

end KB.Par
