/-
  The inductive invariant `InvG` of KB.ServerGen (the follower read-sync LTS with the generation-number repair,
  one atomic instruction per step), used by KB.Props.C18Gen.
-/
import KB.ServerGen
namespace KB.ServerGen
open KB.Server (LeaderBehaviour)

theorem upd_apply (f : Nat → Read) (r : Nat) (x : Read) (i : Nat) :
    upd f r x i = if i = r then x else f i := rfl

theorem forall_upd {P : Read → Prop} {f : Nat → Read} {r : Nat} {x : Read} (hf : ∀ i, P (f i)) (hx : P x)
    (i : Nat) : P (upd f r x i) := by
  rw [upd_apply]; split
  · exact hx
  · exact hf i

theorem deliver_of_not_waiting {g : Nat} {v : Option Nat} {x : Read} (h : x.phase ≠ .waiting) :
    deliver g v x = x := by
  unfold deliver
  split
  · contradiction
  · rfl

inductive Steps (s : State) : Step → State → Prop
  | leaderCommit : Steps s .leaderCommit { s with leaderRev := s.leaderRev + 1 }
  | readBegin (r : Nat) : (s.reads r).phase = .idle →
      Steps s (.readBegin r) { s with reads := upd s.reads r { phase := .begun, beginRev := s.leaderRev } }
  | arrive (r : Nat) : (s.reads r).phase = .begun →
      Steps s (.arrive r) { s with reads := upd s.reads r { s.reads r with phase := .looping, arrived := s.fetchGen } }
  | fetchStart (r : Nat) : (s.reads r).phase = .looping → s.flight = .none →
      Steps s (.fetchStart r)
        { s with flight := .registered, reads := upd s.reads r { s.reads r with phase := .waiting } }
  | genBump : s.flight = .registered →
      Steps s .genBump
        { s with flight := .pending (s.fetchGen + 1), fetchGen := s.fetchGen + 1, bumpRev := s.leaderRev }
  | fetchJoin (r : Nat) : (s.reads r).phase = .looping → s.flight ≠ .none →
      Steps s (.fetchJoin r) { s with reads := upd s.reads r { s.reads r with phase := .waiting } }
  | leaderAnswer (b : LeaderBehaviour) (g : Nat) : s.flight = .pending g →
      Steps s (.leaderAnswer b)
        { s with flight := .answered g (match b with | .ok => some s.leaderRev | _ => none) }
  | fetchReply (g : Nat) (v : Option Nat) : s.flight = .answered g v →
      Steps s .fetchReply { s with flight := .none, reads := fun i => deliver g v (s.reads i) }
  | setRev (r v : Nat) : (s.reads r).phase = .got (some v) →
      Steps s (.setRev r)
        { s with followerRev := max s.followerRev v, reads := upd s.reads r { s.reads r with phase := .synced } }
  | setRevFailed (r : Nat) : (s.reads r).phase = .got none →
      Steps s (.setRev r) { s with reads := upd s.reads r { s.reads r with phase := .failed } }
  | readServe (r : Nat) : (s.reads r).phase = .synced →
      Steps s (.readServe r) { s with reads := upd s.reads r { s.reads r with phase := .served s.followerRev } }

theorem step_steps {s s' : State} {st : Step} (h : step s st = some s') : Steps s st s' := by
  cases st <;> simp only [step] at h
  case leaderCommit => cases h; exact .leaderCommit
  all_goals split at h <;> cases h
  · exact .readBegin _ ‹_›
  · exact .arrive _ ‹_›
  · exact .fetchStart _ ‹_› ‹_›
  · exact .genBump ‹_›
  · exact .fetchJoin _ ‹_› ‹_›
  · exact .leaderAnswer _ _ ‹_›
  · exact .fetchReply _ _ ‹_›
  · exact .setRev _ _ ‹_›
  · exact .setRevFailed _ ‹_›
  · exact .readServe _ ‹_›

theorem run_induction {P : State → Prop} (hs : ∀ s s' st, P s → step s st = some s' → P s')
    {tr : List Step} {s s' : State} (hp : P s) (h : run s tr = some s') : P s' := by
  induction tr generalizing s with
  | nil => cases h; exact hp
  | cons a rest ih =>
    simp only [run] at h
    split at h
    · exact ih (hs _ _ _ hp ‹_›) h
    · cases h

theorem followerRev_mono {s s' : State} {st : Step} (h : step s st = some s') :
    s.followerRev ≤ s'.followerRev := by
  cases step_steps h with
  | setRev _ v => exact Nat.le_max_left _ v
  | _ => exact Nat.le_refl _

theorem followerRev_run_mono {tr : List Step} {s s' : State} (h : run s tr = some s') :
    s.followerRev ≤ s'.followerRev :=
  run_induction (P := fun t => s.followerRev ≤ t.followerRev)
    (fun _ _ _ hp hst => Nat.le_trans hp (followerRev_mono hst)) (Nat.le_refl _) h

/-- `key`: if the generation moved after a reader loaded it, the increment happened after that reader began (so
the GET, sent after the increment, is answered with a revision ≥ the reader's begin revision). -/
structure InvG (s : State) : Prop where
  bump_le : s.bumpRev ≤ s.leaderRev
  pending_gen : ∀ g, s.flight = .pending g → g = s.fetchGen
  answered_gen : ∀ g v, s.flight = .answered g v → g = s.fetchGen
  answered : ∀ g v, s.flight = .answered g (some v) → s.bumpRev ≤ v ∧ v ≤ s.leaderRev
  begin_le : ∀ r, (s.reads r).phase ≠ .idle → (s.reads r).beginRev ≤ s.leaderRev
  arrived_le : ∀ r, ((s.reads r).phase = .looping ∨ (s.reads r).phase = .waiting) →
    (s.reads r).arrived ≤ s.fetchGen
  key : ∀ r, ((s.reads r).phase = .looping ∨ (s.reads r).phase = .waiting) →
    (s.reads r).arrived < s.fetchGen → (s.reads r).beginRev ≤ s.bumpRev
  got : ∀ r v, (s.reads r).phase = .got (some v) → (s.reads r).beginRev ≤ v
  synced : ∀ r, (s.reads r).phase = .synced → (s.reads r).beginRev ≤ s.followerRev
  fresh : Fresh s

theorem invG_init (n g : Nat) : InvG (init n g) := by
  constructor <;> simp [init, Fresh]

/-- The fields of `InvG` that speak of reads speak of one read at a time; with `pointwise` this turns the
preservation of the invariant by a step into statements about a single, explicit `Read`. -/
theorem InvG.at {s : State} (hi : InvG s) (r : Nat) : InvG { s with reads := fun _ => s.reads r } :=
  { hi with
    begin_le := fun _ => hi.begin_le r, arrived_le := fun _ => hi.arrived_le r, key := fun _ => hi.key r
    got := fun _ => hi.got r, synced := fun _ => hi.synced r, fresh := fun _ => hi.fresh r }

theorem InvG.pointwise {s : State} (hi : ∀ r, InvG { s with reads := fun _ => s.reads r }) : InvG s :=
  { hi 0 with
    begin_le := fun r => (hi r).begin_le r, arrived_le := fun r => (hi r).arrived_le r
    key := fun r => (hi r).key r, got := fun r => (hi r).got r, synced := fun r => (hi r).synced r
    fresh := fun r => (hi r).fresh r }

theorem InvG.setRead {s : State} {r : Nat} {x : Read} (hi : InvG s)
    (hx : InvG { s with reads := fun _ => x }) : InvG { s with reads := upd s.reads r x } :=
  .pointwise (forall_upd (P := fun y => InvG { s with reads := fun _ => y }) hi.at hx)

/-- A read enters `flight.Do`, as owner or as waiter. -/
theorem InvG.startWaiting {s : State} {r : Nat} (hi : InvG s) (hph : (s.reads r).phase = .looping) :
    InvG { s with reads := upd s.reads r { s.reads r with phase := .waiting } } := by
  refine hi.setRead ⟨hi.1, hi.2, hi.3, hi.4, ?_, ?_, ?key, ?_, ?_, ?_⟩ <;>
    simp [Fresh, hph, hi.begin_le r, hi.arrived_le r]
  case key => exact hi.key r (.inl hph)

theorem invG_step {s s' : State} {st : Step} (h : step s st = some s') (hi : InvG s) : InvG s' := by
  cases step_steps h with
  | leaderCommit =>
    exact { hi with
      bump_le := Nat.le_succ_of_le hi.bump_le
      answered := fun g v hf => ⟨(hi.answered g v hf).1, Nat.le_succ_of_le (hi.answered g v hf).2⟩
      begin_le := fun r hr => Nat.le_succ_of_le (hi.begin_le r hr) }
  | readBegin r => refine hi.setRead ⟨hi.1, hi.2, hi.3, hi.4, ?_, ?_, ?_, ?_, ?_, ?_⟩ <;> simp [Fresh]
  | arrive r hph | setRevFailed r hph =>
    refine hi.setRead ⟨hi.1, hi.2, hi.3, hi.4, ?_, ?_, ?_, ?_, ?_, ?_⟩ <;> simp [Fresh, hph, hi.begin_le r]
  | fetchStart r hph =>
    have hi' : InvG { s with flight := .registered } :=
      { hi with pending_gen := nofun, answered_gen := nofun, answered := nofun }
    exact hi'.startWaiting hph
  | genBump =>
    -- the generation moves now: every reader that has loaded it began before now
    exact { hi with
      bump_le := Nat.le_refl _
      pending_gen := fun g hf => (Flight.pending.inj hf).symm
      answered_gen := nofun
      answered := nofun
      arrived_le := fun r hr => Nat.le_succ_of_le (hi.arrived_le r hr)
      key := fun r hr _ => hi.begin_le r fun h => by rcases hr with hr | hr <;> cases hr.symm.trans h }
  | fetchJoin r hph => exact hi.startWaiting hph
  | leaderAnswer b g hfl =>
    refine { hi with pending_gen := nofun, answered_gen := fun g' _ hf => ?_, answered := fun g' v hf => ?_ }
    · cases hf; exact hi.pending_gen g hfl
    · cases b <;> cases hf
      exact ⟨hi.bump_le, Nat.le_refl _⟩
  | fetchReply g w hfl =>
    refine .pointwise fun i => ?_
    have hi' : InvG { s with flight := .none } :=
      { hi with pending_gen := nofun, answered_gen := nofun, answered := nofun }
    show InvG { s with flight := .none, reads := fun _ => deliver g w (s.reads i) }
    by_cases hw : (s.reads i).phase = .waiting
    · simp only [deliver, hw]
      split
      · refine ⟨hi'.1, hi'.2, hi'.3, hi'.4, ?_, ?_, ?_, ?got, ?_, ?_⟩ <;> simp [Fresh, hw, hi.begin_le i]
        case got =>
          -- accepted: the fetch was numbered after this reader loaded the generation
          rintro v rfl
          exact Nat.le_trans (hi.key i (.inr hw) (hi.answered_gen g _ hfl ▸ ‹_ < g›)) (hi.answered g v hfl).1
      · refine ⟨hi'.1, hi'.2, hi'.3, hi'.4, ?_, ?_, ?key, ?_, ?_, ?_⟩ <;>
          simp [Fresh, hw, hi.begin_le i, hi.arrived_le i]
        case key => exact hi.key i (.inr hw)
    · rw [deliver_of_not_waiting hw]
      exact hi'.at i
  | setRev r v hph =>
    have hi' : InvG { s with followerRev := max s.followerRev v } :=
      { hi with synced := fun i hi' => Nat.le_trans (hi.synced i hi') (Nat.le_max_left _ _) }
    refine hi'.setRead ⟨hi.1, hi.2, hi.3, hi.4, ?_, ?_, ?_, ?_, ?synced, ?_⟩ <;> simp [Fresh, hph, hi.begin_le r]
    case synced => exact Nat.le_trans (hi.got r v hph) (Nat.le_max_right _ _)
  | readServe r hph =>
    refine hi.setRead ⟨hi.1, hi.2, hi.3, hi.4, ?_, ?_, ?_, ?_, ?_, ?fresh⟩ <;> simp [Fresh, hph, hi.begin_le r]
    case fresh => exact hi.synced r hph

theorem inv_reachable : ∀ s, Reachable s → InvG s :=
  fun _ ⟨n, g, _, hr⟩ => run_induction (fun _ _ _ hp h => invG_step h hp) (invG_init n g) hr

end KB.ServerGen
