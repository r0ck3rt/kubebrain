/- Lemmas for the shaping laws of C16 (`KB.Etcd.shapeTxn` as a function of the backend's answer):
what the sequential backend model answers in its failure branches (header ≥ revision of the key-value it
carries), and the reference's post-state on the transactions the laws are compared with. -/
import KB.Lemmas.Etcd
namespace KB.Etcd

/-! ### the failure answers of the backend model: the header is not below the key-value's revision -/

def KvLeHdr (r : WriteRes) : Prop := ∀ hdr kv, r = .condFailed hdr (some kv) → kv.2.2 ≤ hdr

theorem kvLeHdr_error (e : Err) : KvLeHdr (.error e) := fun _ _ h => by cases h

/-- the re-read after a failed condition; the `max` is `maxUint64(resp.Header.Revision, modRevision)` in txn.go -/
theorem kvLeHdr_reread {c : Cfg} {st : Store} {k : Bytes} {rev : Nat} {alt : Option KV} {s : BState}
    (halt : ∀ x, alt = some x → x.2.2 ≤ rev) :
    KvLeHdr (match bget c st k 0 with
      | .found v m => (WriteRes.condFailed (max rev m) (some (k, v, m)), s)
      | .notFound _ => (WriteRes.condFailed rev alt, s)).1 := by
  intro hdr kv h
  cases hb : bget c st k 0 <;> rw [hb] at h <;> cases h
  · exact Nat.le_max_right _ _
  · exact halt _ rfl

theorem kvLeHdr_commit {r : CommitRes} {rev : Nat} {s : BState} {x : WriteRes × BState} (hx : KvLeHdr x.1) :
    KvLeHdr (match r with
      | .ok => (WriteRes.ok rev, s)
      | .conflict _ _ => x
      | r => (.error (commitErr r), s)).1 := by
  cases r with
  | conflict => exact hx
  | _ => intro _ _ h; cases h

theorem doCreate_failed_kv (c : Cfg) (s : BState) (k v : Bytes) (fs : List Fault) (hdr : Nat) (kv : KV)
    (h : (doCreate c s k v fs).1 = .condFailed hdr (some kv)) : kv.2.2 ≤ hdr := by
  unfold doCreate at h
  simp only at h
  split at h <;> simp at h

theorem doUpdate_failed_kv (c : Cfg) (s : BState) (k v : Bytes) (exp : Nat) (fs : List Fault) (hdr : Nat) (kv : KV)
    (h : (doUpdate c s k v exp fs).1 = .condFailed hdr (some kv)) : kv.2.2 ≤ hdr := by
  revert hdr kv
  show KvLeHdr (doUpdate c s k v exp fs).1
  have hn : ∀ x : KV, (none : Option KV) = some x → x.2.2 ≤ s.dealt + 1 := fun _ hx => by cases hx
  unfold doUpdate
  simp only
  by_cases h0 : (exp == 0) = true
  · rw [if_pos h0]
    generalize creatorCreate c _ k v _ fs = cc
    obtain ⟨r, st, fs'⟩ := cc
    exact kvLeHdr_commit (kvLeHdr_reread hn)
  · rw [if_neg h0]
    by_cases h1 : s.dealt + 1 ≤ exp
    · rw [if_pos h1]; exact kvLeHdr_error _
    · rw [if_neg h1]
      generalize doCommit c _ _ (nextFault fs).1 = cc
      obtain ⟨r, st⟩ := cc
      exact kvLeHdr_commit (kvLeHdr_reread hn)

theorem doDelete_failed_kv (c : Cfg) (s : BState) (k : Bytes) (exp : Nat) (fs : List Fault) (hdr : Nat) (kv : KV)
    (h : (doDelete c s k exp fs).1 = .condFailed hdr (some kv)) : kv.2.2 ≤ hdr := by
  revert hdr kv
  show KvLeHdr (doDelete c s k exp fs).1
  unfold doDelete
  cases hb : bget c s.store k 0 with
  | notFound m => intro _ _ h; cases h
  | found oldVal modRev =>
    simp only
    by_cases h1 : (decide (exp > 0) && decide (s.dealt + 1 ≤ exp)) = true
    · rw [if_pos h1]; exact kvLeHdr_error _
    · rw [if_neg h1]
      by_cases h2 : (decide (exp > 0) && exp != modRev) = true
      · -- stale expectation: the re-read sees the same store, so the key is still found
        rw [if_pos h2, sequence_store, hb]
        intro _ _ h; cases h; exact Nat.le_max_right _ _
      · rw [if_neg h2]
        by_cases h3 : s.dealt + 1 ≤ modRev
        · rw [if_pos h3]; exact kvLeHdr_error _
        · rw [if_neg h3]
          generalize doCommit c _ _ (nextFault fs).1 = cc
          obtain ⟨r, st⟩ := cc
          exact kvLeHdr_commit (kvLeHdr_reread (fun x hx => by cases hx; simp only; omega))

theorem ansOfWrite_failed {old : Option KV} {r : WriteRes} {hdr : Nat} {kv : KV}
    (h : ansOfWrite old r = .resp false hdr (some kv)) : r = .condFailed hdr (some kv) := by
  cases r <;> cases h
  rfl

theorem runCall_failed_kv (c : Cfg) (s : BState) (call : BCall) (hdr : Nat) (kv : KV)
    (h : (runCall c s call).1 = .resp false hdr (some kv)) : kv.2.2 ≤ hdr := by
  unfold runCall at h
  split at h
  · -- a call without a value: refused with an error
    cases h
  · cases call with
    | create key val lease => exact doCreate_failed_kv c s key val [] _ _ (ansOfWrite_failed h)
    | delete key rev => exact doDelete_failed_kv c s key rev [] _ _ (ansOfWrite_failed h)
    | update key val rev lease => exact doUpdate_failed_kv c s key val rev [] _ _ (ansOfWrite_failed h)

/-! ### what an answered transaction's response can look like -/

theorem shapeTxn_ok_inv {sh : Shape} {a : BAns} {r : TxnResp} (h : shapeTxn sh a = .ok r) :
    r = compactResp ∨ ∃ ok hdr kv, a = .resp ok hdr kv ∧ r.hdr = hdr ∧ (r.ok = false → ok = false) ∧
      (r.resps = [.put hdr] ∨ r.resps = [.range hdr kv.toList 0 false]) := by
  cases sh with
  | create p =>
    simp only [shapeTxn] at h
    split at h
    · cases h
    · cases a with
      | error e => cases h
      | resp ok hdr kv => cases h; exact .inr ⟨_, _, _, rfl, rfl, id, .inl rfl⟩
  | delete rev key g =>
    cases a with
    | error e => cases g <;> cases h
    | resp ok hdr kv =>
      cases g with
      | true => cases h; exact .inr ⟨_, _, _, rfl, rfl, id, .inr rfl⟩
      | false =>
        -- `unguardedFlag` touches nothing but the flag (raised for the missing-key answer)
        cases h
        refine .inr ⟨_, _, _, rfl, ?_, ?_, .inr ?_⟩
        · cases ok <;> cases kv <;> rfl
        · cases ok
          · exact fun _ => rfl
          · exact id
        · cases ok <;> cases kv <;> rfl
  | update rev key val l =>
    cases a with
    | error e => cases h
    | resp ok hdr kv =>
      cases ok with
      | true => cases h; exact .inr ⟨_, _, _, rfl, rfl, id, .inl rfl⟩
      | false => cases h; exact .inr ⟨_, _, _, rfl, rfl, id, .inr rfl⟩
  | compact => cases h; exact .inl rfl
  | unsupported => cases h

theorem shimTxn_answer (c : Cfg) (s : BState) (t : TxnReq) :
    ∃ a, (shimTxn c s t).1 = shapeTxn (classify t) a ∧ ∀ hdr kv, a = .resp false hdr (some kv) → kv.2.2 ≤ hdr := by
  cases hc : backendCall (classify t) with
  | none => exact ⟨.error .other, by rw [shimTxn_of_no_call hc], nofun⟩
  | some call => exact ⟨_, by rw [shimTxn_of_call hc], runCall_failed_kv c s call⟩

/-! ### the reference on the linearisation "the concurrent writer came first" -/

theorem ref_gdelete_stale_state (m : Mvcc) (k : Bytes) (e : KVFull) (exp : Nat) (hk : k ≠ [])
    (hn : m.kvs.Pairwise (fun a b => a.key ≠ b.key)) (hget : m.get k = some e) (hne : exp ≠ e.mod) :
    refTxn m { compare := [{ key := k, int := exp }], success := [.del { key := k }], failure := [.range { key := k }] } =
      .ok ({ ok := false, hdr := m.rev, resps := [.range m.rev [e.proj] 1 false], wrote := false }, m) := by
  have hc : ModCmp ({ key := k, int := exp } : Compare) k exp := ⟨rfl, rfl, rfl, rfl, rfl⟩
  have hg : PlainGet ({ key := k } : RangeReq) k := ⟨rfl, rfl, rfl, rfl, rfl, rfl, rfl, rfl, rfl⟩
  have h0 : ¬ ((e.mod : Int) = (exp : Int)) := by omega
  rw [refTxn_of_valid m _ (by simpa using hk) (allValid_del hk) (allValid_range hk)]
  simp [evalCompare_mod m _ k exp hc hn, hget, h0, refApplyOps, refApplyOp_get _ m hg hn, Except.map]

theorem ref_udelete_deletes (m : Mvcc) (k : Bytes) (e : KVFull) (hk : k ≠ [])
    (hn : m.kvs.Pairwise (fun a b => a.key ≠ b.key)) (hget : m.get k = some e) :
    ∃ r m', refTxn m { compare := [], success := [.range { key := k }, .del { key := k }], failure := [] } = .ok (r, m') ∧
      r.ok = true ∧ r.wrote = true ∧ r.hdr = m.rev + 1 ∧ m'.get k = none := by
  have hg : PlainGet ({ key := k } : RangeReq) k := ⟨rfl, rfl, rfl, rfl, rfl, rfl, rfl, rfl, rfl⟩
  have hv : allValid [.range { key := k }, .del { key := k }] = .ok () := by simp [allValid, opValid, hk]
  refine ⟨{ ok := true, hdr := m.rev + 1, resps := [.range m.rev [e.proj] 1 false, .del (m.rev + 1) 1], wrote := true },
    { rev := m.rev + 1, kvs := m.kvs.filter (fun x => !inInterval k [] x.key) }, ?_, rfl, rfl, rfl, ?_⟩
  · rw [refTxn_of_valid m _ (by simp) hv rfl]
    simp [refApplyOps, refApplyOp_get _ m hg hn, refApplyOp_del (d := { key := k }) _ m rfl hn, hget, Except.map]
  · simp [Mvcc.get, inInterval]

end KB.Etcd
