/-
  The atomic-instruction LTS of the revision allocator (KB.TsoCas): where the values a thread holds come from
  (`arrives`), the per-thread invariant `WF`, solo runs of a call, and the potential argument that bounds the
  failed compare-and-swaps of one call by the changes other threads make to the register.
-/
import KB.TsoCas
namespace KB.TsoCas

theorem run_nil (s : State) : run s [] = s := rfl
theorem run_cons (s : State) (t : Nat) (p : List Nat) : run s (t :: p) = run (step s t) p := rfl
theorem run_append (s : State) (p q : List Nat) : run s (p ++ q) = run (run s p) q :=
  List.foldl_append

theorem run_induction {P : State → Prop} (hstep : ∀ s t, P s → P (step s t)) {s : State} (h : P s)
    (p : List Nat) : P (run s p) := by
  induction p generalizing s with
  | nil => exact h
  | cons t p ih => exact ih (hstep s t h)

def State.exec (s : State) (t : Nat) (pc : Pc) : State :=
  let o := stepPc s.window s.committed s.deal pc
  { window := s.window, committed := o.1, deal := o.2.1, threads := s.threads.set t o.2.2 }

theorem step_none {s : State} {t : Nat} (h : s.threads[t]? = none) : step s t = s := by
  simp only [step, h]

theorem step_some {s : State} {t : Nat} {pc : Pc} (h : s.threads[t]? = some pc) : step s t = s.exec t pc := by
  simp only [step, h, State.exec]

theorem step_cases {P : State → Prop} (s : State) (t : Nat) (h0 : P s)
    (h1 : ∀ pc, s.threads[t]? = some pc → P (s.exec t pc)) : P (step s t) := by
  cases h : s.threads[t]? with
  | none => rw [step_none h]; exact h0
  | some pc => rw [step_some h]; exact h1 pc h

theorem step_window (s : State) (t : Nat) : (step s t).window = s.window :=
  step_cases (P := fun s' => s'.window = s.window) s t rfl fun _ _ => rfl

theorem step_length (s : State) (t : Nat) : (step s t).threads.length = s.threads.length :=
  step_cases (P := fun s' => s'.threads.length = s.threads.length) s t rfl fun _ _ => List.length_set

theorem step_threads_ne (s : State) {t j : Nat} (hne : j ≠ t) : (step s t).threads[j]? = s.threads[j]? :=
  step_cases (P := fun s' => s'.threads[j]? = s.threads[j]?) s t rfl fun _ _ => List.getElem?_set_ne (Ne.symm hne)

theorem step_threads_self {s : State} {t : Nat} {pc : Pc} (h : s.threads[t]? = some pc) :
    (step s t).threads[t]? = some (stepPc s.window s.committed s.deal pc).2.2 := by
  rw [step_some h]
  exact List.getElem?_set_self (List.getElem?_eq_some_iff.mp h).1

theorem step_regs {s : State} {t : Nat} {pc : Pc} (h : s.threads[t]? = some pc) :
    (step s t).committed = (stepPc s.window s.committed s.deal pc).1 ∧
    (step s t).deal = (stepPc s.window s.committed s.deal pc).2.1 := by
  rw [step_some h]
  exact ⟨rfl, rfl⟩

theorem run_window (s : State) (p : List Nat) : (run s p).window = s.window :=
  run_induction (P := fun s' => s'.window = s.window) (fun s' t h => (step_window s' t).trans h) rfl p

theorem run_length (s : State) (p : List Nat) : (run s p).threads.length = s.threads.length :=
  run_induction (P := fun s' => s'.threads.length = s.threads.length) (fun s' t h => (step_length s' t).trans h) rfl p

/-- With `rfl` for `hx` and `x := stepPc W c d pc`: the outcomes of the compare-and-swap instructions (`dealCas`,
`casC`, `casD`, `midCasC`): nothing to do (or refused), success, failure. -/
theorem ite_outcomes {α : Type} (x : α) {a b c : α} {p q : Prop} [Decidable p] [Decidable q]
    (hx : x = if p then a else if q then b else c) : p ∧ x = a ∨ ¬ p ∧ q ∧ x = b ∨ ¬ p ∧ ¬ q ∧ x = c := by
  by_cases hp : p
  · exact .inl ⟨hp, hx.trans (if_pos hp)⟩
  · rw [if_neg hp] at hx
    by_cases hq : q
    · exact .inr (.inl ⟨hp, hq, hx.trans (if_pos hq)⟩)
    · exact .inr (.inr ⟨hp, hq, hx.trans (if_neg hq)⟩)

/-! ## finished threads -/

def Pc.done : Pc → Bool
  | .dealDone _ | .dealRefused _ _ | .getDone _ | .commitDone _ | .oldDone _ => true
  | _ => false

theorem stepPc_done {pc : Pc} (h : pc.done = true) (W c d : Nat) : stepPc W c d pc = (c, d, pc) := by
  cases pc with
  | dealDone | dealRefused | getDone | commitDone | oldDone => rfl
  | _ => cases h

theorem step_done {s : State} {t : Nat} {pc : Pc} (h : s.threads[t]? = some pc) (hd : pc.done = true) :
    step s t = s := by
  obtain ⟨hlt, rfl⟩ := List.getElem?_eq_some_iff.mp h
  rw [step_some h, State.exec, stepPc_done hd, List.set_getElem_self hlt]

theorem done_stable {s : State} {t : Nat} {pc : Pc} (h : s.threads[t]? = some pc) (hd : pc.done = true)
    (p : List Nat) : (run s p).threads[t]? = some pc := by
  refine run_induction (P := fun s' => s'.threads[t]? = some pc) (fun s' i h' => ?_) h p
  by_cases hi : i = t
  · rw [hi, step_done h' hd]; exact h'
  · rw [step_threads_ne s' (Ne.symm hi)]; exact h'

/-! ## monotone registers -/

theorem stepPc_mono (W c d : Nat) (pc : Pc) :
    d ≤ (stepPc W c d pc).2.1 ∧ ((∀ r, pc ≠ .oldStoreC r) → c ≤ (stepPc W c d pc).1) := by
  have same (pc' : Pc) : d ≤ (c, d, pc').2.1 ∧ ((∀ r, pc ≠ .oldStoreC r) → c ≤ (c, d, pc').1) :=
    ⟨Nat.le_refl d, fun _ => Nat.le_refl c⟩
  cases pc with
  | dealCas dealt c0 =>
    rcases ite_outcomes (stepPc W c d (.dealCas dealt c0)) rfl with ⟨_, e⟩ | ⟨_, h, e⟩ | ⟨_, _, e⟩ <;> rw [e]
    · exact same _
    · exact ⟨h ▸ Nat.le_succ d, fun _ => Nat.le_refl c⟩
    · exact same _
  | casC r cur =>
    rcases ite_outcomes (stepPc W c d (.casC r cur)) rfl with ⟨_, e⟩ | ⟨h, h', e⟩ | ⟨_, _, e⟩ <;> rw [e]
    · exact same _
    · exact ⟨Nat.le_refl d, fun _ => h' ▸ Nat.le_of_not_le h⟩
    · exact same _
  | midCasC r cur =>
    rcases ite_outcomes (stepPc W c d (.midCasC r cur)) rfl with ⟨_, e⟩ | ⟨h, h', e⟩ | ⟨_, _, e⟩ <;> rw [e]
    · exact same _
    · exact ⟨Nat.le_refl d, fun _ => h' ▸ Nat.le_of_not_le h⟩
    · exact same _
  | casD r cur =>
    rcases ite_outcomes (stepPc W c d (.casD r cur)) rfl with ⟨_, e⟩ | ⟨h, h', e⟩ | ⟨_, _, e⟩ <;> rw [e]
    · exact same _
    · exact ⟨h' ▸ Nat.le_of_not_le h, fun _ => Nat.le_refl c⟩
    · exact same _
  | oldCasD r cur =>
    dsimp only [stepPc]
    split
    · next h => exact ⟨h.2 ▸ Nat.le_of_lt h.1, fun _ => Nat.le_refl c⟩
    · exact same _
  | dealAddOld => exact ⟨Nat.le_succ d, fun _ => Nat.le_refl c⟩
  | oldStoreC r => exact ⟨Nat.le_refl d, fun h => absurd rfl (h r)⟩
  | _ => exact same _

theorem step_deal_mono (s : State) (t : Nat) : s.deal ≤ (step s t).deal :=
  step_cases (P := fun s' => s.deal ≤ s'.deal) s t (Nat.le_refl _) fun _ _ => (stepPc_mono ..).1

theorem run_deal_mono (s : State) (p : List Nat) : s.deal ≤ (run s p).deal :=
  run_induction (P := fun s' => s.deal ≤ s'.deal) (fun s' t h => Nat.le_trans h (step_deal_mono s' t)) (Nat.le_refl _) p

/-- `arrives c d pc pc'`: what an instruction at `pc` on registers `c d` that leaves the thread at `pc'` must have
been. -/
def arrives (c d : Nat) (pc : Pc) : Pc → Prop
  | .dealLoadC x => pc = .dealLoadD ∧ x = d
  | .dealCas x y => pc = .dealLoadC x ∧ y = c
  | .casC r cur => pc = .loadC r ∧ cur = c
  | .casD r cur => pc = .loadD r ∧ cur = d
  | .dealDone v => v = d + 1 ∨ pc = .dealDone v
  | .getDone v => v = c ∨ pc = .getDone v
  | .oldStoreC _ => False
  | _ => True

theorem stepPc_arrives (W c d : Nat) (pc : Pc) : arrives c d pc (stepPc W c d pc).2.2 := by
  cases pc with
  | dealCas dealt c0 =>
    rcases ite_outcomes (stepPc W c d (.dealCas dealt c0)) rfl with ⟨_, e⟩ | ⟨_, h, e⟩ | ⟨_, _, e⟩ <;> rw [e]
    · trivial
    · exact .inl (h ▸ rfl)
    · trivial
  | casC r cur =>
    rcases ite_outcomes (stepPc W c d (.casC r cur)) rfl with ⟨_, e⟩ | ⟨_, _, e⟩ | ⟨_, _, e⟩ <;> rw [e] <;> trivial
  | midCasC r cur =>
    rcases ite_outcomes (stepPc W c d (.midCasC r cur)) rfl with ⟨_, e⟩ | ⟨_, _, e⟩ | ⟨_, _, e⟩ <;> rw [e] <;> trivial
  | casD r cur =>
    rcases ite_outcomes (stepPc W c d (.casD r cur)) rfl with ⟨_, e⟩ | ⟨_, _, e⟩ | ⟨_, _, e⟩ <;> rw [e] <;> trivial
  | oldCasD r cur =>
    dsimp only [stepPc]
    split <;> trivial
  | dealLoadD | dealLoadC | loadC | loadD => exact ⟨rfl, rfl⟩
  | dealAddOld | getLoad => exact .inl rfl
  | dealDone | getDone => exact .inr rfl
  | _ => trivial

theorem step_arrives {s : State} {t : Nat} {pc' : Pc} (h : (step s t).threads[t]? = some pc') :
    ∃ pc, s.threads[t]? = some pc ∧ arrives s.committed s.deal pc pc' := by
  cases hs : s.threads[t]? with
  | none => rw [step_none hs, hs] at h; cases h
  | some pc =>
    rw [step_threads_self hs] at h
    cases h
    exact ⟨pc, rfl, stepPc_arrives ..⟩

def NoPlainStore (s : State) : Prop := ∀ (i r : Nat), s.threads[i]? ≠ some (Pc.oldStoreC r)

theorem noPlainStore_step {s : State} (h : NoPlainStore s) (t : Nat) : NoPlainStore (step s t) := by
  intro i r hi
  by_cases hit : i = t
  · obtain ⟨_, _, hf⟩ := step_arrives (hit ▸ hi)
    exact hf
  · exact h i r (step_threads_ne s hit ▸ hi)

theorem noPlainStore_run {s : State} (h : NoPlainStore s) (p : List Nat) : NoPlainStore (run s p) :=
  run_induction (P := NoPlainStore) (fun _ t h => noPlainStore_step h t) h p

theorem step_committed_mono {s : State} (h : NoPlainStore s) (t : Nat) : s.committed ≤ (step s t).committed :=
  step_cases (P := fun s' => s.committed ≤ s'.committed) s t (Nat.le_refl _)
    fun _ hs => (stepPc_mono ..).2 fun r hr => h t r (hr ▸ hs)

theorem run_committed_mono {s : State} (h : NoPlainStore s) (p : List Nat) : s.committed ≤ (run s p).committed :=
  (run_induction (P := fun s' => NoPlainStore s' ∧ s.committed ≤ s'.committed)
    (fun _ t h => ⟨noPlainStore_step h.1 t, Nat.le_trans h.2 (step_committed_mono h.1 t)⟩) ⟨h, Nat.le_refl _⟩ p).2

/-! ## the invariant -/

/-- What a thread at `pc` knows about the registers `c d` (window `W`). A returned Deal result is inside the window
of the CURRENT committed revision. -/
def Local (W c d : Nat) : Pc → Prop
  | .dealLoadD | .getLoad | .loadC _ => True
  | .dealLoadC dealt => dealt ≤ d
  | .dealCas dealt c0 => dealt ≤ d ∧ c0 ≤ c
  | .dealDone v => 1 ≤ v ∧ v ≤ d ∧ v ≤ c + (W - 1)
  | .dealRefused dealt c0 => dealt ≤ d ∧ c0 ≤ c ∧ c0 ≤ dealt ∧ W ≤ dealt + 1 - c0
  | .getDone v => v ≤ c
  | .casC _ cur => cur ≤ c
  | .loadD r => r ≤ c
  | .casD r cur => r ≤ c ∧ cur ≤ d
  | .commitDone r => r ≤ c ∧ r ≤ d
  | .dealAddOld | .oldStoreC _ | .midLoadC _ | .midCasC _ _ | .oldLoadD _ | .oldCasD _ _ | .oldDone _ => False

def DistinctDeals (ts : List Pc) : Prop :=
  ∀ (i j v : Nat), ts[i]? = some (Pc.dealDone v) → ts[j]? = some (Pc.dealDone v) → i = j

/-- Current routines only: `Local` is `False` at the instructions of the old ones. -/
structure WF (s : State) : Prop where
  loc : ∀ (i : Nat) (pc : Pc), s.threads[i]? = some pc → Local s.window s.committed s.deal pc
  distinct : DistinctDeals s.threads

theorem Local_mono {W c d c' d' : Nat} {pc : Pc} (h : Local W c d pc) (hc : c ≤ c') (hd : d ≤ d') : Local W c' d' pc := by
  cases pc <;> dsimp only [Local] at h ⊢ <;> omega

/-- The cursor stays inside the window: `deal` is raised by a Deal whose check passed against a committed value it
loaded, or by a Commit to a revision `committed` has reached already. -/
theorem stepPc_local {W c d : Nat} {pc : Pc} (h : Local W c d pc) :
    Local W (stepPc W c d pc).1 (stepPc W c d pc).2.1 (stepPc W c d pc).2.2 ∧
    (d ≤ c + (W - 1) → (stepPc W c d pc).2.1 ≤ (stepPc W c d pc).1 + (W - 1)) := by
  cases pc with
  | dealCas dealt c0 =>
    obtain ⟨h1, h2⟩ := h
    rcases ite_outcomes (stepPc W c d (.dealCas dealt c0)) rfl with ⟨hf, e⟩ | ⟨hf, hd, e⟩ | ⟨_, _, e⟩ <;> rw [e]
    · exact ⟨⟨h1, h2, hf⟩, id⟩
    · have hv : dealt + 1 ≤ c + (W - 1) := by omega
      exact ⟨⟨Nat.succ_pos _, Nat.le_refl _, hv⟩, fun _ => hv⟩
    · exact ⟨trivial, id⟩
  | casC r cur =>
    rcases ite_outcomes (stepPc W c d (.casC r cur)) rfl with ⟨hr, e⟩ | ⟨hr, hc, e⟩ | ⟨_, _, e⟩ <;> rw [e]
    · exact ⟨Nat.le_trans hr h, id⟩
    · exact ⟨Nat.le_refl r, fun hw => show d ≤ r + (W - 1) by omega⟩
    · exact ⟨trivial, id⟩
  | casD r cur =>
    rcases ite_outcomes (stepPc W c d (.casD r cur)) rfl with ⟨hr, e⟩ | ⟨_, _, e⟩ | ⟨_, _, e⟩ <;> rw [e]
    · exact ⟨⟨h.1, Nat.le_trans hr h.2⟩, id⟩
    · exact ⟨⟨h.1, Nat.le_refl r⟩, fun _ => Nat.le_trans h.1 (Nat.le_add_right ..)⟩
    · exact ⟨h.1, id⟩
  | dealLoadD => exact ⟨Nat.le_refl d, id⟩
  | dealLoadC => exact ⟨⟨h, Nat.le_refl c⟩, id⟩
  | getLoad | loadC => exact ⟨Nat.le_refl c, id⟩
  | loadD => exact ⟨⟨h, Nat.le_refl d⟩, id⟩
  | dealDone | dealRefused | getDone | commitDone => exact ⟨h, id⟩
  | _ => exact h.elim

theorem wf_not_old {s : State} (h : WF s) {i : Nat} {pc : Pc} (hi : s.threads[i]? = some pc) : pc.current = true := by
  have := h.loc i pc hi
  cases pc <;> first | rfl | exact this.elim

theorem wf_noPlainStore {s : State} (h : WF s) : NoPlainStore s :=
  fun i _ hi => h.loc i _ hi

theorem step_dealDone {s : State} {t i v : Nat} (h : (step s t).threads[i]? = some (.dealDone v)) :
    s.threads[i]? = some (.dealDone v) ∨ i = t ∧ v = s.deal + 1 := by
  by_cases hit : i = t
  · obtain ⟨pc, hs, hv | hpc⟩ := step_arrives (hit ▸ h)
    · exact .inr ⟨hit, hv⟩
    · exact .inl (hit ▸ hpc ▸ hs)
  · exact .inl (step_threads_ne s hit ▸ h)

theorem wf_step {s : State} (h : WF s) (t : Nat) : WF (step s t) where
  loc i pc' hi := by
    have hn := wf_noPlainStore h
    by_cases hit : i = t
    · subst hit
      obtain ⟨pc, hs, -⟩ := step_arrives hi
      rw [step_threads_self hs] at hi
      cases hi
      rw [step_some hs]
      exact (stepPc_local (h.loc i pc hs)).1
    · rw [step_window]
      exact Local_mono (h.loc i pc' (step_threads_ne s hit ▸ hi)) (step_committed_mono hn t) (step_deal_mono s t)
  distinct i j v hi hj := by
    -- a fresh result is deal+1, above every result returned so far
    rcases step_dealDone hi with hi' | ⟨hit, hv⟩ <;> rcases step_dealDone hj with hj' | ⟨hjt, _⟩
    · exact h.distinct i j v hi' hj'
    · have := (h.loc i _ hi').2.1; omega
    · have := (h.loc j _ hj').2.1; omega
    · rw [hit, hjt]

theorem wf_run {s : State} (h : WF s) (p : List Nat) : WF (run s p) :=
  run_induction (P := WF) (fun _ t h => wf_step h t) h p

theorem wf_at {s : State} (h : WF s) (p : List Nat) {t : Nat} {pc : Pc} (ht : (run s p).threads[t]? = some pc) :
    Local s.window (run s p).committed (run s p).deal pc := by
  have := (wf_run h p).loc t pc ht
  rwa [run_window] at this

theorem wf_later {s : State} (h : WF s) (p q : List Nat) {t : Nat} {pc : Pc} (ht : (run s p).threads[t]? = some pc)
    (hd : pc.done = true) : Local s.window (run s (p ++ q)).committed (run s (p ++ q)).deal pc :=
  wf_at h (p ++ q) (run_append s p q ▸ done_stable ht hd q)

theorem wf_init (W c d : Nat) (calls : List Call) : WF (init W c d calls) := by
  have entry {i : Nat} {pc : Pc} (hi : (init W c d calls).threads[i]? = some pc) : ∃ call : Call, call.entry = pc := by
    rw [init, List.getElem?_map, Option.map_eq_some_iff] at hi
    exact hi.imp fun _ h => h.2
  constructor
  · intro i pc hi
    obtain ⟨call, rfl⟩ := entry hi
    cases call <;> trivial
  · intro i j v hi _
    obtain ⟨call, hc⟩ := entry hi
    cases call <;> cases hc

theorem run_cursor_window {s : State} (h : WF s) (hw : s.deal ≤ s.committed + (s.window - 1)) (p : List Nat) :
    (run s p).deal ≤ (run s p).committed + (s.window - 1) :=
  run_window s p ▸ (run_induction (P := fun s' => WF s' ∧ s'.deal ≤ s'.committed + (s'.window - 1))
    (fun s' t h' => ⟨wf_step h'.1 t, step_cases (P := fun s'' => s''.deal ≤ s''.committed + (s''.window - 1)) s' t h'.2
      fun pc hs => (stepPc_local (h'.1.loc t pc hs)).2 h'.2⟩) ⟨h, hw⟩ p).2

/-! ## results returned later -/

theorem run_dealDone {s : State} {i v : Nat} (p : List Nat) (h : (run s p).threads[i]? = some (.dealDone v)) :
    s.threads[i]? = some (.dealDone v) ∨ s.deal < v := by
  induction p generalizing s with
  | nil => exact .inl h
  | cons t p ih =>
    rcases ih h with h1 | h1
    · exact (step_dealDone h1).imp_right fun ⟨_, h2⟩ => h2 ▸ Nat.lt_succ_self _
    · exact .inr (Nat.lt_of_le_of_lt (step_deal_mono s t) h1)

theorem deal_result_exceeds_cursor (s : State) (p q : List Nat) {b v : Nat} {pc : Pc}
    (hb : (run s p).threads[b]? = some pc) (hpc : pc.dealing = true)
    (hv : (run s (p ++ q)).threads[b]? = some (.dealDone v)) : (run s p).deal < v :=
  (run_dealDone q (run_append s p q ▸ hv)).resolve_left fun h => by
    cases hb.symm.trans h
    cases hpc

theorem run_getDone {s : State} {i v : Nat} (hn : NoPlainStore s) (p : List Nat)
    (h : (run s p).threads[i]? = some (.getDone v)) : s.threads[i]? = some (.getDone v) ∨ s.committed ≤ v := by
  induction p generalizing s with
  | nil => exact .inl h
  | cons t p ih =>
    rcases ih (noPlainStore_step hn t) h with h1 | h1
    · by_cases hit : i = t
      · obtain ⟨pc, hs, hv | hpc⟩ := step_arrives (hit ▸ h1)
        · exact .inr (Nat.le_of_eq hv.symm)
        · exact .inl (hit ▸ hpc ▸ hs)
      · exact .inl (step_threads_ne s hit ▸ h1)
    · exact .inr (Nat.le_trans (step_committed_mono hn t) h1)

theorem get_result_at_least_committed {s : State} (hn : NoPlainStore s) (p q : List Nat) {g v : Nat}
    (hg : (run s p).threads[g]? = some .getLoad) (hv : (run s (p ++ q)).threads[g]? = some (.getDone v)) :
    (run s p).committed ≤ v :=
  (run_getDone (noPlainStore_run hn p) q (run_append s p q ▸ hv)).resolve_left fun h => by cases hg.symm.trans h

/-! ## a Commit scheduled alone -/

def solo (W : Nat) : Nat → Nat × Nat × Pc → Nat × Nat × Pc
  | 0, x => x
  | n + 1, x => solo W n (stepPc W x.1 x.2.1 x.2.2)

theorem run_solo {s : State} {t : Nat} {pc : Pc} (n : Nat) (h : s.threads[t]? = some pc) :
    (run s (List.replicate n t)).committed = (solo s.window n (s.committed, s.deal, pc)).1 ∧
    (run s (List.replicate n t)).deal = (solo s.window n (s.committed, s.deal, pc)).2.1 ∧
    (run s (List.replicate n t)).threads[t]? = some (solo s.window n (s.committed, s.deal, pc)).2.2 := by
  induction n generalizing s pc with
  | zero => exact ⟨rfl, rfl, h⟩
  | succ n ih =>
    have := ih (step_threads_self h)
    rwa [(step_regs h).1, (step_regs h).2, step_window] at this

theorem solo_succ (W n c d : Nat) (pc : Pc) : solo W (n + 1) (c, d, pc) = solo W n (stepPc W c d pc) := rfl

theorem solo_done (W n : Nat) {pc : Pc} (h : pc.done = true) (c d : Nat) : solo W n (c, d, pc) = (c, d, pc) := by
  induction n with
  | zero => rfl
  | succ n ih => rw [solo, stepPc_done h, ih]

/-- The second loop: a fresh load makes the compare-and-swap succeed. -/
theorem solo_loadD (W n c d r : Nat) : (solo W (n + 2) (c, d, .loadD r)).2.2 = .commitDone r := by
  show (solo W n (stepPc W c d (.casD r d))).2.2 = _
  rcases ite_outcomes (stepPc W c d (.casD r d)) rfl with ⟨_, e⟩ | ⟨_, _, e⟩ | ⟨_, h, _⟩
  · rw [e, solo_done W n rfl]
  · rw [e, solo_done W n rfl]
  · exact absurd rfl h

theorem solo_casD (W n c d r cur : Nat) : (solo W (n + 3) (c, d, .casD r cur)).2.2 = .commitDone r := by
  rw [solo_succ]
  rcases ite_outcomes (stepPc W c d (.casD r cur)) rfl with ⟨_, e⟩ | ⟨_, _, e⟩ | ⟨_, _, e⟩ <;> rw [e]
  · rw [solo_done W (n + 2) rfl]
  · rw [solo_done W (n + 2) rfl]
  · exact solo_loadD W n c d r

theorem solo_loadC (W n c d r : Nat) : (solo W (n + 4) (c, d, .loadC r)).2.2 = .commitDone r := by
  show (solo W (n + 2) (stepPc W c d (.casC r c))).2.2 = _
  rcases ite_outcomes (stepPc W c d (.casC r c)) rfl with ⟨_, e⟩ | ⟨_, _, e⟩ | ⟨_, h, _⟩
  · rw [e]; exact solo_loadD W n c d r
  · rw [e]; exact solo_loadD W n r d r
  · exact absurd rfl h

/-- A stale compare-and-swap costs one more round. -/
theorem solo_casC (W n c d r cur : Nat) : (solo W (n + 5) (c, d, .casC r cur)).2.2 = .commitDone r := by
  rw [solo_succ]
  rcases ite_outcomes (stepPc W c d (.casC r cur)) rfl with ⟨_, e⟩ | ⟨_, _, e⟩ | ⟨_, _, e⟩ <;> rw [e]
  · exact solo_loadD W (n + 2) c d r
  · exact solo_loadD W (n + 2) r d r
  · exact solo_loadC W n c d r

theorem solo_commit_five {W c d r : Nat} {pc : Pc} (h : pc.inCommit r = true) :
    (solo W 5 (c, d, pc)).2.2 = .commitDone r := by
  cases pc with
  | loadC r' => cases eq_of_beq h; exact solo_loadC W 1 c d _
  | casC r' => cases eq_of_beq h; exact solo_casC W 0 c d _ _
  | loadD r' => cases eq_of_beq h; exact solo_loadD W 3 c d _
  | casD r' => cases eq_of_beq h; exact solo_casD W 2 c d _ _
  | _ => cases h

/-! ## failed compare-and-swaps are paid for by other threads' writes -/

/-- Thread `t` is at the compare-and-swap of `Commit r`'s first loop and that compare-and-swap is going to FAIL. -/
def pendingFailC (s : State) (t r : Nat) : Bool :=
  match s.threads[t]? with
  | some (.casC r' cur) => r' == r && decide (cur < r) && decide (s.committed ≠ cur)
  | _ => false

def pendingFailD (s : State) (t r : Nat) : Bool :=
  match s.threads[t]? with
  | some (.casD r' cur) => r' == r && decide (cur < r) && decide (s.deal ≠ cur)
  | _ => false

/-- Number of failed compare-and-swaps on `committed` thread `t` executes along the schedule (as `Commit r`). -/
def failsC (t r : Nat) : State → List Nat → Nat
  | _, [] => 0
  | s, i :: p => (if i = t ∧ pendingFailC s t r = true then 1 else 0) + failsC t r (step s i) p

def failsD (t r : Nat) : State → List Nat → Nat
  | _, [] => 0
  | s, i :: p => (if i = t ∧ pendingFailD s t r = true then 1 else 0) + failsD t r (step s i) p

/-- Number of steps of OTHER threads along the schedule that change `committed` while it is below `r`
(with the current routines every such change is a successful raise: `step_committed_mono`). -/
def changesBelowC (t r : Nat) : State → List Nat → Nat
  | _, [] => 0
  | s, i :: p => (if i ≠ t ∧ s.committed < r ∧ (step s i).committed ≠ s.committed then 1 else 0) +
      changesBelowC t r (step s i) p

def changesBelowD (t r : Nat) : State → List Nat → Nat
  | _, [] => 0
  | s, i :: p => (if i ≠ t ∧ s.deal < r ∧ (step s i).deal ≠ s.deal then 1 else 0) +
      changesBelowD t r (step s i) p

/-- The potential argument, one step: a failure of the thread's own consumes a pending failure, its other steps
create none, and a step of another thread creates one only by a change that is counted. -/
theorem credit {own fail pend pend' chg : Prop} [Decidable own] [Decidable fail] [Decidable pend] [Decidable pend']
    [Decidable chg] (hf : own → fail → pend ∧ ¬ pend') (hn : own → pend' → pend) (ho : ¬ own → pend' → pend ∨ chg) :
    (if own ∧ fail then 1 else 0) + (if pend' then 1 else 0) ≤ (if ¬ own ∧ chg then 1 else 0) + (if pend then 1 else 0) := by
  grind

theorem pendingFailC_iff {s : State} {t r : Nat} :
    pendingFailC s t r = true ↔ ∃ cur, s.threads[t]? = some (.casC r cur) ∧ cur < r ∧ s.committed ≠ cur := by
  unfold pendingFailC
  constructor
  · intro h
    split at h
    · rename_i r' cur heq
      simp only [Bool.and_eq_true, beq_iff_eq, decide_eq_true_eq] at h
      exact ⟨cur, by rw [heq, h.1.1], h.1.2, h.2⟩
    · cases h
  · rintro ⟨cur, h1, h2, h3⟩
    rw [h1]
    simp [h2, h3]

theorem pendingFailD_iff {s : State} {t r : Nat} :
    pendingFailD s t r = true ↔ ∃ cur, s.threads[t]? = some (.casD r cur) ∧ cur < r ∧ s.deal ≠ cur := by
  unfold pendingFailD
  constructor
  · intro h
    split at h
    · rename_i r' cur heq
      simp only [Bool.and_eq_true, beq_iff_eq, decide_eq_true_eq] at h
      exact ⟨cur, by rw [heq, h.1.1], h.1.2, h.2⟩
    · cases h
  · rintro ⟨cur, h1, h2, h3⟩
    rw [h1]
    simp [h2, h3]

/-- the thread comes to its compare-and-swap from the load, with the register's value -/
theorem pendingFailC_own (s : State) (t r : Nat) : ¬ pendingFailC (step s t) t r = true := by
  intro h
  obtain ⟨cur, h1, -, h3⟩ := pendingFailC_iff.mp h
  obtain ⟨pc, hs, rfl, rfl⟩ := step_arrives h1
  exact h3 (step_regs hs).1

theorem pendingFailD_own (s : State) (t r : Nat) : ¬ pendingFailD (step s t) t r = true := by
  intro h
  obtain ⟨cur, h1, -, h3⟩ := pendingFailD_iff.mp h
  obtain ⟨pc, hs, rfl, rfl⟩ := step_arrives h1
  exact h3 (step_regs hs).2

/-- For a loop that raises the register `reg` to `r`, its compare-and-swap at `mk r cur`. -/
theorem credit_raise {pend : State → Bool} {reg : State → Nat} {mk : Nat → Nat → Pc} {t r : Nat}
    (hp : ∀ s, pend s = true ↔ ∃ cur, s.threads[t]? = some (mk r cur) ∧ cur < r ∧ reg s ≠ cur)
    (hown : ∀ s, ¬ pend (step s t) = true) (s : State) (i : Nat) :
    (if i = t ∧ pend s = true then 1 else 0) + (if pend (step s i) = true then 1 else 0) ≤
    (if i ≠ t ∧ reg s < r ∧ reg (step s i) ≠ reg s then 1 else 0) + (if pend s = true then 1 else 0) := by
  refine credit (fun hi h => ⟨h, hi ▸ hown s⟩) (fun hi h => absurd h (hi ▸ hown s)) fun hi h => ?_
  obtain ⟨cur, h1, h2, h3⟩ := (hp _).mp h
  rw [step_threads_ne s (Ne.symm hi)] at h1
  by_cases hc : reg s = cur
  · exact .inr ⟨hc ▸ h2, hc ▸ h3⟩
  · exact .inl ((hp s).mpr ⟨cur, h1, h2, hc⟩)

theorem failsC_le (t r : Nat) (s : State) (p : List Nat) :
    failsC t r s p ≤ changesBelowC t r s p + (if pendingFailC s t r = true then 1 else 0) := by
  induction p generalizing s with
  | nil => exact Nat.zero_le _
  | cons i p ih =>
    have h1 := ih (step s i)
    have h2 := credit_raise (fun _ => pendingFailC_iff) (pendingFailC_own · t r) s i
    simp only [failsC, changesBelowC]
    omega

theorem failsD_le (t r : Nat) (s : State) (p : List Nat) :
    failsD t r s p ≤ changesBelowD t r s p + (if pendingFailD s t r = true then 1 else 0) := by
  induction p generalizing s with
  | nil => exact Nat.zero_le _
  | cons i p ih =>
    have h1 := ih (step s i)
    have h2 := credit_raise (fun _ => pendingFailD_iff) (pendingFailD_own · t r) s i
    simp only [failsD, changesBelowD]
    omega

/-! ## the same for Deal's compare-and-swap (the value it compares with was loaded TWO instructions earlier) -/

/-- Thread `t` is at Deal's compare-and-swap, the window check passes and the compare-and-swap is going to FAIL. -/
def pendingFailDeal (s : State) (t : Nat) : Bool :=
  match s.threads[t]? with
  | some (.dealCas dealt c0) => !(decide (c0 ≤ dealt ∧ s.window ≤ dealt + 1 - c0)) && decide (s.deal ≠ dealt)
  | _ => false

/-- Thread `t` is inside a Deal holding a value of `deal` that is no longer the register's value. -/
def staleDeal (s : State) (t : Nat) : Bool :=
  match s.threads[t]? with
  | some (.dealLoadC dealt) => decide (s.deal ≠ dealt)
  | some (.dealCas dealt _) => decide (s.deal ≠ dealt)
  | _ => false

/-- Number of failed compare-and-swaps thread `t` executes along the schedule inside Deal calls. -/
def failsDeal (t : Nat) : State → List Nat → Nat
  | _, [] => 0
  | s, i :: p => (if i = t ∧ pendingFailDeal s t = true then 1 else 0) + failsDeal t (step s i) p

/-- Number of steps of OTHER threads along the schedule that change `deal` (each of them raises it: a successful
compare-and-swap of another Deal, or of a Commit). -/
def changesD (t : Nat) : State → List Nat → Nat
  | _, [] => 0
  | s, i :: p => (if i ≠ t ∧ (step s i).deal ≠ s.deal then 1 else 0) + changesD t (step s i) p

theorem pendingFailDeal_iff {s : State} {t : Nat} :
    pendingFailDeal s t = true ↔ ∃ dealt c0, s.threads[t]? = some (.dealCas dealt c0) ∧
      ¬ (c0 ≤ dealt ∧ s.window ≤ dealt + 1 - c0) ∧ s.deal ≠ dealt := by
  unfold pendingFailDeal
  constructor
  · intro h
    split at h
    · rename_i dealt c0 heq
      simp only [Bool.and_eq_true, Bool.not_eq_true', decide_eq_false_iff_not, decide_eq_true_eq] at h
      exact ⟨dealt, c0, heq, h.1, h.2⟩
    · cases h
  · rintro ⟨dealt, c0, h1, h2, h3⟩
    rw [h1]
    simp only [Bool.and_eq_true, Bool.not_eq_true', decide_eq_false_iff_not, decide_eq_true_eq]
    exact ⟨h2, h3⟩

theorem staleDeal_iff {s : State} {t : Nat} :
    staleDeal s t = true ↔
      ∃ x, (s.threads[t]? = some (.dealLoadC x) ∨ ∃ y, s.threads[t]? = some (.dealCas x y)) ∧ s.deal ≠ x := by
  unfold staleDeal
  constructor
  · intro h
    split at h
    · next x hx => exact ⟨x, .inl hx, of_decide_eq_true h⟩
    · next x y hx => exact ⟨x, .inr ⟨y, hx⟩, of_decide_eq_true h⟩
    · cases h
  · rintro ⟨x, hx | ⟨y, hx⟩, hne⟩ <;> rw [hx] <;> exact decide_eq_true hne

/-- A load is fresh, the second load leaves the copy and the register as they are, and a failure sends the thread
back to the first load. -/
theorem staleDeal_own {s : State} {t : Nat} (h : staleDeal (step s t) t = true) :
    ∃ x, s.threads[t]? = some (.dealLoadC x) ∧ s.deal ≠ x := by
  obtain ⟨x, hx | ⟨y, hx⟩, hne⟩ := staleDeal_iff.mp h
  · obtain ⟨pc, hs, rfl, rfl⟩ := step_arrives hx
    exact absurd (step_regs hs).2 hne
  · obtain ⟨pc, hs, rfl, rfl⟩ := step_arrives hx
    exact ⟨x, hs, fun he => hne ((step_regs hs).2.trans he)⟩

theorem credit_step_Deal (s : State) (i t : Nat) :
    (if i = t ∧ pendingFailDeal s t = true then 1 else 0) + (if staleDeal (step s i) t = true then 1 else 0) ≤
    (if i ≠ t ∧ (step s i).deal ≠ s.deal then 1 else 0) + (if staleDeal s t = true then 1 else 0) := by
  refine credit (fun hi hp => ?_) (fun hi hs' => ?_) fun hi hs' => ?_
  · obtain ⟨dealt, c0, h1, -, h3⟩ := pendingFailDeal_iff.mp hp
    refine ⟨staleDeal_iff.mpr ⟨dealt, .inr ⟨c0, h1⟩, h3⟩, fun hs' => ?_⟩
    obtain ⟨x, hx, -⟩ := staleDeal_own (hi ▸ hs')
    cases hx.symm.trans h1
  · obtain ⟨x, hx, hne⟩ := staleDeal_own (hi ▸ hs')
    exact staleDeal_iff.mpr ⟨x, .inl hx, hne⟩
  · by_cases heq : (step s i).deal = s.deal
    · unfold staleDeal at hs' ⊢
      rw [step_threads_ne s (Ne.symm hi), heq] at hs'
      exact .inl hs'
    · exact .inr heq

theorem failsDeal_le (t : Nat) (s : State) (p : List Nat) :
    failsDeal t s p ≤ changesD t s p + (if staleDeal s t = true then 1 else 0) := by
  induction p generalizing s with
  | nil => exact Nat.zero_le _
  | cons i p ih =>
    have h1 := ih (step s i)
    have h2 := credit_step_Deal s i t
    simp only [failsDeal, changesD]
    omega

/-! ## a Deal scheduled alone -/

def Pc.dealOutcome (pc : Pc) : Prop := (∃ v, pc = .dealDone v) ∨ (∃ a b, pc = .dealRefused a b)

theorem Pc.dealOutcome.of_some {pc : Pc} (h : pc.dealOutcome) {o : Option Pc} (ho : o = some pc) :
    (∃ v, o = some (.dealDone v)) ∨ (∃ a b, o = some (.dealRefused a b)) := by
  subst ho
  exact h.imp (fun ⟨v, h⟩ => ⟨v, h ▸ rfl⟩) fun ⟨a, b, h⟩ => ⟨a, b, h ▸ rfl⟩

def Pc.inDeal : Pc → Bool
  | .dealLoadD | .dealLoadC _ | .dealCas _ _ => true
  | _ => false

/-- After fresh loads the call ends at the compare-and-swap. -/
theorem solo_dealLoadD (W n c d : Nat) : (solo W (n + 3) (c, d, .dealLoadD)).2.2.dealOutcome := by
  show (solo W n (stepPc W c d (.dealCas d c))).2.2.dealOutcome
  rcases ite_outcomes (stepPc W c d (.dealCas d c)) rfl with ⟨_, e⟩ | ⟨_, _, e⟩ | ⟨_, h, _⟩
  · rw [e, solo_done W n rfl]; exact .inr ⟨_, _, rfl⟩
  · rw [e, solo_done W n rfl]; exact .inl ⟨_, rfl⟩
  · exact absurd rfl h

theorem solo_dealCas (W n c d dealt c0 : Nat) : (solo W (n + 4) (c, d, .dealCas dealt c0)).2.2.dealOutcome := by
  rw [solo_succ]
  rcases ite_outcomes (stepPc W c d (.dealCas dealt c0)) rfl with ⟨_, e⟩ | ⟨_, _, e⟩ | ⟨_, _, e⟩ <;> rw [e]
  · rw [solo_done W (n + 3) rfl]; exact .inr ⟨_, _, rfl⟩
  · rw [solo_done W (n + 3) rfl]; exact .inl ⟨_, rfl⟩
  · exact solo_dealLoadD W n c d

theorem solo_deal_five {W c d : Nat} {pc : Pc} (h : pc.inDeal = true) : (solo W 5 (c, d, pc)).2.2.dealOutcome := by
  cases pc with
  | dealLoadD => exact solo_dealLoadD W 2 c d
  | dealLoadC dealt => exact solo_dealCas W 0 c d dealt c
  | dealCas dealt c0 => exact solo_dealCas W 1 c d dealt c0
  | _ => cases h

end KB.TsoCas
