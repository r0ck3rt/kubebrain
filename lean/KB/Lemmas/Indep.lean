/- Helper lemmas for C12 (independence of the engine's open choices). -/
import KB.Lemmas.Scan
import KB.Lemmas.Writes
namespace KB

theorem iterate_zero_of_not_gt (q1 q2 : Quirks) (s : Store) {a b : Bytes} (h : cmp a b ≠ .gt) :
    iterate q1 s a b 0 = iterate q2 s a b 0 := by
  simp [iterate, applyLimit, h]

theorem iterate_zero_of_rev {q1 q2 : Quirks} (hr : q1.revFirstUnchecked = q2.revFirstUnchecked)
    (s : Store) (a b : Bytes) : iterate q1 s a b 0 = iterate q2 s a b 0 := by
  simp [iterate, applyLimit, iterDesc, hr]

theorem belowFloor_congr {c1 c2 : Cfg} (hp : c1.pfx = c2.pfx) (st : Store) (rev : Nat) :
    belowFloor c1 st rev = belowFloor c2 st rev := by
  simp [belowFloor, floorOf, compactKeyOf, hp]

theorem scanPartitions_congr {c1 c2 : Cfg} (hs : c1.splits = c2.splits) (a b : Bytes) :
    scanPartitions c1 a b = scanPartitions c2 a b := by
  simp [scanPartitions, hs]

theorem scanLimited_congr {c1 c2 : Cfg} (hp : c1.pfx = c2.pfx) (ht : c1.q.supportTTL = c2.q.supportTTL)
    {st : Store} {a b : Bytes} (hit : iterate c1.q st a b 0 = iterate c2.q st a b 0) (rev lim : Nat) :
    scanLimited c1 st a b rev lim = scanLimited c2 st a b rev lim := by
  simp only [scanLimited, belowFloor_congr hp, hit, ht]

theorem partWorker_congr {q1 q2 : Quirks} (ht : q1.supportTTL = q2.supportTTL) {st : Store} {p : Bytes × Bytes}
    (hit : iterate q1 st p.1 p.2 0 = iterate q2 st p.1 p.2 0) (rev : Nat) :
    partWorker q1 st rev p = partWorker q2 st rev p := by
  simp only [partWorker, hit, ht]

theorem scanParts_congr {c1 c2 : Cfg} (hp : c1.pfx = c2.pfx) (hs : c1.splits = c2.splits)
    (ht : c1.q.supportTTL = c2.q.supportTTL) {st : Store} {a b : Bytes}
    (hit : ∀ parts, scanPartitions c1 a b = some parts →
      ∀ p ∈ parts, iterate c1.q st p.1 p.2 0 = iterate c2.q st p.1 p.2 0) (rev : Nat) :
    scanParts c1 st a b rev = scanParts c2 st a b rev := by
  rw [scanParts_unfold, scanParts_unfold, belowFloor_congr hp, ← scanPartitions_congr hs]
  split
  · rfl
  · cases hsp : scanPartitions c1 a b with
    | none => rfl
    | some parts =>
      have hm : parts.map (partWorker c1.q st rev) = parts.map (partWorker c2.q st rev) :=
        List.map_congr_left (fun p hp' => partWorker_congr ht (hit parts hsp p hp') rev)
      simp only [hm]

theorem doList_congr {c1 c2 : Cfg} {s : BState} {a b : Bytes} {R n : Nat}
    (h1 : cmp a b = .lt → ∀ rev lim, scanLimited c1 s.store (encodeBound a) (encodeBound b) rev lim =
      scanLimited c2 s.store (encodeBound a) (encodeBound b) rev lim)
    (h2 : cmp a b = .lt → ∀ rev, scanParts c1 s.store (encodeBound a) (encodeBound b) rev =
      scanParts c2 s.store (encodeBound a) (encodeBound b) rev) :
    doList c1 s a b R n = doList c2 s a b R n := by
  by_cases hab : cmp a b = .lt
  · simp only [doList, h1 hab, h2 hab]
  · simp [doList, hab]

theorem doList_indep_of_rev {c1 c2 : Cfg} (hp : c1.pfx = c2.pfx) (hs : c1.splits = c2.splits)
    (ht : c1.q.supportTTL = c2.q.supportTTL) (hr : c1.q.revFirstUnchecked = c2.q.revFirstUnchecked)
    (s : BState) (a b : Bytes) (R n : Nat) : doList c1 s a b R n = doList c2 s a b R n :=
  doList_congr (fun _ => scanLimited_congr hp ht (iterate_zero_of_rev hr _ _ _))
    (fun _ => scanParts_congr hp hs ht (fun _ _ _ _ => iterate_zero_of_rev hr _ _ _))

/-- Range reads agree, whatever the engines' choices, when every iteration is ascending — for ARBITRARY bounds:
the encoded bounds of a proper raw interval never run backwards (`encodeBound_mono`, /repo 23c8b93), so only the
(adjusted) partitions have to be ascending. -/
theorem doList_indep_of_ascending' {c1 c2 : Cfg} (hp : c1.pfx = c2.pfx) (hs : c1.splits = c2.splits)
    (ht : c1.q.supportTTL = c2.q.supportTTL) (s : BState) (a b : Bytes)
    (hasc : ∀ parts, scanPartitions c1 (encodeBound a) (encodeBound b) = some parts → ∀ p ∈ parts, cmp p.1 p.2 ≠ .gt)
    (R n : Nat) : doList c1 s a b R n = doList c2 s a b R n := by
  refine doList_congr (fun hab => ?_) (fun _ => ?_)
  · exact scanLimited_congr hp ht (iterate_zero_of_not_gt _ _ _ (encodeBound_mono hab))
  · exact scanParts_congr hp hs ht (fun parts hsp p hpm => iterate_zero_of_not_gt _ _ _ (hasc parts hsp p hpm))

theorem doList_indep_single' {c1 c2 : Cfg} (hp : c1.pfx = c2.pfx) (hs : c1.splits = c2.splits)
    (ht : c1.q.supportTTL = c2.q.supportTTL) (hsplit : c1.splits = []) (s : BState) (a b : Bytes)
    (R n : Nat) : doList c1 s a b R n = doList c2 s a b R n := by
  by_cases hab : cmp a b = .lt
  · refine doList_indep_of_ascending' hp hs ht s a b ?_ R n
    intro parts hsp p hpm
    rw [scanPartitions_single hsplit] at hsp
    cases hsp
    simp only [List.mem_singleton] at hpm
    subst hpm
    exact encodeBound_mono hab
  · simp [doList, hab]

/-- the shape of the C12 statement for range reads, on equal results -/
theorem listRes_match_of_eq {x y : ScanRes ListRes} :
    x = y → (match x, y with
     | .ok r1, .ok r2 => r1.hdr = r2.hdr ∧ r1.more = r2.more ∧ r1.kvs = r2.kvs
     | .error e1, .error e2 => e1 = e2
     | .panic, .panic => True
     | _, _ => False) := by
  rintro rfl
  cases x <;> simp

theorem bget_encodeStore_indep (c1 c2 : Cfg) {recs : List Rec} (hs : SortedRecs recs)
    (hk : ∀ r ∈ recs, Alphabet r.key ∧ r.rev < 2 ^ 64) (k : Bytes) (hka : Alphabet k)
    (R : Nat) (hR : R < 2 ^ 64) :
    bget c1 (encodeStore recs) k R = bget c2 (encodeStore recs) k R := by
  simp only [bget, getInternal_encodeStore c1 hs hk k hka R hR, getInternal_encodeStore c2 hs hk k hka R hR]

/-- Two engine-level commit results that agree up to the shape of the conflict error. -/
inductive ApplySame : Except CommitErr Store → Except CommitErr Store → Prop
  | ok (s : Store) : ApplySame (.ok s) (.ok s)
  | conflict (i : Option Nat) (v : Option Bytes) (i' : Option Nat) (v' : Option Bytes) :
      ApplySame (.error (.conflict i v)) (.error (.conflict i' v'))

theorem applyOp_same {q1 q2 : Quirks} (h1 : q1.casMissingNotFound = false) (h2 : q2.casMissingNotFound = false)
    (s : Store) (idx : Nat) (op : BOp) : ApplySame (applyOp q1 s idx op) (applyOp q2 s idx op) := by
  cases op with
  | pine k v =>
    simp only [applyOp]
    cases s.get k with
    | none => exact .ok _
    | some old => exact .conflict _ _ _ _
  | cas k new old =>
    simp only [applyOp, h1, h2]
    cases s.get k with
    | none => exact .conflict _ _ _ _
    | some cur =>
      by_cases hc : cur = old
      · simp only [hc, if_true]; exact .ok _
      · simp only [hc, if_false]; exact .conflict _ _ _ _
  | put k v => exact .ok _
  | del k => exact .ok _
  | delcur k v =>
    simp only [applyOp]
    cases s.get k with
    | none => exact .conflict _ _ _ _
    | some cur =>
      by_cases hc : cur = v
      · simp only [hc, if_true]; exact .ok _
      · simp only [hc, if_false]; exact .conflict _ _ _ _

theorem applyOps_same {q1 q2 : Quirks} (h1 : q1.casMissingNotFound = false) (h2 : q2.casMissingNotFound = false)
    (s : Store) (idx : Nat) (ops : List BOp) : ApplySame (applyOps q1 s idx ops) (applyOps q2 s idx ops) := by
  induction ops generalizing s idx with
  | nil => exact .ok _
  | cons op ops ih =>
    simp only [applyOps]
    have h := applyOp_same h1 h2 s idx op
    generalize applyOp q1 s idx op = x at h
    generalize applyOp q2 s idx op = y at h
    cases h with
    | ok s' => exact ih s' (idx + 1)
    | conflict i v i' v' => exact .conflict _ _ _ _

/-- Two backend-level commit results on store `st`: same class, same resulting store; a failed
condition leaves the store alone. -/
inductive CommitSame (st : Store) : CommitRes × Store → CommitRes × Store → Prop
  | ok (st' : Store) : CommitSame st (.ok, st') (.ok, st')
  | conflict (i : Option Nat) (v : Option Bytes) (i' : Option Nat) (v' : Option Bytes) :
      CommitSame st (.conflict i v, st) (.conflict i' v', st)
  | uncertain (st' : Store) : CommitSame st (.uncertain, st') (.uncertain, st')
  | err (st' : Store) : CommitSame st (.err, st') (.err, st')

theorem doCommit_same {c1 c2 : Cfg} (h1 : c1.q.casMissingNotFound = false) (h2 : c2.q.casMissingNotFound = false)
    (st : Store) (ops : List BOp) (f : Fault) : CommitSame st (doCommit c1 st ops f) (doCommit c2 st ops f) := by
  have h := applyOps_same h1 h2 st 0 ops
  simp only [doCommit, commit]
  generalize applyOps c1.q st 0 ops = x at h
  generalize applyOps c2.q st 0 ops = y at h
  cases h with
  | ok s' => cases f <;> constructor
  | conflict i v i' v' => exact .conflict _ _ _ _

theorem creatorCreate_same {c1 c2 : Cfg} (h1 : c1.q.casMissingNotFound = false)
    (h2 : c2.q.casMissingNotFound = false) (h3 : c1.creatorTombAboveIsCf = c2.creatorTombAboveIsCf) (st : Store)
    (key val : Bytes) (rev : Nat) (fs : List Fault) :
    CommitSame st ((creatorCreate c1 st key val rev fs).1, (creatorCreate c1 st key val rev fs).2.1)
      ((creatorCreate c2 st key val rev fs).1, (creatorCreate c2 st key val rev fs).2.1) := by
  rw [creatorCreate_eq, creatorCreate_eq]
  split
  · exact doCommit_same h1 h2 ..
  · split
    · exact .err _
    · split
      · exact doCommit_same h1 h2 ..
      · unfold tombAbove
        rw [h3]
        split
        · exact .err _
        · exact .conflict ..

/-- Two batches of the same class end a request the same way (the shape of a conflict is not looked at), when the
engines agree on the re-read of the key, if there is one. -/
theorem writeEnd_same {c1 c2 : Cfg} {s : BState} {w : WEvent} {reread : Bool} {dflt : Option (Bytes × Bytes × Nat)}
    {x y : CommitRes × Store} (h : CommitSame s.store x y)
    (hb : reread = true → bget c1 s.store w.key 0 = bget c2 s.store w.key 0) :
    writeEnd c1 s w reread dflt x = writeEnd c2 s w reread dflt y := by
  cases h with
  | conflict =>
    cases reread with
    | false => rfl
    | true => simp only [writeEnd, hb rfl]; rfl
  | _ => rfl

theorem doCreate_indep {c1 c2 : Cfg} (h1 : c1.q.casMissingNotFound = false)
    (h2 : c2.q.casMissingNotFound = false) (h3 : c1.creatorTombAboveIsCf = c2.creatorTombAboveIsCf) (s : BState) (key val : Bytes) (fs : List Fault) :
    doCreate c1 s key val fs = doCreate c2 s key val fs := by
  rw [doCreate_eq, doCreate_eq]
  exact writeEnd_same (creatorCreate_same h1 h2 h3 ..) (fun h => nomatch h)

theorem doUpdate_indep {c1 c2 : Cfg} (h1 : c1.q.casMissingNotFound = false)
    (h2 : c2.q.casMissingNotFound = false) (h3 : c1.creatorTombAboveIsCf = c2.creatorTombAboveIsCf) (s : BState)
    (key val : Bytes) (hb : bget c1 s.store key 0 = bget c2 s.store key 0)
    (exp : Nat) (fs : List Fault) :
    doUpdate c1 s key val exp fs = doUpdate c2 s key val exp fs := by
  rw [doUpdate_eq, doUpdate_eq]
  exact ite_congr rfl (fun _ => writeEnd_same (creatorCreate_same h1 h2 h3 ..) fun _ => hb) fun _ =>
    ite_congr rfl (fun _ => rfl) fun _ => writeEnd_same (doCommit_same h1 h2 ..) fun _ => hb

theorem doDelete_indep {c1 c2 : Cfg} (h1 : c1.q.casMissingNotFound = false)
    (h2 : c2.q.casMissingNotFound = false) (s : BState)
    (key : Bytes) (hb : bget c1 s.store key 0 = bget c2 s.store key 0)
    (exp : Nat) (fs : List Fault) :
    doDelete c1 s key exp fs = doDelete c2 s key exp fs := by
  rw [doDelete_eq, doDelete_eq, hb]
  cases bget c2 s.store key 0 with
  | notFound m => rfl
  | found old m =>
    exact ite_congr rfl (fun _ => rfl) fun _ =>
      ite_congr rfl (fun _ => writeEnd_same (.conflict ..) fun _ => hb) fun _ =>
        ite_congr rfl (fun _ => rfl) fun _ => writeEnd_same (doCommit_same h1 h2 ..) fun _ => hb

end KB
