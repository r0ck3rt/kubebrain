/-
  Store-level invariant of KB.Sys: the index record of a key is the optimistic lock of its history.
  `SInv g0 g` (of every state reachable from `g0`: `SInv.reachable`) = `Core` (index record of a key = its last applied
  write, chain condition `ChainCond` of every applied write; the parts that depend on 8-byte revisions are guarded by
  `dealt < 2 ^ 64`) + `Cl` (per-request facts, in-flight revisions fresh and pairwise distinct) + `Dn` (responses) +
  `RpOK` (the retry loop between its two steps). It is `KB.SysStore.SInv`; `KB.SInv` (Lemmas/Sys.lean) is the sequencing
  invariant on views, which the proofs here take as a hypothesis (`hv`).
  The later invariants of KB.Sys also start from what is proved here about the shape of a step: `Moves` (a client step is
  at most one commit, then bookkeeping), `NoW` (a step applies at most one batch), `stepRetryRead_cases` /
  `stepRetryCommit_cases` (the case analysis of a client step is `stepClient_cases'` in Lemmas/Sys.lean).
  The well-formedness of the initial store is used only through `G0OK` (stored keys are encodings with
  revision ≤ dealt, index records parse to a revision ≤ dealt): neither sortedness nor the alphabet matter.
-/
import KB.Sys
import KB.Lemmas.Coder
import KB.Lemmas.Engine
import KB.Props.C02
import KB.Props.C10
namespace KB.SysStore
open Generated

/-! ### `get` after `put` without sortedness (inside this namespace the name hides `KB.Store.get_put`, which asks for it) -/

theorem Store.get_put (s : Store) (k v k' : Bytes) :
    (s.put k v).get k' = if k' = k then some v else s.get k' :=
  Store.get_put_any s k k' v

/-! ### batches -/

theorem doCommit_cases {c : Cfg} {s : Store} {ops : List BOp} {f : Fault} {r : CommitRes} {st : Store}
    (hdc : doCommit c s ops f = (r, st)) :
    (applied r f = true ∧ commit c.q s ops = .ok st) ∨ (applied r f = false ∧ st = s) := by
  unfold doCommit at hdc
  cases hc : commit c.q s ops with
  | error e =>
    rw [hc] at hdc
    cases e <;> cases hdc <;> exact .inr ⟨rfl, rfl⟩
  | ok st' =>
    rw [hc] at hdc
    cases f <;> cases hdc
    · exact .inl ⟨rfl, rfl⟩
    · exact .inr ⟨rfl, rfl⟩
    · exact .inl ⟨rfl, rfl⟩
    · exact .inr ⟨rfl, rfl⟩

theorem doCommit_of_ok (c : Cfg) (st : Store) (ops : List BOp) (st' : Store) (hok : commit c.q st ops = .ok st')
    (f : Fault) :
    doCommit c st ops f =
      match f with
      | .none => (.ok, st') | .err => (.err, st) | .uncApplied => (.uncertain, st') | .uncNotApplied => (.uncertain, st) := by
  unfold doCommit; rw [hok]; cases f <;> rfl

theorem applied_cases {r : CommitRes} {f : Fault} (ha : applied r f = true) : r = .ok ∨ r = .uncertain := by
  cases r <;> simp [applied] at ha ⊢

theorem doCommit_applied_res (c : Cfg) (st : Store) (ops : List BOp) (f : Fault)
    (h : applied (doCommit c st ops f).1 f = true) :
    (doCommit c st ops f).1 = .ok ∨ (doCommit c st ops f).1 = .uncertain :=
  applied_cases h

section fields
variable (g : G) (c : Client) (w : WEvent) (res : WriteRes) (rev : Nat)
@[simp] theorem G.setClient_store : (g.setClient c).store = g.store := rfl
@[simp] theorem G.setClient_wlog : (g.setClient c).wlog = g.wlog := rfl
@[simp] theorem G.setClient_hist : (g.setClient c).hist = g.hist := rfl
@[simp] theorem G.setClient_dealt : (g.setClient c).dealt = g.dealt := rfl
@[simp] theorem G.setClient_done : (g.setClient c).done = g.done := rfl
@[simp] theorem G.setClient_cfg : (g.setClient c).cfg = g.cfg := rfl
@[simp] theorem G.finish_store : (g.finish c res rev).store = g.store := rfl
@[simp] theorem G.finish_wlog : (g.finish c res rev).wlog = g.wlog := rfl
@[simp] theorem G.finish_hist : (g.finish c res rev).hist = g.hist := rfl
@[simp] theorem G.finish_dealt : (g.finish c res rev).dealt = g.dealt := rfl
@[simp] theorem G.finish_cfg : (g.finish c res rev).cfg = g.cfg := rfl
@[simp] theorem G.notify_store : (g.notify w).store = g.store := by unfold G.notify; split <;> rfl
@[simp] theorem G.notify_wlog : (g.notify w).wlog = g.wlog := by unfold G.notify; split <;> rfl
@[simp] theorem G.notify_hist : (g.notify w).hist = g.hist := by unfold G.notify; split <;> rfl
@[simp] theorem G.notify_dealt : (g.notify w).dealt = g.dealt := by unfold G.notify; split <;> rfl
@[simp] theorem G.notify_done : (g.notify w).done = g.done := by unfold G.notify; split <;> rfl
@[simp] theorem G.notify_clients : (g.notify w).clients = g.clients := by unfold G.notify; split <;> rfl
@[simp] theorem G.notify_cfg : (g.notify w).cfg = g.cfg := by unfold G.notify; split <;> rfl
@[simp] theorem G.notify_retryPc : (g.notify w).retryPc = g.retryPc := by unfold G.notify; split <;> rfl
@[simp] theorem G.notify_retryQ : (g.notify w).retryQ = g.retryQ := by unfold G.notify; split <;> rfl
@[simp] theorem G.setClient_retryPc : (g.setClient c).retryPc = g.retryPc := rfl
@[simp] theorem G.finish_retryPc : (g.finish c res rev).retryPc = g.retryPc := rfl
end fields

/-! ### the shape of a client step -/

/-- the batch request `c` commits at its program counter, and the ghost log entry `(key, rev, val, exp)` it stands for -/
inductive Batch (c : Client) : List BOp → Bytes → Nat → Option Bytes → Expect → Prop
  | create {rev : Nat} {key val : Bytes} : c.pc = .createCommit rev ∨ c.pc = .createRetry rev → c.kind.kv = (key, val) →
      Batch c (createOps key val rev) key rev (some val) .absent
  | over {rev att : Nat} {old key val : Bytes} : c.pc = .createOver rev old att → c.kind.kv = (key, val) →
      Batch c [.cas (idxKey key) (be8 rev) old, .put (encode key rev) val] key rev (some val) .absent
  | update {rev exp : Nat} {key val : Bytes} : c.pc = .updateCommit rev → c.kind = .update key val exp →
      Batch c [.cas (idxKey key) (be8 rev) (be8 exp), .put (encode key rev) val] key rev (some val) (.rev exp)
  | delete {rev modRev exp : Nat} {oldVal key : Bytes} : c.pc = .deleteCommit rev oldVal modRev →
      c.kind = .delete key exp →
      Batch c [.cas (idxKey key) (be8 rev ++ [0]) (be8 modRev), .put (encode key rev) tombstone] key rev none (.rev modRev)

/-- `P` is kept by what a client step does besides committing: taking a revision, filling a slot, moving to the next
program counter, returning -/
structure Moves (P : G → Prop) : Prop where
  deal : ∀ {g : G}, P g → P { g with dealt := g.dealt + 1 }
  notify : ∀ {g : G} (w : WEvent), P g → P (g.notify w)
  set : ∀ {g : G} (c : Client), P g → P (g.setClient c)
  finish : ∀ {g : G} (c : Client) (res : WriteRes) (rev : Nat), P g → P (g.finish c res rev)

section
variable {P : G → Prop} (H : Moves P)
include H

theorem Moves.finishCreate {g : G} (h : P g) (c : Client) (key val : Bytes) (rev : Nat) (r : CommitRes) :
    P (finishCreate g c key val rev r) := by
  unfold KB.finishCreate
  have h' := H.notify (mkW rev 0 (r == .ok) .create key val (r == .uncertain)) h
  split
  · exact H.finish _ _ _ h'
  · split
    · exact H.set _ h'
    · exact H.finish _ _ _ h'
  · exact H.finish _ _ _ h'

theorem Moves.createSawIndex {g : G} (h : P g) (c : Client) (key val : Bytes) (rev : Nat) (old : Bytes) (att : Nat) :
    P (createSawIndex g c key val rev old att) := by
  unfold KB.createSawIndex
  split
  · exact H.finishCreate h ..
  · split
    · exact H.set _ h
    · exact H.finishCreate h ..

theorem Moves.stepClient {g : G} (h : P g) (c : Client) (f : Fault)
    (hcommit : ∀ {ops : List BOp} {r : CommitRes} {st : Store} {key : Bytes} {rev : Nat} {val : Option Bytes}
      {exp : Expect}, Batch c ops key rev val exp → doCommit g.cfg g.store ops f = (r, st) →
      P (afterCommit g r st f key rev val exp))
    (hrefuse : P (g.refuse c (refusal c))) : P (stepClient g c f) := by
  apply stepClient_cases'
  case hStartCreate =>
    intro _ _ _ _
    exact H.set _ (H.deal h)
  case hStartUpdate =>
    intro key val exp _ _
    refine iteInduction (fun _ => H.set _ (H.deal h)) fun _ => ?_
    exact iteInduction (fun _ => H.finish _ _ _ (H.notify _ (H.deal h))) fun _ => H.set _ (H.deal h)
  case hCreateCommit =>
    intro rev key val r st hpc hkv hdc
    have hA := hcommit (.create (.inl hpc) hkv) hdc
    split
    · exact iteInduction (fun _ => H.createSawIndex hA ..) fun _ => H.set _ hA
    · exact H.finishCreate hA ..
  case hCreateReread =>
    intro rev key val _ _
    split
    · exact H.createSawIndex h ..
    · exact H.set _ h
  case hCreateRetry =>
    intro rev key val r st hpc hkv hdc
    exact H.finishCreate (hcommit (.create (.inr hpc) hkv) hdc) ..
  case hCreateOver =>
    intro rev old att key val r st hpc hkv hdc
    have hA := hcommit (.over hpc hkv) hdc
    split
    · exact H.set _ hA
    · exact H.finishCreate hA ..
  case hCreateRecheck =>
    intro rev att key val _ _
    split
    · exact iteInduction (fun _ => H.finishCreate h ..) fun _ => H.createSawIndex h ..
    · exact H.set _ h
  case hUpdateCommit =>
    intro rev key val exp r st hpc hk hdc
    have hA := H.notify (mkW rev exp (r == .ok) .put key val (r == .uncertain)) (hcommit (.update hpc hk) hdc)
    split
    · exact H.finish _ _ _ hA
    · exact H.set _ hA
    · exact H.finish _ _ _ hA
  case hStartDelete =>
    intro key exp _ _
    split <;> exact H.set _ h
  case hDeleteDealNone =>
    intro key exp _ _
    exact H.finish _ _ _ (H.notify _ (H.deal h))
  case hDeleteDealSome =>
    intro oldVal modRev key exp _ _
    have hN := H.notify (mkW (g.dealt + 1) modRev false .delete key oldVal) (H.deal h)
    refine iteInduction (fun _ => H.finish _ _ _ hN) fun _ => ?_
    refine iteInduction (fun _ => H.set _ hN) fun _ => ?_
    exact iteInduction (fun _ => H.finish _ _ _ hN) fun _ => H.set _ (H.deal h)
  case hDeleteCommit =>
    intro rev oldVal modRev key exp r st hpc hk hdc
    have hA := H.notify (mkW rev modRev (r == .ok) .delete key oldVal (r == .uncertain)) (hcommit (.delete hpc hk) hdc)
    split
    · exact H.finish _ _ _ hA
    · exact H.set _ hA
    · exact H.finish _ _ _ hA
  case hReadLatest =>
    intro rev fb _
    split <;> exact H.finish _ _ _ h
  case hNop => exact h
  case hRefuse =>
    intro _ _
    exact hrefuse

end

/-! ### a step applies at most one batch -/

/-- the shape every step has on `(store, wlog)`: nothing, or one applied batch -/
def NoW (g g' : G) : Prop :=
  (g'.store = g.store ∧ g'.wlog = g.wlog) ∨ ∃ x, g'.wlog = g.wlog ++ [x]

theorem NoW.of_eq {g g1 g' : G} (h : NoW g g1) (h1 : g'.store = g1.store) (h2 : g'.wlog = g1.wlog) : NoW g g' := by
  rcases h with ⟨a, b⟩ | ⟨x, hx⟩
  · exact .inl ⟨h1.trans a, h2.trans b⟩
  · exact .inr ⟨x, h2.trans hx⟩

theorem NoW.afterCommit {g : G} {ops : List BOp} {f : Fault} {r : CommitRes} {st : Store}
    (h : doCommit g.cfg g.store ops f = (r, st)) (key : Bytes) (rev : Nat) (val : Option Bytes) (exp : Expect) :
    NoW g (afterCommit g r st f key rev val exp) := by
  unfold KB.SysStore.afterCommit
  rcases doCommit_cases h with ⟨ha, _⟩ | ⟨ha, rfl⟩
  · rw [if_pos ha]; exact .inr ⟨_, rfl⟩
  · rw [ha]; exact .inl ⟨rfl, rfl⟩

theorem noW_moves (g : G) : Moves (NoW g) where
  deal h := h.of_eq rfl rfl
  notify _ h := h.of_eq (G.notify_store ..) (G.notify_wlog ..)
  set _ h := h.of_eq rfl rfl
  finish _ _ _ h := h.of_eq rfl rfl

theorem stepClient_noW (g : G) (c : Client) (f : Fault) : NoW g (stepClient g c f) :=
  (noW_moves g).stepClient (.inl ⟨rfl, rfl⟩) c f (fun _ hdc => NoW.afterCommit hdc ..) (.inl ⟨rfl, rfl⟩)

theorem stepRetryRead_cases {P : G → Prop} (g : G)
    (hBusy : ∀ p, g.retryPc = some p → P g)
    (hNop : g.retryPc = none → g.retryQ = [] → P g)
    (hPop : ∀ w rest, g.retryPc = none → g.retryQ = w :: rest →
      (getInternal g.cfg g.store w.key 0 = none ∨
        ∃ val m, getInternal g.cfg g.store w.key 0 = some (val, m) ∧ (val = [] ∨ m ≠ w.rev)) →
      P { g with retryQ := rest })
    (hDeal : ∀ w rest val, g.retryPc = none → g.retryQ = w :: rest →
      getInternal g.cfg g.store w.key 0 = some (val, w.rev) → val ≠ [] → g.windowFull = false →
      P { g with dealt := g.dealt + 1, retryPc := some { w := w, rev := g.dealt + 1, val := val } })
    (hFull : g.retryPc = none → g.windowFull = true → P g) :
    P (stepRetryRead g) := by
  unfold stepRetryRead
  split
  · exact hBusy _ ‹_›
  · rename_i hn
    split
    · exact hNop hn ‹_›
    · split
      · exact hPop _ _ hn ‹_› (.inl ‹_›)
      · rename_i w rest hq _ val modRev hget
        refine iteInduction (fun hc => hPop _ _ hn hq (.inr ⟨val, modRev, hget, ?_⟩)) fun hc => ?_
        · simpa using hc
        · obtain ⟨hne, rfl⟩ : val ≠ [] ∧ modRev = w.rev := by simpa using hc
          exact iteInduction (hFull hn) fun hw => hDeal w rest val hn hq hget hne (by simpa using hw)

theorem stepRetryCommit_cases {P : G → Prop} (g : G) (f : Fault)
    (hNop : g.retryPc = none → P g)
    (hWrite : ∀ p r st, g.retryPc = some p →
      doCommit g.cfg g.store
        [BOp.cas (idxKey p.w.key) (be8 p.rev ++ if isTomb p.val then [0] else []) (be8 p.w.rev ++ if isTomb p.val then [0] else []),
         BOp.put (encode p.w.key p.rev) p.val] f = (r, st) →
      P ((afterCommit { g with retryPc := none, retryQ := if r == CommitRes.ok || r.isCas then g.retryQ.drop 1 else g.retryQ }
            r st f p.w.key p.rev (if isTomb p.val then none else some p.val) (.rev p.w.rev)).notify
          { p.w with rev := p.rev, valid := r == .ok, uncertain := r == .uncertain })) :
    P (stepRetryCommit g f) := by
  unfold stepRetryCommit
  split
  · exact hNop ‹_›
  · exact hWrite _ _ _ ‹_› rfl

theorem stepRetryRead_same (g : G) : (stepRetryRead g).store = g.store ∧ (stepRetryRead g).wlog = g.wlog := by
  apply stepRetryRead_cases (P := fun g' => g'.store = g.store ∧ g'.wlog = g.wlog) <;> intros <;> exact ⟨rfl, rfl⟩

theorem stepRetryCommit_noW (g : G) (f : Fault) : NoW g (stepRetryCommit g f) := by
  apply stepRetryCommit_cases
  · intro _; exact .inl ⟨rfl, rfl⟩
  · intro p r st _ hdc
    exact (noW_moves g).notify _ (NoW.afterCommit (g := { g with retryPc := none, retryQ := _ }) hdc ..)

theorem act_noW (g : G) (a : Action) : NoW g (act g a) := by
  refine act_cases g a (.inl ⟨rfl, rfl⟩) (fun _ _ _ _ => .inl ⟨rfl, rfl⟩) (fun c f _ => stepClient_noW g c f) ?_
    (fun f => ?_) (.inl (stepRetryRead_same g)) (stepRetryCommit_noW g)
  · unfold stepSeq
    split <;> exact .inl ⟨rfl, rfl⟩
  · -- a whole `retry()`: only its second step can apply a batch
    have h := stepRetryCommit_noW (stepRetryRead g) f
    rwa [NoW, (stepRetryRead_same g).1, (stepRetryRead_same g).2] at h

theorem act_store_of_wlog (g : G) (a : Action) (h : (act g a).wlog = g.wlog) :
    (act g a).store = g.store := by
  rcases act_noW g a with ⟨h1, _⟩ | ⟨x, hx⟩
  · exact h1
  · rw [hx] at h
    have := congrArg List.length h
    simp at this

/-! ### conflict indices -/

theorem applyOp_conflict_idx {q : Quirks} {s : Store} {i : Nat} {op : BOp} {n : Nat} {v : Option Bytes}
    (h : applyOp q s i op = .error (.conflict (some n) v)) : n = i + q.idxOffset := by
  unfold applyOp at h
  grind

theorem applyOps_conflict_idx {q : Quirks} {s : Store} {i : Nat} {ops : List BOp} {n : Nat} {v : Option Bytes}
    (h : applyOps q s i ops = .error (.conflict (some n) v)) : i + q.idxOffset ≤ n := by
  induction ops generalizing s i with
  | nil => simp [applyOps] at h
  | cons op ops ih =>
    simp only [applyOps] at h
    split at h
    · rename_i e he
      injection h with h
      subst h
      have := applyOp_conflict_idx he
      omega
    · have := ih h
      omega

/-! ### encoded keys -/

theorem be8_mod (r : Nat) : be8 (r % 2 ^ 64) = be8 r := beN_mod 8 r

theorem encode_mod (k : Bytes) (r : Nat) : encode k (r % 2 ^ 64) = encode k r :=
  congrArg (fun b => magic ++ (k ++ splitByte :: b)) (be8_mod r)

theorem idxKey_ne_encode {k k' : Bytes} {r : Nat} (h0 : 0 < r) (hr : r < 2 ^ 64) : idxKey k ≠ encode k' r :=
  fun h => absurd (encode_inj (by decide) hr h).2 (Nat.ne_of_lt h0)

theorem be8_append_inj {a b : Nat} {x y : Bytes} (ha : a < 2 ^ 64) (hb : b < 2 ^ 64)
    (h : be8 a ++ x = be8 b ++ y) : a = b ∧ x = y := by
  have h1 := List.append_inj h (by simp [be8, be64])
  exact ⟨be64_inj ha hb h1.1, h1.2⟩

theorem decode_encode_le (k : Bytes) (r : Nat) : ∃ m, decode (encode k r) = .ok k m ∧ m ≤ r := by
  refine ⟨r % 2 ^ 64, ?_, Nat.mod_le _ _⟩
  rw [← encode_mod]
  exact decode_encode k _ (Nat.mod_lt _ (by decide))

/-! ### reads return stored records -/

theorem applyLimit_subset (q : Quirks) (n : Nat) (l : List (Bytes × Bytes)) : ∀ x ∈ applyLimit q n l, x ∈ l := by
  intro x hx
  unfold applyLimit at hx
  split at hx
  · exact hx
  · split at hx
    · exact hx
    · exact List.mem_of_mem_take hx
    · exact List.mem_of_mem_take hx

theorem iterDesc_sublist (q : Quirks) (s : Store) (a b : Bytes) :
    (iterDesc q s a b).Sublist (s.filter (fun kv => ble kv.1 a)).reverse := by
  unfold iterDesc
  simp only []
  split
  · split
    · exact List.nil_sublist _
    · rename_i heq
      rw [heq]
      exact (List.takeWhile_sublist _).cons_cons _
  · exact List.takeWhile_sublist _

theorem iterate_subset (q : Quirks) (s : Store) (a b : Bytes) (n : Nat) : ∀ x ∈ iterate q s a b n, x ∈ s := by
  intro x hx
  have hx := applyLimit_subset _ _ _ x hx
  split at hx
  · exact (List.mem_filter.mp hx).1
  · split at hx
    · exact (List.mem_filter.mp (List.mem_reverse.mp ((iterDesc_sublist ..).subset hx))).1
    · cases hx

theorem getInternal_le {c : Cfg} {st : Store} {key : Bytes} {rev : Nat} {v : Bytes} {m : Nat} {dealt : Nat}
    (hk : ∀ kv ∈ st, ∃ k r, kv.1 = encode k r ∧ r ≤ dealt)
    (h : getInternal c st key rev = some (v, m)) : m ≤ dealt := by
  unfold getInternal at h
  simp only [] at h
  split at h
  · simp at h
  · rename_i ik v' rest heq
    have hmem : (ik, v') ∈ st := iterate_subset _ _ _ _ _ _ (by rw [heq]; simp)
    obtain ⟨k, r, hkr, hr⟩ := hk _ hmem
    simp only at hkr
    obtain ⟨m', hd, hm'⟩ := decode_encode_le k r
    rw [hkr, hd] at h
    simp only [] at h
    split at h
    · simp at h
    · simp only [Option.some.injEq, Prod.mk.injEq] at h
      omega

/-! ### the core invariant: index record = last applied write -/

/-- the deletion flag an index record carries for a logged value -/
def flagOf : Option Bytes → Bytes
  | none => [0]
  | some _ => []

/-- the last applied write to `k` in a log -/
def lastW (l : List WLog) (k : Bytes) : Option WLog := (l.filter (fun w => w.key == k)).getLast?

theorem lastW_append (l : List WLog) (w : WLog) (k : Bytes) :
    lastW (l ++ [w]) k = if w.key = k then some w else lastW l k := by
  unfold lastW
  rw [List.filter_append]
  by_cases h : w.key = k
  · simp [h]
  · simp [h]

theorem lastW_some {l : List WLog} {k : Bytes} {p : WLog} (h : lastW l k = some p) : p ∈ l ∧ p.key = k := by
  have := List.mem_filter.mp (List.mem_of_getLast? h)
  exact ⟨this.1, by simpa using this.2⟩

def initIdx (g0 : G) (k : Bytes) : Option (Nat × Bool) := (g0.store.get (idxKey k)).bind parseRevision

/-- `C01.ChainAt` with the predecessor made explicit -/
def ChainCond (g0 : G) (p : Option WLog) (w : WLog) : Prop :=
  match p, w.exp with
  | some p, .rev e => p.rev = e ∧ p.rev < w.rev
  | some p, .absent => p.val = none ∧ p.rev < w.rev
  | none, .rev e => ∃ t, initIdx g0 w.key = some (e, t) ∧ e < w.rev
  | none, .absent => initIdx g0 w.key = none ∨ ∃ m, initIdx g0 w.key = some (m, true) ∧ m < w.rev

/-- what the store holds for key `k` whose last applied write is `p` -/
def IdxOK (g0 : G) (store : Store) (p : Option WLog) (k : Bytes) : Prop :=
  match p with
  | some p => store.get (idxKey k) = some (be8 p.rev ++ flagOf p.val) ∧
              store.get (encode k p.rev) = some (p.val.getD tombstone)
  | none => store.get (idxKey k) = g0.store.get (idxKey k)

/-- facts about the initial state (from `C02.StoreOK`) -/
structure G0OK (g0 : G) : Prop where
  keys0 : ∀ kv ∈ g0.store, ∃ k r, kv.1 = encode k r ∧ r ≤ g0.dealt
  idx0 : ∀ k v m t, g0.store.get (idxKey k) = some v → parseRevision v = some (m, t) → m ≤ g0.dealt

structure Core (g0 : G) (store : Store) (dealt : Nat) (wlog : List WLog) : Prop where
  d0 : g0.dealt ≤ dealt
  keys : ∀ kv ∈ store, ∃ k r, kv.1 = encode k r ∧ r ≤ dealt
  revs : ∀ w ∈ wlog, g0.dealt < w.rev ∧ w.rev ≤ dealt
  idx : dealt < 2 ^ 64 → ∀ k, IdxOK g0 store (lastW wlog k) k
  chain : dealt < 2 ^ 64 → ∀ i w, wlog[i]? = some w → ChainCond g0 (lastW (wlog.take i) w.key) w

section
variable {g0 : G} {store : Store} {dealt dealt' : Nat} {wlog : List WLog} {key : Bytes} {rev : Nat} {new v : Bytes}

theorem Core.mono (h : Core g0 store dealt wlog) (hd : dealt ≤ dealt') : Core g0 store dealt' wlog where
  d0 := Nat.le_trans h.d0 hd
  keys := fun kv hkv => by
    obtain ⟨k, r, h1, h2⟩ := h.keys kv hkv
    exact ⟨k, r, h1, Nat.le_trans h2 hd⟩
  revs := fun w hw => ⟨(h.revs w hw).1, Nat.le_trans (h.revs w hw).2 hd⟩
  idx := fun hb => h.idx (by omega)
  chain := fun hb => h.chain (by omega)

/-- the store after an applied write batch -/
def wstore (store : Store) (key : Bytes) (rev : Nat) (new v : Bytes) : Store :=
  (store.put (idxKey key) new).put (encode key rev) v

theorem wstore_get_idx (h0 : 0 < rev) (hr : rev < 2 ^ 64) (k : Bytes) :
    (wstore store key rev new v).get (idxKey k) = if k = key then some new else store.get (idxKey k) := by
  unfold wstore
  rw [Store.get_put_any, if_neg (idxKey_ne_encode h0 hr), Store.get_put_any]
  by_cases h : k = key
  · simp [h]
  · have : idxKey k ≠ idxKey key := fun e => h (encode_inj (by decide) (by decide) e).1
    simp [h, this]

theorem wstore_get_ver (hr : rev < 2 ^ 64) (k : Bytes) (r : Nat) (h0 : 0 < r) (hr' : r < 2 ^ 64) :
    (wstore store key rev new v).get (encode k r) =
      if k = key ∧ r = rev then some v else store.get (encode k r) := by
  unfold wstore
  rw [Store.get_put_any, Store.get_put_any, if_neg (idxKey_ne_encode h0 hr').symm]
  by_cases h : k = key ∧ r = rev
  · simp [h.1, h.2]
  · have : encode k r ≠ encode key rev := fun e => h (encode_inj hr' hr e)
    simp [h, this]

theorem Core.write (h : Core g0 store dealt wlog) (w : WLog) (new v : Bytes)
    (hnew : new = be8 w.rev ++ flagOf w.val) (hv : v = w.val.getD tombstone)
    (hr1 : g0.dealt < w.rev) (hr2 : w.rev ≤ dealt)
    (hch : dealt < 2 ^ 64 → ChainCond g0 (lastW wlog w.key) w) :
    Core g0 (wstore store w.key w.rev new v) dealt (wlog ++ [w]) where
  d0 := h.d0
  keys := fun kv hkv => by
    rcases Store.mem_put hkv with h1 | h1
    · exact ⟨w.key, w.rev, h1, hr2⟩
    · rcases Store.mem_put h1 with h2 | h2
      · exact ⟨w.key, 0, h2, Nat.zero_le _⟩
      · exact h.keys kv h2
  revs := forall_mem_snoc h.revs ⟨hr1, hr2⟩
  idx := fun hb k => by
    have h0 : 0 < w.rev := Nat.lt_of_le_of_lt (Nat.zero_le _) hr1
    have hr : w.rev < 2 ^ 64 := Nat.lt_of_le_of_lt hr2 hb
    rw [lastW_append]
    by_cases hk : w.key = k
    · subst hk
      rw [if_pos rfl]
      exact ⟨by rw [wstore_get_idx h0 hr, if_pos rfl, hnew],
        by rw [wstore_get_ver hr _ _ h0 hr, if_pos ⟨rfl, rfl⟩, hv]⟩
    · rw [if_neg hk]
      have hk' : ¬ k = w.key := fun e => hk e.symm
      have hi := h.idx hb k
      cases hl : lastW wlog k with
      | none => rw [hl] at hi; exact (wstore_get_idx h0 hr k).trans ((if_neg hk').trans hi)
      | some p =>
        rw [hl] at hi
        have hp := h.revs p (lastW_some hl).1
        exact ⟨(wstore_get_idx h0 hr k).trans ((if_neg hk').trans hi.1),
          (wstore_get_ver hr k p.rev (by omega) (by omega)).trans ((if_neg fun e => hk' e.1).trans hi.2)⟩
  chain := fun hb i x hx => by
    by_cases hi : i < wlog.length
    · rw [List.getElem?_append_left hi] at hx
      rw [List.take_append_of_le_length (Nat.le_of_lt hi)]
      exact h.chain hb i x hx
    · have hlen := (List.getElem?_eq_some_iff.mp hx).1
      simp only [List.length_append, List.length_singleton] at hlen
      have hi' : i = wlog.length := by omega
      subst hi'
      simp only [List.getElem?_append_right (Nat.le_refl _), Nat.sub_self, List.getElem?_cons_zero,
        Option.some.injEq] at hx
      subst hx
      rw [List.take_append_of_le_length (Nat.le_refl _), List.take_length]
      exact hch hb

end

/-! ### the index condition of an applied batch gives the chain condition -/

/-- `r` was dealt in this run and no applied write carries it -/
def Fresh (g0 : G) (dealt : Nat) (wlog : List WLog) (r : Nat) : Prop :=
  g0.dealt < r ∧ r ≤ dealt ∧ ∀ w ∈ wlog, w.rev ≠ r

theorem parseRevision_be8_flag {e : Nat} (he : e < 2 ^ 64) (v : Option Bytes) :
    parseRevision (be8 e ++ flagOf v) = some (e, v.isNone) := by
  cases v with
  | none => exact C10.parseRevision_deleted e 0 he
  | some x => simpa [flagOf, be8] using C10.parseRevision_live e he

section chain
variable {g0 : G} {store : Store} {dealt : Nat} {wlog : List WLog} (h : Core g0 store dealt wlog)
  (hb : dealt < 2 ^ 64) {key : Bytes}
include h hb

theorem Core.idx_none (hl : lastW wlog key = none) :
    initIdx g0 key = (store.get (idxKey key)).bind parseRevision := by
  have hi := h.idx hb key
  rw [hl] at hi
  exact congrArg (·.bind parseRevision) hi.symm

theorem Core.idx_some {q : WLog} (hl : lastW wlog key = some q) :
    store.get (idxKey key) = some (be8 q.rev ++ flagOf q.val) ∧ q ∈ wlog ∧ q.rev < 2 ^ 64 := by
  have hi := h.idx hb key
  rw [hl] at hi
  exact ⟨hi.1, (lastW_some hl).1, Nat.lt_of_le_of_lt (h.revs q (lastW_some hl).1).2 hb⟩

theorem chainCond_pine (rev : Nat) (val : Option Bytes) (hget : store.get (idxKey key) = none) :
    ChainCond g0 (lastW wlog key) ⟨key, rev, val, .absent⟩ := by
  cases hl : lastW wlog key with
  | some q => rw [(h.idx_some hb hl).1] at hget; cases hget
  | none => exact Or.inl (by rw [h.idx_none hb hl, hget]; rfl)

theorem chainCond_over (rev : Nat) (val : Option Bytes) {old : Bytes} {p : Nat}
    (hget : store.get (idxKey key) = some old) (hp : parseRevision old = some (p, true)) (hlt : p < rev) :
    ChainCond g0 (lastW wlog key) ⟨key, rev, val, .absent⟩ := by
  cases hl : lastW wlog key with
  | some q =>
    obtain ⟨hi, _, hq⟩ := h.idx_some hb hl
    rw [hget, Option.some.injEq] at hi
    rw [hi, parseRevision_be8_flag hq, Option.some.injEq, Prod.mk.injEq, Option.isNone_iff_eq_none] at hp
    exact ⟨hp.2, hp.1 ▸ hlt⟩
  | none => exact Or.inr ⟨p, by rw [h.idx_none hb hl, hget, Option.bind_some, hp], hlt⟩

theorem chainCond_rev (h0 : G0OK g0) {rev : Nat} (hf : Fresh g0 dealt wlog rev) (val : Option Bytes)
    {e : Nat} {old : Bytes} (hget : store.get (idxKey key) = some old) (hold : old = be8 e ∨ old = be8 e ++ [0])
    (he : e ≤ rev) : ChainCond g0 (lastW wlog key) ⟨key, rev, val, .rev e⟩ := by
  have he64 : e < 2 ^ 64 := Nat.lt_of_le_of_lt (Nat.le_trans he hf.2.1) hb
  obtain ⟨v', rfl⟩ : ∃ v', old = be8 e ++ flagOf v' :=
    hold.elim (fun h => ⟨some [], by rw [h]; exact (List.append_nil _).symm⟩) (fun h => ⟨none, h⟩)
  cases hl : lastW wlog key with
  | some q =>
    obtain ⟨hi, hq, hq64⟩ := h.idx_some hb hl
    rw [hget, Option.some.injEq] at hi
    have hqe : q.rev = e := ((be8_append_inj he64 hq64 hi).1).symm
    exact ⟨hqe, hqe ▸ Nat.lt_of_le_of_ne (hqe ▸ he) (hf.2.2 q hq)⟩
  | none =>
    have hinit : initIdx g0 key = some (e, v'.isNone) := by
      rw [h.idx_none hb hl, hget, Option.bind_some, parseRevision_be8_flag he64]
    obtain ⟨v, hv, hpv⟩ := Option.bind_eq_some_iff.mp hinit
    exact ⟨_, hinit, Nat.lt_of_le_of_lt (h0.idx0 key v e _ hv hpv) hf.1⟩

end chain

/-! ### per-request invariants -/

/-- the revision a request holds and may still write under (= `c.pc.inflight`: `infl_eq`) -/
def infl (c : Client) : Option Nat :=
  match c.pc with
  | .createCommit r => some r
  | .createReread r => some r
  | .createRetry r => some r
  | .createOver r _ _ => some r
  | .createRecheck r _ => some r
  | .updateCommit r => some r
  | .deleteCommit r _ _ => some r
  | _ => none

/-- what is known of the revision a request holds, per program counter: it is `Fresh`; at `createOver` the record seen is
a deletion below it; at `updateCommit` the expected revision is at or below it (the drift guard passed), at `deleteCommit`
the revision read is below it (the `rev ≤ modRev` guard passed). `deleteDeal`, `readLatest`: the kv read is not newer than
the counter, resp. than the revision held. -/
def CInv (g0 : G) (dealt : Nat) (wlog : List WLog) (c : Client) : Prop :=
  match c.pc with
  | .start => True
  | .createCommit r => Fresh g0 dealt wlog r
  | .createReread r => Fresh g0 dealt wlog r
  | .createRetry r => Fresh g0 dealt wlog r
  | .createOver r old _ => Fresh g0 dealt wlog r ∧ ∃ p, parseRevision old = some (p, true) ∧ p < r
  | .createRecheck r _ => Fresh g0 dealt wlog r
  | .updateCommit r => Fresh g0 dealt wlog r ∧ ∀ k v e, c.kind = .update k v e → e ≤ r
  | .deleteDeal none => True
  | .deleteDeal (some (_, m)) => m ≤ dealt
  | .deleteCommit r _ m => Fresh g0 dealt wlog r ∧ m < r
  | .readLatest r fb => ∀ k v m, fb = some (k, v, m) → m ≤ r

section
variable {g0 : G} {d d' : Nat} {wl wl' : List WLog} {l l' : List Client} {c c' x : Client} {r : Nat} {w : WLog}
  {rp : Option RetryPc}

theorem Fresh.mono (h : Fresh g0 d wl r) (hd : d ≤ d') : Fresh g0 d' wl r :=
  ⟨h.1, Nat.le_trans h.2.1 hd, h.2.2⟩

theorem Fresh.log (h : Fresh g0 d wl r) (hw : w.rev ≠ r) : Fresh g0 d (wl ++ [w]) r :=
  ⟨h.1, h.2.1, forall_mem_snoc h.2.2 hw⟩

theorem CInv.fresh (h : CInv g0 d wl c) (hr : infl c = some r) : Fresh g0 d wl r := by
  obtain ⟨id, kind, pc, bd⟩ := c
  cases pc <;> cases hr
  · exact h
  · exact h
  · exact h
  · exact h.1
  · exact h
  · exact h.1
  · exact h.1

theorem CInv.imp (h : CInv g0 d wl c) (hd : d ≤ d')
    (hf : ∀ r, infl c = some r → Fresh g0 d wl r → Fresh g0 d' wl' r) : CInv g0 d' wl' c := by
  obtain ⟨id, kind, pc, bd⟩ := c
  cases pc with
  | start => trivial
  | createCommit r => exact hf r rfl h
  | createReread r => exact hf r rfl h
  | createRetry r => exact hf r rfl h
  | createOver r old att => exact ⟨hf r rfl h.1, h.2⟩
  | createRecheck r att => exact hf r rfl h
  | updateCommit r => exact ⟨hf r rfl h.1, h.2⟩
  | deleteDeal old =>
    rcases old with _ | ⟨_, m⟩
    · trivial
    · exact Nat.le_trans h hd
  | deleteCommit r v m => exact ⟨hf r rfl h.1, h.2⟩
  | readLatest r fb => exact h

theorem CInv.mono (h : CInv g0 d wl c) (hd : d ≤ d') : CInv g0 d' wl c :=
  h.imp hd fun _ _ hf => hf.mono hd

theorem CInv.log (h : CInv g0 d wl c) (hw : infl c ≠ some w.rev) : CInv g0 d (wl ++ [w]) c :=
  h.imp (Nat.le_refl _) fun _ hr hf => hf.log fun e => hw (e ▸ hr)

/-- the requests in flight: each satisfies its invariant, and no two hold the same revision -/
def Cl (g0 : G) (dealt : Nat) (wlog : List WLog) (l : List Client) : Prop :=
  (∀ c ∈ l, CInv g0 dealt wlog c) ∧
  (∀ c1 ∈ l, ∀ c2 ∈ l, c1.id ≠ c2.id → ∀ r, infl c1 = some r → infl c2 ≠ some r)

theorem Cl.mono (h : Cl g0 d wl l) (hd : d ≤ d') : Cl g0 d' wl l :=
  ⟨fun c hc => (h.1 c hc).mono hd, h.2⟩

theorem Cl.sub (h : Cl g0 d wl l) (hs : ∀ c ∈ l', c ∈ l) : Cl g0 d wl l' :=
  ⟨fun c hc => h.1 c (hs c hc), fun c1 h1 c2 h2 => h.2 c1 (hs c1 h1) c2 (hs c2 h2)⟩

theorem Cl.log (h : Cl g0 d wl l) (hw : ∀ c ∈ l, infl c ≠ some w.rev) : Cl g0 d (wl ++ [w]) l :=
  ⟨fun c hc => (h.1 c hc).log (hw c hc), h.2⟩

theorem Cl.le_dealt (h : Cl g0 d wl l) (hx : x ∈ l) (hr : infl x = some r) : r ≤ d :=
  ((h.1 x hx).fresh hr).2.1

/-- members of the client list other than the stepping request -/
def others (l : List Client) (id : Nat) : List Client := l.filter (fun x => x.id != id)

theorem mem_others {id : Nat} : x ∈ others l id ↔ x ∈ l ∧ x.id ≠ id := by
  simp [others]

theorem Cl.others_ne (h : Cl g0 d wl l) (hc : c ∈ l) (hr : infl c = some r) :
    ∀ x ∈ others l c.id, infl x ≠ some r := by
  intro x hx
  rw [mem_others] at hx
  exact h.2 c hc x hx.1 (fun e => hx.2 e.symm) r hr

theorem Cl.insert (h : Cl g0 d wl l) (hc : CInv g0 d wl c')
    (hd : ∀ r, infl c' = some r → ∀ x ∈ l, infl x ≠ some r)
    (hmem : ∀ y ∈ l', y = c' ∨ y ∈ l) : Cl g0 d wl l' := by
  constructor
  · intro y hy
    rcases hmem y hy with rfl | hy
    · exact hc
    · exact h.1 y hy
  · intro c1 h1 c2 h2 hne r hr1 hr2
    rcases hmem c1 h1 with rfl | h1 <;> rcases hmem c2 h2 with rfl | h2
    · exact hne rfl
    · exact hd r hr1 c2 h2 hr2
    · exact hd r hr2 c1 h1 hr1
    · exact h.2 c1 h1 c2 h2 hne r hr1 hr2

theorem Cl.set (h : Cl g0 d wl (others l c'.id)) (hc : CInv g0 d wl c')
    (hd : ∀ r, infl c' = some r → ∀ x ∈ others l c'.id, infl x ≠ some r) :
    Cl g0 d wl (l.map (fun x => if x.id == c'.id then c' else x)) := by
  refine h.insert hc hd fun y hy => ?_
  obtain ⟨x, hx, rfl⟩ := List.mem_map.mp hy
  by_cases e : x.id = c'.id
  · left; simp [e]
  · right; simp [e, mem_others, hx]

theorem Cl.spawn (h : Cl g0 d wl l) (c : Client) (hc : c.pc = .start) : Cl g0 d wl (l ++ [c]) := by
  refine h.insert (c' := c) (by rw [CInv, hc]; trivial) (fun r hr => ?_)
    fun y hy => (List.mem_append.mp hy).symm.imp List.mem_singleton.mp id
  rw [infl, hc] at hr
  cases hr

/-- finished requests: a kv carried by a failed-condition response is not newer than the header -/
def Dn (done : List Done) : Prop :=
  ∀ d ∈ done, ∀ hdr k v m, d.res = .condFailed hdr (some (k, v, m)) → m ≤ hdr

def toH (w : WLog) : HWrite := { key := w.key, rev := w.rev, val := w.val }

/-- the retry loop between its read and its commit: the revision it was dealt is fresh and above the
revision it repairs -/
def RpOK (g0 : G) (dealt : Nat) (wlog : List WLog) (rp : Option RetryPc) : Prop :=
  ∀ p, rp = some p → Fresh g0 dealt wlog p.rev ∧ p.w.rev < p.rev

theorem RpOK.mono (h : RpOK g0 d wl rp) (hd : d ≤ d') : RpOK g0 d' wl rp :=
  fun p hp => ⟨(h p hp).1.mono hd, (h p hp).2⟩

theorem RpOK.log (h : RpOK g0 d wl rp) (hw : ∀ p, rp = some p → p.rev ≠ w.rev) : RpOK g0 d (wl ++ [w]) rp :=
  fun p hp => ⟨(h p hp).1.log (fun e => hw p hp e.symm), (h p hp).2⟩

theorem RpOK.none (g0 : G) (d : Nat) (wl : List WLog) : RpOK g0 d wl none := fun _ hp => by cases hp

end

/-- the invariant of reachable states, with the client list `l` in place of `g.clients`: `l = others g.clients id`
leaves out the request in the middle of its step -/
structure SInvE (g0 : G) (g : G) (l : List Client) : Prop where
  core : Core g0 g.store g.dealt g.wlog
  hist : g.hist = g.wlog.map toH
  cl : Cl g0 g.dealt g.wlog l
  dn : Dn g.done
  rp : RpOK g0 g.dealt g.wlog g.retryPc

abbrev SInv (g0 g : G) : Prop := SInvE g0 g g.clients

/-! ### the state updates preserve the invariant

While a request takes its step it is left out of the client list (`SInvE … (others g.clients c.id)`): the
updates in the middle of the step (`deal`, `notify'`, `commitPine` / `commitCas`) keep that form, the update that ends the step
(`finish`, `setHeld`, `setIdle`) puts the request back or drops it. -/

@[simp] theorem G.finish_clients (g : G) (c : Client) (res : WriteRes) (rev : Nat) :
    (g.finish c res rev).clients = others g.clients c.id := rfl

section
variable (g : G) (r : CommitRes) (st : Store) (f : Fault) (key : Bytes) (rev : Nat) (val : Option Bytes) (exp : Expect)

@[simp] theorem afterCommit_retryPc : (afterCommit g r st f key rev val exp).retryPc = g.retryPc := by
  unfold afterCommit; split <;> rfl

@[simp] theorem afterCommit_clients : (afterCommit g r st f key rev val exp).clients = g.clients := by
  unfold afterCommit; split <;> rfl

@[simp] theorem afterCommit_dealt : (afterCommit g r st f key rev val exp).dealt = g.dealt := by
  unfold afterCommit; split <;> rfl

theorem afterCommit_conflict (i : Option Nat) (cv : Option Bytes) :
    afterCommit g (.conflict i cv) st f key rev val exp = { g with store := st } := by
  simp [afterCommit, applied]

end

theorem infl_eq (c : Client) : infl c = c.pc.inflight := by
  obtain ⟨id, kind, pc, bd⟩ := c
  cases pc <;> rfl

section
variable {g0 g : G} {l : List Client} {c : Client} {id : Nat}

theorem SInvE.notify {g0 g : G} {l : List Client} (h : SInvE g0 g l) (w : WEvent) : SInvE g0 (g.notify w) l := by
  refine ⟨?_, ?_, ?_, ?_, ?_⟩
  · simpa using h.core
  · simpa using h.hist
  · simpa using h.cl
  · simpa using h.dn
  · simpa using h.rp

theorem SInvE.ofClients (h : SInvE g0 g (others l id)) (e : g.clients = l) :
    SInvE g0 g (others g.clients id) := by
  rw [e]; exact h

theorem SInvE.toSInv (h : SInvE g0 g l) (e : g.clients = l) : SInv g0 g := by
  rw [SInv, e]; exact h

theorem SInvE.notify' (h : SInvE g0 g (others g.clients id)) (w : WEvent) :
    SInvE g0 (g.notify w) (others (g.notify w).clients id) :=
  (h.notify w).ofClients (G.notify_clients g w)

theorem SInvE.deal (h : SInvE g0 g l) : SInvE g0 { g with dealt := g.dealt + 1 } l :=
  ⟨h.core.mono (Nat.le_succ _), h.hist, h.cl.mono (Nat.le_succ _), h.dn, h.rp.mono (Nat.le_succ _)⟩

theorem fresh_deal {g0 : G} {store : Store} {dealt : Nat} {wlog : List WLog} (h : Core g0 store dealt wlog) :
    Fresh g0 (dealt + 1) wlog (dealt + 1) :=
  ⟨Nat.lt_succ_of_le h.d0, Nat.le_refl _, fun w hw => by have := (h.revs w hw).2; omega⟩

theorem SInvE.finish (h : SInvE g0 g (others g.clients c.id)) {res : WriteRes} (rev : Nat)
    (hres : ∀ hdr k v m, res = .condFailed hdr (some (k, v, m)) → m ≤ hdr) : SInv g0 (g.finish c res rev) := by
  refine ⟨h.core, h.hist, h.cl, ?_, h.rp⟩
  intro d hd
  simp only [G.finish, List.mem_append, List.mem_singleton] at hd
  rcases hd with hd | rfl
  · exact h.dn d hd
  · exact hres

theorem SInvE.setHeld (h : SInvE g0 g (others g.clients c.id)) (pc : Pc) {rev : Nat}
    (hi : pc.inflight = some rev) (ho : ∀ x ∈ others g.clients c.id, infl x ≠ some rev)
    (hc : CInv g0 g.dealt g.wlog { c with pc := pc }) : SInv g0 (g.setClient { c with pc := pc }) :=
  ⟨h.core, h.hist,
    h.cl.set (c' := { c with pc := pc }) hc (fun r hr => by rw [infl_eq, hi] at hr; cases hr; exact ho), h.dn, h.rp⟩

theorem SInvE.setIdle (h : SInvE g0 g (others g.clients c.id)) (pc : Pc)
    (hi : pc.inflight = none) (hc : CInv g0 g.dealt g.wlog { c with pc := pc }) :
    SInv g0 (g.setClient { c with pc := pc }) :=
  ⟨h.core, h.hist, h.cl.set (c' := { c with pc := pc }) hc (fun r hr => by rw [infl_eq, hi] at hr; cases hr), h.dn,
    h.rp⟩

theorem SInvE.finishCreate (h : SInvE g0 g (others g.clients c.id)) (key val : Bytes)
    (rev : Nat) (r : CommitRes) : SInv g0 (finishCreate g c key val rev r) := by
  have h' := h.notify' (mkW rev 0 (r == .ok) .create key val (r == .uncertain))
  unfold KB.finishCreate
  split
  · exact h'.finish _ nofun
  · split
    · exact h'.setIdle _ rfl nofun
    · exact h'.finish _ nofun
  · exact h'.finish _ nofun

end

theorem SInvE.createSawIndex {g0 g : G} {c : Client} (h : SInvE g0 g (others g.clients c.id)) (key val : Bytes)
    {rev : Nat} (old : Bytes) (hf : Fresh g0 g.dealt g.wlog rev) (ho : ∀ x ∈ others g.clients c.id, infl x ≠ some rev)
    (att : Nat) :
    SInv g0 (createSawIndex g c key val rev old att) := by
  unfold KB.createSawIndex
  split
  · exact h.finishCreate ..
  · rename_i prevRev tomb hp
    refine iteInduction (fun hc => ?_) fun _ => h.finishCreate ..
    simp only [Bool.and_eq_true, decide_eq_true_eq] at hc
    exact h.setHeld _ rfl ho ⟨hf, prevRev, by rw [hp, hc.1], hc.2⟩

/-! ### the commit step -/

theorem doCommit_pine_cases {c : Cfg} {s : Store} {idx new ver v : Bytes} {f : Fault} {r : CommitRes} {st : Store}
    (hdc : doCommit c s [.pine idx new, .put ver v] f = (r, st)) :
    (applied r f = true ∧ s.get idx = none ∧ st = (s.put idx new).put ver v) ∨ (applied r f = false ∧ st = s) :=
  (doCommit_cases hdc).imp (fun h => ⟨h.1, (commit_pine_put ..).mp h.2⟩) id

theorem doCommit_cas_cases {c : Cfg} {s : Store} {idx new old ver v : Bytes} {f : Fault} {r : CommitRes} {st : Store}
    (hdc : doCommit c s [.cas idx new old, .put ver v] f = (r, st)) :
    (applied r f = true ∧ s.get idx = some old ∧ st = (s.put idx new).put ver v) ∨ (applied r f = false ∧ st = s) :=
  (doCommit_cases hdc).imp (fun h => ⟨h.1, (commit_cas_put ..).mp h.2⟩) id

theorem SInvE.afterCommit {g0 g : G} {l : List Client} (h : SInvE g0 g l)
    {rev : Nat} (hf : Fresh g0 g.dealt g.wlog rev) (ho : ∀ x ∈ l, infl x ≠ some rev)
    (hrp : ∀ p, g.retryPc = some p → p.rev ≠ rev)
    {r : CommitRes} {st : Store} {f : Fault} {key : Bytes} {val : Option Bytes} {exp : Expect} {new v : Bytes}
    (hnew : new = be8 rev ++ flagOf val) (hv : v = val.getD tombstone)
    (hcase : (applied r f = true ∧ st = wstore g.store key rev new v ∧
               (g.dealt < 2 ^ 64 → ChainCond g0 (lastW g.wlog key) ⟨key, rev, val, exp⟩)) ∨
             (applied r f = false ∧ st = g.store)) :
    SInvE g0 (afterCommit g r st f key rev val exp) l := by
  unfold KB.SysStore.afterCommit
  rcases hcase with ⟨ha, hst, hch⟩ | ⟨ha, hst⟩
  · rw [if_pos ha]
    refine ⟨?_, ?_, ?_, h.dn, ?_⟩
    · simp only [G.logWrite, hst]
      exact h.core.write ⟨key, rev, val, exp⟩ new v hnew hv hf.1 hf.2.1 hch
    · simp [G.logWrite, h.hist, toH]
    · simp only [G.logWrite]
      exact h.cl.log ho
    · simp only [G.logWrite]
      exact h.rp.log hrp
  · rw [ha]
    simp only [Bool.false_eq_true, if_false, hst]
    exact ⟨h.core, h.hist, h.cl, h.dn, h.rp⟩

section commit
variable {g0 g : G} {l : List Client} (h : SInvE g0 g l)
  {rev : Nat} (hf : Fresh g0 g.dealt g.wlog rev) (ho : ∀ x ∈ l, infl x ≠ some rev)
  (hrp : ∀ p, g.retryPc = some p → p.rev ≠ rev) {r : CommitRes} {st : Store} {f : Fault} {key : Bytes}
include h hf ho hrp

theorem SInvE.commitPine {val : Bytes} (hdc : doCommit g.cfg g.store (createOps key val rev) f = (r, st)) :
    SInvE g0 (SysStore.afterCommit g r st f key rev (some val) .absent) l := by
  refine h.afterCommit hf ho hrp (new := be8 rev) (v := val) (by simp [flagOf]) rfl ((doCommit_pine_cases hdc).imp ?_ id)
  exact fun ⟨ha, hget, hst⟩ => ⟨ha, hst, fun hb => chainCond_pine h.core hb rev (some val) hget⟩

theorem SInvE.commitCas {val : Option Bytes} {exp : Expect} {new old v : Bytes} (hnew : new = be8 rev ++ flagOf val)
    (hv : v = val.getD tombstone)
    (hdc : doCommit g.cfg g.store [.cas (idxKey key) new old, .put (encode key rev) v] f = (r, st))
    (hch : g.store.get (idxKey key) = some old → g.dealt < 2 ^ 64 →
      ChainCond g0 (lastW g.wlog key) ⟨key, rev, val, exp⟩) :
    SInvE g0 (SysStore.afterCommit g r st f key rev val exp) l :=
  h.afterCommit hf ho hrp hnew hv ((doCommit_cas_cases hdc).imp (fun ⟨ha, hget, hst⟩ => ⟨ha, hst, hch hget⟩) id)

end commit

/-! ### one client step preserves the invariant -/

theorem bget_found {c : Cfg} {st : Store} {k : Bytes} {r : Nat} {v : Bytes} {m : Nat}
    (h : bget c st k r = .found v m) : getInternal c st k r = some (v, m) := by
  unfold bget at h
  split at h
  · simp at h
  · split at h
    · simp at h
    · rename_i heq _
      simp only [GetRes.found.injEq] at h
      rw [heq, h.1, h.2]

theorem SInv.stepClient {g0 g : G} (h0 : G0OK g0) (hv : KB.SInv g.view) (h : SInv g0 g) {c : Client}
    (hc : c ∈ g.clients) (f : Fault) : SInv g0 (stepClient g c f) := by
  have hci := h.cl.1 c hc
  have hE : SInvE g0 g (others g.clients c.id) :=
    ⟨h.core, h.hist, h.cl.sub fun _ hx => (mem_others.mp hx).1, h.dn, h.rp⟩
  have hnew := fresh_deal h.core
  have hon : ∀ x ∈ others g.clients c.id, infl x ≠ some (g.dealt + 1) := fun x hx e =>
    Nat.lt_irrefl _ (h.cl.le_dealt (mem_others.mp hx).1 e)
  have held : ∀ {rev}, infl c = some rev → Fresh g0 g.dealt g.wlog rev ∧
      (∀ x ∈ others g.clients c.id, infl x ≠ some rev) ∧ ∀ p, g.retryPc = some p → p.rev ≠ rev := by
    intro rev hi
    refine ⟨hci.fresh hi, h.cl.others_ne hc hi, fun p hp e => ?_⟩
    rw [infl_eq] at hi
    exact hv.rpcInfl c hc rev hi (by simp [G.view, hp, e])
  apply stepClient_cases'
  case hStartCreate =>
    intros
    exact hE.deal.setHeld _ rfl hon hnew
  case hStartUpdate =>
    intro key val exp _ hk
    refine iteInduction (fun _ => hE.deal.setHeld _ rfl hon hnew) fun _ => iteInduction (fun _ => ?_) fun hlt => ?_
    · exact (hE.deal.notify' _).finish _ nofun
    · refine hE.deal.setHeld _ rfl hon ⟨hnew, fun k v e he => ?_⟩
      rw [hk] at he
      cases he
      exact Nat.le_of_lt (Nat.lt_of_not_le hlt)
  case hCreateCommit =>
    intro rev key val r st hpc _ hdc
    obtain ⟨hf, ho, hr⟩ := held (rev := rev) (by rw [infl, hpc])
    have hA := (hE.commitPine hf ho hr hdc).ofClients (afterCommit_clients ..)
    split
    · rw [afterCommit_conflict] at hA ⊢
      exact iteInduction (fun _ => hA.createSawIndex key val _ hf ho _) fun _ => hA.setHeld _ rfl ho hf
    · exact hA.finishCreate ..
  case hCreateReread =>
    intro rev key val hpc _
    obtain ⟨hf, ho, _⟩ := held (rev := rev) (by rw [infl, hpc])
    split
    · exact hE.createSawIndex key val _ hf ho _
    · exact hE.setHeld _ rfl ho hf
  case hCreateRetry =>
    intro rev key val r st hpc _ hdc
    obtain ⟨hf, ho, hr⟩ := held (rev := rev) (by rw [infl, hpc])
    exact ((hE.commitPine hf ho hr hdc).ofClients (afterCommit_clients ..)).finishCreate ..
  case hCreateOver =>
    intro rev old att key val r st hpc _ hdc
    obtain ⟨hf, ho, hr⟩ := held (rev := rev) (by rw [infl, hpc])
    simp only [CInv, hpc] at hci
    obtain ⟨_, p, hp, hlt⟩ := hci
    have hA := (hE.commitCas hf ho hr (val := some val) (exp := .absent) (by simp [flagOf]) rfl hdc
      fun hget hb => chainCond_over h.core hb rev (some val) hget hp hlt).ofClients (afterCommit_clients ..)
    split
    · rw [afterCommit_conflict] at hA ⊢
      exact hA.setHeld _ rfl ho hf
    · exact hA.finishCreate ..
  case hCreateRecheck =>
    intro rev att key val hpc _
    obtain ⟨hf, ho, _⟩ := held (rev := rev) (by rw [infl, hpc])
    split
    · exact iteInduction (fun _ => hE.finishCreate ..) fun _ => hE.createSawIndex key val _ hf ho _
    · exact hE.setHeld _ rfl ho hf
  case hUpdateCommit =>
    intro rev key val exp r st hpc hk hdc
    obtain ⟨hf, ho, hr⟩ := held (rev := rev) (by rw [infl, hpc])
    simp only [CInv, hpc] at hci
    have hA := (hE.commitCas hf ho hr (val := some val) (exp := .rev exp) (by simp [flagOf]) rfl hdc
      fun hget hb => chainCond_rev h.core hb h0 hf (some val) hget (.inl rfl) (hci.2 _ _ _ hk)).ofClients (afterCommit_clients ..) |>.notify'
      (mkW rev exp (r == .ok) .put key val (r == .uncertain))
    split
    · exact hA.finish _ nofun
    · exact hA.setIdle _ rfl nofun
    · exact hA.finish _ nofun
  case hStartDelete =>
    intro key exp _ _
    split
    · exact hE.setIdle _ rfl trivial
    · exact hE.setIdle _ rfl (getInternal_le h.core.keys (bget_found ‹_›))
  case hDeleteDealNone =>
    intros
    exact (hE.deal.notify' _).finish _ nofun
  case hDeleteDealSome =>
    intro oldVal modRev key exp hpc _
    simp only [CInv, hpc] at hci
    refine iteInduction (fun _ => (hE.deal.notify' _).finish _ nofun) fun _ => iteInduction (fun _ => ?_) fun _ =>
      iteInduction (fun _ => (hE.deal.notify' _).finish _ nofun) fun hlt => ?_
    · refine (hE.deal.notify' _).setIdle _ rfl fun k v m hm => ?_
      cases hm
      exact Nat.le_succ_of_le hci
    · exact hE.deal.setHeld _ rfl hon ⟨hnew, Nat.lt_of_not_le hlt⟩
  case hDeleteCommit =>
    intro rev oldVal modRev key exp r st hpc _ hdc
    obtain ⟨hf, ho, hr⟩ := held (rev := rev) (by rw [infl, hpc])
    simp only [CInv, hpc] at hci
    have hA := (hE.commitCas hf ho hr (val := none) (exp := .rev modRev) rfl rfl hdc
      fun hget hb => chainCond_rev h.core hb h0 hf none hget (.inl rfl) (Nat.le_of_lt hci.2)).ofClients (afterCommit_clients ..) |>.notify'
      (mkW rev modRev (r == .ok) .delete key oldVal (r == .uncertain))
    split
    · exact hA.finish _ nofun
    · refine hA.setIdle _ rfl fun k v m hm => ?_
      cases hm
      exact Nat.le_of_lt hci.2
    · exact hA.finish _ nofun
  case hReadLatest =>
    intro rev fb hpc
    simp only [CInv, hpc] at hci
    split
    · refine hE.finish _ fun hdr k v m hres => ?_
      cases hres
      exact Nat.le_max_right ..
    · refine hE.finish _ fun hdr k v m hres => ?_
      cases hres
      exact hci k v m rfl
  case hNop => exact h
  case hRefuse =>
    intro _ _
    exact ⟨hE.core, hE.hist, hE.cl, hE.dn, hE.rp⟩

/-! ### the other actions, runs, initial states -/

theorem SInv.stepRetryRead {g0 g : G} (h : SInv g0 g) : SInv g0 (stepRetryRead g) := by
  apply stepRetryRead_cases
  case hBusy => intros; exact h
  case hNop => intros; exact h
  case hPop => intro w rest _ _ _; exact ⟨h.core, h.hist, h.cl, h.dn, h.rp⟩
  case hDeal =>
    intro w rest val _ _ hget _ _
    have hd := SInvE.deal h
    refine ⟨hd.core, hd.hist, hd.cl, hd.dn, fun p hp => ?_⟩
    cases hp
    exact ⟨fresh_deal h.core, Nat.lt_succ_of_le (getInternal_le h.core.keys hget)⟩
  case hFull => intros; exact h

theorem SInv.stepRetryCommit {g0 g : G} (h0 : G0OK g0) (hv : KB.SInv g.view) (h : SInv g0 g) (f : Fault) :
    SInv g0 (stepRetryCommit g f) := by
  apply stepRetryCommit_cases
  · intro _; exact h
  · intro p r st hp hdc
    obtain ⟨hfr, hlt⟩ := h.rp p hp
    have hE : SInvE g0 { g with retryPc := none, retryQ := if r == CommitRes.ok || r.isCas then g.retryQ.drop 1 else g.retryQ }
        g.clients := ⟨h.core, h.hist, h.cl, h.dn, RpOK.none _ _ _⟩
    have ho : ∀ x ∈ g.clients, infl x ≠ some p.rev := fun x hx e =>
      hv.rpcInfl x hx p.rev (infl_eq x ▸ e) (by simp [G.view, hp])
    have hA := hE.commitCas hfr ho (fun _ hq => nomatch hq) (val := if isTomb p.val then none else some p.val)
      (exp := .rev p.w.rev) (by split <;> rfl)
      (by split
          · simpa [isTomb] using ‹isTomb p.val = true›
          · rfl) hdc
      fun hget hb => chainCond_rev h.core hb h0 hfr _ hget (by split <;> simp) (Nat.le_of_lt hlt)
    exact (hA.notify _).toSInv (by simp)

theorem SInv.stepSeq {g0 g : G} (h : SInv g0 g) : SInv g0 (stepSeq g) := by
  unfold KB.stepSeq
  split
  · exact h
  · exact ⟨h.core.mono (Nat.le_max_left _ _), h.hist, h.cl.mono (Nat.le_max_left _ _), h.dn,
      h.rp.mono (Nat.le_max_left _ _)⟩

theorem SInv.act {g0 g : G} (h0 : G0OK g0) (hv : KB.SInv g.view) (h : SInv g0 g) (a : Action) :
    SInv g0 (act g a) :=
  act_cases g a h (fun _ _ _ _ => ⟨h.core, h.hist, h.cl.spawn _ rfl, h.dn, h.rp⟩) (fun _ f hc => h.stepClient h0 hv hc f)
    h.stepSeq (fun f => h.stepRetryRead.stepRetryCommit h0 (stepRetryRead_P KB.SInv.closed hv) f) h.stepRetryRead
    (h.stepRetryCommit h0 hv)

theorem SInv.run {g0 g : G} (h0 : G0OK g0) (hv : KB.SInv g.view) (h : SInv g0 g) (sched : List Action) :
    SInv g0 (run g sched) := by
  induction sched generalizing g with
  | nil => exact h
  | cons a s ih => exact ih (act_P KB.SInv.closed a hv) (h.act h0 hv a)

theorem idx_of_storeOK {g0 : G} (hs : C02.StoreOK g0) {k v : Bytes} (hget : g0.store.get (idxKey k) = some v) :
    ∃ m t, parseRevision v = some (m, t) ∧ m ≤ g0.dealt := by
  obtain ⟨recs, hst, _, hrecs, _⟩ := hs
  have hmem := Store.mem_of_get hget
  rw [hst] at hmem
  obtain ⟨r, hr, e⟩ := List.mem_map.mp hmem
  simp only [Prod.mk.injEq] at e
  have hrr := (hrecs r hr).2
  rw [← e.2]
  exact hrr.2 (encode_inj (by omega) (by decide) e.1).2

theorem G0OK.of_storeOK {g0 : G} (hs : C02.StoreOK g0) : G0OK g0 := by
  constructor
  · intro kv hkv
    obtain ⟨recs, hst, _, hrecs, _⟩ := hs
    rw [hst] at hkv
    obtain ⟨r, hr, rfl⟩ := List.mem_map.mp hkv
    exact ⟨r.key, r.rev, rfl, (hrecs r hr).2.1⟩
  · intro k v m t hget hp
    obtain ⟨m', t', hp', hm'⟩ := idx_of_storeOK hs hget
    cases hp'.symm.trans hp
    exact hm'

theorem SInv.init {g0 : G} (hi : C02.Init g0) (h0 : G0OK g0) : SInv g0 g0 := by
  obtain ⟨⟨_, _, hcl, _, hp⟩, hh, hw, hd⟩ := hi
  refine ⟨⟨Nat.le_refl _, h0.keys0, ?_, ?_, ?_⟩, ?_, ?_, ?_, ?_⟩
  · simp [hw]
  · intro _ k; simp [hw, lastW, IdxOK]
  · simp [hw]
  · simp [hh, hw]
  · simp [hcl, Cl]
  · simp [hd, Dn]
  · rw [hp]; exact RpOK.none _ _ _

theorem vinv_init {g0 : G} (hi : C02.Init g0) : KB.SInv g0.view :=
  KB.SInv.init hi.1.1 hi.1.2.1 hi.1.2.2.1 hi.1.2.2.2.2

theorem SInv.reachable {g0 g : G} (hi : C02.Init g0) (hs : C02.StoreOK g0) (hr : Reachable g0 g) : SInv g0 g := by
  obtain ⟨sched, rfl⟩ := hr
  exact (SInv.init hi (G0OK.of_storeOK hs)).run (G0OK.of_storeOK hs) (vinv_init hi) sched

/-! ### consequences of the chain property -/

theorem ChainCond.lt {g0 : G} {p w : WLog} (h : ChainCond g0 (some p) w) : p.rev < w.rev := by
  unfold ChainCond at h
  cases he : w.exp <;> rw [he] at h <;> exact h.2

theorem ChainCond.rev_lt {g0 : G} {p : Option WLog} {w : WLog} {e : Nat} (h : ChainCond g0 p w)
    (he : w.exp = .rev e) : e < w.rev := by
  unfold ChainCond at h
  rw [he] at h
  cases p with
  | none => obtain ⟨_, _, h2⟩ := h; exact h2
  | some q => exact h.1 ▸ h.2

theorem pairwise_le_last {l : List WLog} (hp : (l.map (·.rev)).Pairwise (· < ·)) {p a : WLog}
    (hl : l.getLast? = some p) (ha : a ∈ l) : a.rev ≤ p.rev := by
  obtain ⟨ys, rfl⟩ := List.getLast?_eq_some_iff.mp hl
  rw [List.map_append, List.pairwise_append] at hp
  rcases List.mem_append.mp ha with ha | ha
  · exact Nat.le_of_lt (hp.2.2 a.rev (List.mem_map_of_mem ha) p.rev (by simp))
  · simp only [List.mem_singleton] at ha; subst ha; exact Nat.le_refl _

theorem le_lastW {l : List WLog} {k : Bytes} (hp : ((l.filter (fun w => w.key == k)).map (·.rev)).Pairwise (· < ·))
    {a : WLog} (ha : a ∈ l.filter (fun w => w.key == k)) : ∃ p, lastW l k = some p ∧ a.rev ≤ p.rev := by
  cases hl : lastW l k with
  | none => rw [lastW, List.getLast?_eq_none_iff] at hl; rw [hl] at ha; cases ha
  | some p => exact ⟨p, rfl, pairwise_le_last hp hl ha⟩

def ChainAll (g0 : G) (l : List WLog) : Prop :=
  ∀ i w, l[i]? = some w → ChainCond g0 (lastW (l.take i) w.key) w

theorem chain_pairwise_take {g0 : G} {l : List WLog} (h : ChainAll g0 l) (k : Bytes) (n : Nat) :
    (((l.take n).filter (fun w => w.key == k)).map (·.rev)).Pairwise (· < ·) := by
  induction n with
  | zero => simp
  | succ n ih =>
    by_cases hn : n < l.length
    · rw [List.take_succ_eq_append_getElem hn, List.filter_append, List.map_append]
      by_cases hk : l[n].key = k
      · have hc := h n l[n] (List.getElem?_eq_getElem hn)
        rw [hk] at hc
        simp only [List.filter_cons, hk, beq_self_eq_true, if_true, List.filter_nil, List.map_cons, List.map_nil]
        refine List.pairwise_append.mpr ⟨ih, by simp, fun a ha b hb => ?_⟩
        obtain ⟨x, hx, rfl⟩ := List.mem_map.mp ha
        obtain ⟨p, hl, hle⟩ := le_lastW ih hx
        rw [hl] at hc
        rw [List.mem_singleton.mp hb]
        exact Nat.lt_of_le_of_lt hle hc.lt
      · simp [hk, ih]
    · rw [List.take_of_length_le (by omega)]
      rw [List.take_of_length_le (by omega)] at ih
      exact ih

theorem chain_pairwise {g0 : G} {l : List WLog} (h : ChainAll g0 l) (k : Bytes) :
    ((l.filter (fun w => w.key == k)).map (·.rev)).Pairwise (· < ·) := by
  have := chain_pairwise_take h k l.length
  rwa [List.take_length] at this

theorem chain_no_double {g0 : G} {l : List WLog} (h : ChainAll g0 l) (i j : Nat) (wi wj : WLog)
    (hi : l[i]? = some wi) (hj : l[j]? = some wj) (hij : i < j) (hk : wi.key = wj.key) (e : Nat)
    (hei : wi.exp = .rev e) (hej : wj.exp = .rev e) : False := by
  have hmem : wi ∈ (l.take j).filter (fun w => w.key == wj.key) :=
    List.mem_filter.mpr ⟨List.mem_of_getElem? ((List.getElem?_take_of_lt hij).trans hi), by simp [hk]⟩
  -- the later write names its predecessor `p`, which is at or above the earlier write, which is above `e`
  obtain ⟨p, hl, hle⟩ := le_lastW (chain_pairwise_take h wj.key j) hmem
  have hcj := h j wj hj
  rw [hl] at hcj
  unfold ChainCond at hcj
  rw [hej] at hcj
  exact Nat.lt_irrefl e (Nat.lt_of_lt_of_le ((h i wi hi).rev_lt hei) (hcj.1 ▸ hle))

/-! ### why the `dealt < 2 ^ 64` hypothesis: past 2^64 the 8-byte revision wraps -/

theorem bget_nil (c : Cfg) (k : Bytes) : bget c [] k 0 = .notFound 0 := by
  have : ∀ a b n, iterate c.q [] a b n = [] := fun a b n =>
    List.eq_nil_iff_forall_not_mem.mpr fun x hx => nomatch iterate_subset c.q [] a b n x hx
  simp [bget, getInternal, this]

theorem run_append (g : G) (a b : List Action) : run g (a ++ b) = run (run g a) b := by
  simp [run, List.foldl_append]

/-- a delete of a missing key, then the sequencer: consumes one revision and changes nothing else that matters -/
def bump : List Action := [.begin 0 (.delete [] 0), .step 0 .none, .step 0 .none, .seq]

/-- what `bump` needs and keeps -/
structure Calm (g : G) : Prop where
  clients : g.clients = []
  store : g.store = []
  slots : g.slots = []
  caught : g.committed = g.dealt
  ring : 1 < g.cfg.ringLen

theorem Calm.open {g : G} (h : Calm g) : g.windowFull = false := by
  have := h.ring
  simp only [G.windowFull, windowFullAt, h.caught, Bool.and_eq_false_iff, decide_eq_false_iff_not]
  right; omega

theorem run_bump (g : G) (h : Calm g) :
    Calm (run g bump) ∧ (run g bump).wlog = g.wlog ∧ (run g bump).dealt = g.dealt + 1 := by
  have hwf := h.open
  obtain ⟨hc, hs, hsl, hcd, hr⟩ := h
  obtain ⟨cfg, store, dealt, committed, slots, retryQ, retryPc, clients, emitted, hist, wlog, done, begins, spans,
    refused⟩ := g
  simp only at hc hs hsl hcd hr
  subst hc hs hsl hcd
  have hwf : windowFullAt cfg committed committed = false := hwf
  -- the four actions, evaluated once
  generalize hg : run _ bump = g'
  simp [run, bump, act, G.client, stepClient, stepClientCore, dealSite, G.windowFull, hwf, bget_nil, G.setClient,
    G.finish, G.notify, mkW, stepSeq] at hg
  subst hg
  exact ⟨⟨rfl, rfl, rfl, rfl, hr⟩, rfl, rfl⟩

def bumps : Nat → List Action
  | 0 => []
  | n + 1 => bump ++ bumps n

theorem run_bumps (n : Nat) (g : G) (h : Calm g) :
    Calm (run g (bumps n)) ∧ (run g (bumps n)).wlog = g.wlog ∧ (run g (bumps n)).dealt = g.dealt + n := by
  induction n generalizing g with
  | zero => exact ⟨h, rfl, rfl⟩
  | succ n ih =>
    obtain ⟨h1, h3, h4⟩ := run_bump g h
    obtain ⟨i1, i3, i4⟩ := ih (run g bump) h1
    simp only [bumps, run_append]
    exact ⟨i1, i3.trans h3, by omega⟩

def mkCreate : List Action := [.begin 0 (.create [47] [1]), .step 0 .none, .step 0 .none]

theorem run_mkCreate (g : G) (hc : g.clients = []) (hs : g.store = []) (hw : g.wlog = [])
    (hwf : g.windowFull = false) (hm : (g.dealt + 1) % 2 ^ 64 ≠ 0) :
    (run g mkCreate).wlog = [⟨[47], g.dealt + 1, some [1], .absent⟩] ∧
    (run g mkCreate).store.get (idxKey [47]) = some (be8 (g.dealt + 1)) := by
  obtain ⟨cfg, store, dealt, committed, slots, retryQ, retryPc, clients, emitted, hist, wlog, done, begins, spans,
    refused⟩ := g
  simp only at hc hs hw hm
  subst hc hs hw
  have hwf' : windowFullAt cfg dealt committed = false := hwf
  simp [run, mkCreate, act, G.client, stepClient, stepClientCore, dealSite, G.windowFull, hwf', G.setClient, createOps, doCommit, commit, applyOps, applyOp,
    Store.get, applied, G.logWrite, finishCreate, G.finish, G.notify, mkW]
  rw [Store.get_put_any, Store.get_put_any]
  have : idxKey [47] ≠ encode [47] (dealt + 1) := by
    rw [← encode_mod]
    exact idxKey_ne_encode (Nat.pos_of_ne_zero hm) (Nat.mod_lt _ (by decide))
  simp [this]

/-- Without the bound `C01.index_agrees` fails: from the empty store, after `2 ^ 64` revisions have been
consumed, a create is stamped `2 ^ 64 + 1` and its index record reads back as revision `1`. -/
theorem index_agrees_needs_bound :
    ∃ g0 g : G, C02.Init g0 ∧ C02.StoreOK g0 ∧ Reachable g0 g ∧
      ∃ w, (g.wlog.filter (fun x => x.key == w.key)).getLast? = some w ∧
        (g.store.get (idxKey w.key)).bind parseRevision ≠ some (w.rev, w.val.isNone) := by
  refine ⟨{}, run (run {} (bumps (2 ^ 64))) mkCreate, ?_, ?_, ⟨bumps (2 ^ 64) ++ mkCreate, run_append _ _ _⟩, ?_⟩
  · exact ⟨⟨rfl, rfl, rfl, rfl, rfl⟩, rfl, rfl, rfl⟩
  · exact ⟨[], rfl, List.Pairwise.nil, by simp, by decide⟩
  · obtain ⟨h1, h3, h4⟩ := run_bumps (2 ^ 64) {} ⟨rfl, rfl, rfl, rfl, by decide⟩
    have h4' : (run {} (bumps (2 ^ 64))).dealt = 2 ^ 64 := by rw [h4]
    obtain ⟨hw, hg⟩ := run_mkCreate _ h1.clients h1.store h3 h1.open (by rw [h4']; decide)
    refine ⟨⟨[47], 2 ^ 64 + 1, some [1], .absent⟩, ?_, ?_⟩
    · rw [hw, h4']; rfl
    · simp only []
      rw [hg, h4', ← be8_mod]
      decide

end KB.SysStore
