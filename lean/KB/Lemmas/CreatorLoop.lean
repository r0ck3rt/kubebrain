/-
  The creator's re-evaluation loop (fix eb6d1d1) in KB.Sys: why a create is answered "condition failed".
  `keyState g0 l k` = state of key `k` (revision, deleted?) after the applied writes `l` (`wlog` prefix), as its index
  record tells; `Live st` = the key is live in that state; `Refuses st rev` = that state refused a create stamped `rev`
  BEFORE /repo 42e5238 (live, or deleted at / above `rev`); `Why cf st rev` = the one or the other by the flag
  `Cfg.creatorTombAboveIsCf` (since 42e5238 a deletion record at / above `rev` is an ERROR, not a failed condition).
  Invariant `JE` of reachable states (relative to the store invariant `SysStore.SInv`): per in-flight request (`CJ`) —
  at `createOver rev old att` the value `old` was the key's record at some moment `n` of the request and at least `att`
  writes to the key were applied between the request's begin and `n`; at `createRecheck rev att` at least `att + 1`;
  the record never vanishes (no compaction in KB.Sys: `createRetry` is unreachable here, that race is C07Race's); per
  finished create answered "condition failed" (`SpanOK`) — its justification in terms of `wlog` and its `Span`.
-/
import KB.Lemmas.Retry
import KB.Lemmas.SysLag
namespace KB.CreatorLoop
open KB.SysStore

/-! ### the key's record as a function of the applied writes -/

/-- number of applied writes to `k` in a piece of the log -/
def rewrites (k : Bytes) (l : List WLog) : Nat := (l.filter (fun w => w.key == k)).length

/-- the index record of `k` after the applied writes `l` -/
def recOf (g0 : G) (l : List WLog) (k : Bytes) : Option Bytes :=
  match SysStore.lastW l k with
  | some p => some (be8 p.rev ++ flagOf p.val)
  | none => g0.store.get (idxKey k)

/-- state of key `k` after the applied writes `l`: (revision, deleted?) of its index record; none = no record -/
def keyState (g0 : G) (l : List WLog) (k : Bytes) : Option (Nat × Bool) :=
  match SysStore.lastW l k with
  | some p => some (p.rev, p.val.isNone)
  | none => initIdx g0 k

/-- this state of its key refuses a create stamped `rev`: the key is live, or deleted at or above `rev` -/
def Refuses (st : Option (Nat × Bool)) (rev : Nat) : Prop := ∃ p t, st = some (p, t) ∧ (t = false ∨ rev ≤ p)

/-- the key is live in this state -/
def Live (st : Option (Nat × Bool)) : Prop := ∃ p, st = some (p, false)

instance (st : Option (Nat × Bool)) : Decidable (Live st) :=
  match st with
  | none => isFalse (by rintro ⟨p, h⟩; cases h)
  | some (p, true) => isFalse (by rintro ⟨p', h⟩; cases h)
  | some (p, false) => isTrue ⟨p, rfl⟩

/-- why a create stamped `rev` may be answered "condition failed" in this state of its key: `cfAbove = false` (the
creator since /repo 42e5238): the key is live; `cfAbove = true` (before): live, or deleted at / above `rev` -/
def Why (cfAbove : Bool) (st : Option (Nat × Bool)) (rev : Nat) : Prop :=
  ∃ p t, st = some (p, t) ∧ (t = false ∨ (cfAbove = true ∧ rev ≤ p))

theorem Why.live {st : Option (Nat × Bool)} {rev : Nat} (h : Why false st rev) : Live st := by
  obtain ⟨p, t, h1, h2 | ⟨h2, _⟩⟩ := h
  · exact ⟨p, by rw [h1, h2]⟩
  · cases h2

/-- whichever creator answered: its reason is one that refused a create before /repo 42e5238 -/
theorem Why.refuses_any {b : Bool} {st : Option (Nat × Bool)} {rev : Nat} (h : Why b st rev) : Refuses st rev := by
  obtain ⟨p, t, h1, h2 | ⟨_, h2⟩⟩ := h
  · exact ⟨p, t, h1, .inl h2⟩
  · exact ⟨p, t, h1, .inr h2⟩

theorem Why.refuses {st : Option (Nat × Bool)} {rev : Nat} (h : Why true st rev) : Refuses st rev := h.refuses_any

instance (st : Option (Nat × Bool)) (rev : Nat) : Decidable (Refuses st rev) :=
  match st with
  | none => isFalse (by rintro ⟨p, t, h, _⟩; cases h)
  | some (p, t) =>
    if h : t = false ∨ rev ≤ p then isTrue ⟨p, t, rfl, h⟩
    else isFalse (by rintro ⟨p', t', e, h'⟩; cases e; exact h h')

theorem rewrites_append (k : Bytes) (a b : List WLog) : rewrites k (a ++ b) = rewrites k a + rewrites k b := by
  simp [rewrites, List.filter_append]

theorem lastW_append_of_none {a b : List WLog} {k : Bytes} (h : rewrites k b = 0) : SysStore.lastW (a ++ b) k = SysStore.lastW a k := by
  unfold rewrites at h
  unfold SysStore.lastW
  rw [List.filter_append, List.length_eq_zero_iff.mp h, List.append_nil]

theorem lastW_none_iff {l : List WLog} {k : Bytes} : SysStore.lastW l k = none ↔ rewrites k l = 0 := by
  unfold SysStore.lastW rewrites
  rw [List.getLast?_eq_none_iff, List.length_eq_zero_iff]

theorem recOf_append_of_none (g0 : G) {a b : List WLog} {k : Bytes} (h : rewrites k b = 0) :
    recOf g0 (a ++ b) k = recOf g0 a k := by
  unfold recOf; rw [lastW_append_of_none h]

theorem keyState_append_of_none (g0 : G) {a b : List WLog} {k : Bytes} (h : rewrites k b = 0) :
    keyState g0 (a ++ b) k = keyState g0 a k := by
  unfold keyState; rw [lastW_append_of_none h]

theorem live_append {g0 : G} {a b : List WLog} {k : Bytes} (h : Live (keyState g0 (a ++ b) k)) :
    Live (keyState g0 a k) ∨ ∃ w ∈ b, w.key = k ∧ w.val ≠ none := by
  cases hb : SysStore.lastW b k with
  | none => exact .inl (by rwa [keyState_append_of_none g0 (lastW_none_iff.mp hb)] at h)
  | some q =>
    have hab : SysStore.lastW (a ++ b) k = some q := by
      unfold SysStore.lastW at hb ⊢
      rw [List.filter_append, List.getLast?_append, hb]; rfl
    obtain ⟨p, hp⟩ := h
    rw [keyState, hab] at hp
    obtain ⟨hq, hk⟩ := SysStore.lastW_some hb
    exact .inr ⟨q, hq, hk, fun e => by simp [e] at hp⟩

theorem rewrites_pos_of_recOf_ne (g0 : G) {a b : List WLog} {k : Bytes} (h : recOf g0 (a ++ b) k ≠ recOf g0 a k) :
    1 ≤ rewrites k b := by
  rcases Nat.eq_zero_or_pos (rewrites k b) with h0 | h0
  · exact absurd (recOf_append_of_none g0 h0) h
  · exact h0

/-- the record never vanishes (KB.Sys has no compaction) -/
theorem recOf_some_append (g0 : G) {a b : List WLog} {k : Bytes} (h : recOf g0 a k ≠ none) :
    recOf g0 (a ++ b) k ≠ none := by
  rcases Nat.eq_zero_or_pos (rewrites k b) with h0 | h0
  · rw [recOf_append_of_none g0 h0]; exact h
  · unfold recOf
    cases hl : SysStore.lastW (a ++ b) k with
    | some p => simp
    | none =>
      have := lastW_none_iff.mp hl
      rw [rewrites_append] at this
      omega

theorem recOf_store {g0 : G} {store : Store} {dealt : Nat} {wlog : List WLog} (h : Core g0 store dealt wlog)
    (hb : dealt < 2 ^ 64) (k : Bytes) : store.get (idxKey k) = recOf g0 wlog k := by
  have hi := h.idx hb k
  unfold recOf
  cases hl : SysStore.lastW wlog k with
  | some p => rw [hl] at hi; exact hi.1
  | none => rw [hl] at hi; exact hi

/-- every index record of the initial store parses (from `C02.StoreOK`) -/
def IdxParse (g0 : G) : Prop := ∀ k v, g0.store.get (idxKey k) = some v → ∃ m t, parseRevision v = some (m, t)

theorem IdxParse.of_storeOK {g0 : G} (hs : C02.StoreOK g0) : IdxParse g0 := fun _ _ hget =>
  let ⟨m, t, hp, _⟩ := idx_of_storeOK hs hget
  ⟨m, t, hp⟩

theorem recOf_state {g0 : G} (hp0 : IdxParse g0) {l : List WLog} (hrevs : ∀ w ∈ l, w.rev < 2 ^ 64) {k old : Bytes}
    (h : recOf g0 l k = some old) : ∃ p t, parseRevision old = some (p, t) ∧ keyState g0 l k = some (p, t) := by
  unfold recOf at h
  unfold keyState
  cases hl : SysStore.lastW l k with
  | some q =>
    rw [hl] at h
    cases h
    exact ⟨_, _, parseRevision_be8_flag (hrevs q (SysStore.lastW_some hl).1) q.val, rfl⟩
  | none =>
    rw [hl] at h
    obtain ⟨m, t, hp⟩ := hp0 k old h
    exact ⟨m, t, hp, by simp [initIdx, h, hp]⟩

/-! ### conflicts of the creator's two batches -/

theorem doCommit_pine_conflict {c : Cfg} {s : Store} {idx new ver v : Bytes} {f : Fault} {i : Option Nat}
    {cv : Option Bytes} {st : Store} (h : doCommit c s [.pine idx new, .put ver v] f = (.conflict i cv, st)) :
    st = s ∧ ∃ old, s.get idx = some old ∧ cv = some old := by
  cases hg : s.get idx with
  | none =>
    exact absurd (congrArg Prod.fst h) (doCommit_ok_not_conflict ((commit_pine_put ..).mpr ⟨hg, rfl⟩) i cv)
  | some old =>
    simp only [doCommit, commit_pine_put_eq, hg, Prod.mk.injEq, CommitRes.conflict.injEq] at h
    exact ⟨h.2.symm, old, rfl, h.1.2.symm⟩

theorem doCommit_cas_conflict {c : Cfg} {s : Store} {idx new old ver v : Bytes} {f : Fault} {i : Option Nat}
    {cv : Option Bytes} {st : Store} (h : doCommit c s [.cas idx new old, .put ver v] f = (.conflict i cv, st)) :
    st = s ∧ s.get idx ≠ some old :=
  ⟨((doCommit_cases h).resolve_left (by simp [applied])).2, fun hget =>
    doCommit_ok_not_conflict ((commit_cas_put ..).mpr ⟨hget, rfl⟩) i cv (congrArg Prod.fst h)⟩

/-! ### the invariant -/

/-- begin mark of the request now running under `id` -/
def bOf (bs : List (Nat × Nat)) (id : Nat) : Nat := ((bs.find? (·.1 == id)).map (·.2)).getD 0

theorem beginOf_eq (g : G) (id : Nat) : g.beginOf id = bOf g.begins id := rfl

/-- what an in-flight request knows (`b` = length of the log when it began) -/
def CJ (g0 : G) (wl : List WLog) (b : Nat) (c : Client) : Prop :=
  b ≤ wl.length ∧
  match c.pc with
  | .createReread _ => recOf g0 wl c.kind.key ≠ none
  | .createRetry _ => False
  | .createOver _ old att =>
    ∃ n, b ≤ n ∧ n ≤ wl.length ∧ recOf g0 (wl.take n) c.kind.key = some old ∧
      att ≤ rewrites c.kind.key ((wl.take n).drop b)
  | .createRecheck _ att => recOf g0 wl c.kind.key ≠ none ∧ att + 1 ≤ rewrites c.kind.key (wl.drop b)
  | .readLatest _ _ => ∀ k v, c.kind ≠ .create k v
  | _ => True

theorem CJ.le {g0 : G} {wl : List WLog} {b : Nat} {c : Client} (h : CJ g0 wl b c) : b ≤ wl.length := h.1

theorem CJ.mono {g0 : G} {wl : List WLog} {b : Nat} {c : Client} (h : CJ g0 wl b c) (e : List WLog) :
    CJ g0 (wl ++ e) b c := by
  obtain ⟨id, kind, pc, bd⟩ := c
  obtain ⟨hb, h⟩ := h
  refine ⟨by simp; omega, ?_⟩
  cases pc
  case createReread => exact recOf_some_append g0 h
  case createOver =>
    obtain ⟨n, h1, h2, h3, h4⟩ := h
    refine ⟨n, h1, by simp; omega, ?_, ?_⟩ <;> rw [List.take_append_of_le_length h2] <;> assumption
  case createRecheck =>
    refine ⟨recOf_some_append g0 h.1, ?_⟩
    rw [List.drop_append_of_le_length hb, rewrites_append]
    exact Nat.le_add_right_of_le h.2
  all_goals exact h

/-- the justification of a failed condition, at the moment `wl` of the answer -/
def Just (g0 : G) (wl : List WLog) (k : Bytes) (b rev : Nat) : Prop :=
  Why g0.cfg.creatorTombAboveIsCf (keyState g0 wl k) rev ∨ 4 ≤ rewrites k (wl.drop b)

/-- ... and as recorded for a finished request -/
def SpanOK (g0 : G) (wl : List WLog) (k : Bytes) (d : Done) (s : Span) : Prop :=
  s.id = d.id ∧ s.rev = d.rev ∧ s.beginLog ≤ s.endLog ∧ s.endLog ≤ wl.length ∧
    ((∃ n, s.beginLog ≤ n ∧ n ≤ s.endLog ∧ Why g0.cfg.creatorTombAboveIsCf (keyState g0 (wl.take n) k) d.rev) ∨
     4 ≤ rewrites k ((wl.take s.endLog).drop s.beginLog))

theorem SpanOK.mono {g0 : G} {wl : List WLog} {k : Bytes} {d : Done} {s : Span} (h : SpanOK g0 wl k d s)
    (e : List WLog) : SpanOK g0 (wl ++ e) k d s := by
  obtain ⟨h1, h2, h3, h4, h5⟩ := h
  refine ⟨h1, h2, h3, by simp; omega, ?_⟩
  rcases h5 with ⟨n, a, b, c⟩ | h5
  · left
    exact ⟨n, a, b, by rw [List.take_append_of_le_length (Nat.le_trans b h4)]; exact c⟩
  · right
    rw [List.take_append_of_le_length h4]; exact h5

/-- read the recorded reason through any weaker one -/
theorem SpanOK.imp {g0 : G} {wl : List WLog} {k : Bytes} {d : Done} {s : Span} {P : Option (Nat × Bool) → Prop}
    (hP : ∀ st, Why g0.cfg.creatorTombAboveIsCf st d.rev → P st) (h : SpanOK g0 wl k d s) :
    s.id = d.id ∧ s.rev = d.rev ∧ s.beginLog ≤ s.endLog ∧ s.endLog ≤ wl.length ∧
      ((∃ n, s.beginLog ≤ n ∧ n ≤ s.endLog ∧ P (keyState g0 (wl.take n) k)) ∨
       4 ≤ rewrites k ((wl.take s.endLog).drop s.beginLog)) :=
  ⟨h.1, h.2.1, h.2.2.1, h.2.2.2.1, h.2.2.2.2.imp (fun ⟨n, a, b, c⟩ => ⟨n, a, b, hP _ c⟩) id⟩

def JCl (g0 : G) (wl : List WLog) (bs : List (Nat × Nat)) (cls : List Client) (skip : Option Nat) : Prop :=
  ∀ c ∈ cls, skip ≠ some c.id → CJ g0 wl (bOf bs c.id) c

def JDn (g0 : G) (wl : List WLog) (dn : List Done) (sps : List Span) : Prop :=
  ∀ d ∈ dn, ∀ k v hdr kv, d.kind = .create k v → d.res = .condFailed hdr kv → ∃ s ∈ sps, SpanOK g0 wl k d s

/-- the invariant; `skip = some id` leaves out the request `id` (the one in the middle of its step) -/
structure JE (g0 g : G) (skip : Option Nat) : Prop where
  cl : JCl g0 g.wlog g.begins g.clients skip
  dn : JDn g0 g.wlog g.done g.spans

abbrev JInv (g0 g : G) : Prop := JE g0 g none

theorem JE.weaken {g0 g : G} (h : JInv g0 g) (id : Nat) : JE g0 g (some id) :=
  ⟨fun c hc _ => h.cl c hc (by simp), h.dn⟩

/-- `g'` is `g` up to what the invariant does not read, except that its log may have grown -/
structure Grows (g g' : G) : Prop where
  wlog : ∃ e, g'.wlog = g.wlog ++ e
  begins : g'.begins = g.begins
  clients : g'.clients = g.clients
  done : g'.done = g.done
  spans : g'.spans = g.spans

theorem Grows.of_eq {g g' : G} (hw : g'.wlog = g.wlog) (hb : g'.begins = g.begins) (hc : g'.clients = g.clients)
    (hd : g'.done = g.done) (hs : g'.spans = g.spans) : Grows g g' :=
  ⟨⟨[], by simp [hw]⟩, hb, hc, hd, hs⟩

theorem Grows.refl (g : G) : Grows g g := .of_eq rfl rfl rfl rfl rfl

@[simp] theorem G.notify_begins (g : G) (w : WEvent) : (g.notify w).begins = g.begins := by
  unfold G.notify; split <;> rfl
@[simp] theorem G.notify_spans (g : G) (w : WEvent) : (g.notify w).spans = g.spans := by
  unfold G.notify; split <;> rfl

theorem Grows.notify {g g' : G} (h : Grows g g') (w : WEvent) : Grows g (g'.notify w) :=
  ⟨by simpa using h.wlog, by simpa using h.begins, by simpa using h.clients, by simpa using h.done,
    by simpa using h.spans⟩

theorem Grows.afterCommit {g g' : G} (h : Grows g g') (r : CommitRes) (st : Store) (f : Fault) (key : Bytes)
    (rev : Nat) (val : Option Bytes) (exp : Expect) : Grows g (afterCommit g' r st f key rev val exp) := by
  unfold SysStore.afterCommit
  split
  · obtain ⟨e, he⟩ := h.wlog
    exact ⟨⟨e ++ [⟨key, rev, val, exp⟩], by simp [G.logWrite, he]⟩, h.begins, h.clients, h.done, h.spans⟩
  · exact ⟨h.wlog, h.begins, h.clients, h.done, h.spans⟩

theorem JE.grow {g0 g g' : G} {skip : Option Nat} (h : JE g0 g skip) (hG : Grows g g') : JE g0 g' skip := by
  obtain ⟨⟨e, hw⟩, hb, hc, hd, hs⟩ := hG
  constructor
  · rw [hw, hb, hc]
    exact fun c hcm hsk => (h.cl c hcm hsk).mono e
  · rw [hw, hd, hs]
    intro d hdm k v hdr kv hk hr
    obtain ⟨s, hsm, hso⟩ := h.dn d hdm k v hdr kv hk hr
    exact ⟨s, hsm, hso.mono e⟩

theorem Grows.le {g g' : G} (hG : Grows g g') {id : Nat} (hle : g.beginOf id ≤ g.wlog.length) :
    g'.beginOf id ≤ g'.wlog.length := by
  obtain ⟨e, hw⟩ := hG.wlog
  rw [beginOf_eq, hG.begins, hw, List.length_append]
  exact Nat.le_trans hle (Nat.le_add_right _ _)

theorem JE.notify {g0 g : G} {skip : Option Nat} (h : JE g0 g skip) (w : WEvent) : JE g0 (g.notify w) skip :=
  h.grow ((Grows.refl g).notify w)

theorem JE.set {g0 g : G} {c : Client} (h : JE g0 g (some c.id)) (pc : Pc)
    (hc : CJ g0 g.wlog (g.beginOf c.id) { c with pc := pc }) : JInv g0 (g.setClient { c with pc := pc }) := by
  refine ⟨?_, h.dn⟩
  intro x hx _
  rcases mem_setClient hx with ⟨h1, h2⟩ | rfl
  · exact h.cl x h1 (by simpa using fun e => h2 e.symm)
  · exact hc

theorem JE.finish {g0 g : G} {c : Client} (h : JE g0 g (some c.id)) (res : WriteRes) (rev : Nat)
    (hj : ∀ k v hdr kv, c.kind = .create k v → res = .condFailed hdr kv →
      g.beginOf c.id ≤ g.wlog.length ∧ Just g0 g.wlog k (g.beginOf c.id) rev) :
    JInv g0 (g.finish c res rev) := by
  constructor
  · intro x hx _
    simp only [G.finish, List.mem_filter, bne_iff_ne, ne_eq] at hx
    exact h.cl x hx.1 (by simpa using fun e => hx.2 e.symm)
  · intro d hd k v hdr kv hk hr
    simp only [G.finish, List.mem_append, List.mem_singleton] at hd
    rcases hd with hd | rfl
    · obtain ⟨s, hs, hso⟩ := h.dn d hd k v hdr kv hk hr
      exact ⟨s, by simp [G.finish, hs], hso⟩
    · obtain ⟨hle, hjj⟩ := hj k v hdr kv hk hr
      refine ⟨⟨c.id, rev, g.beginOf c.id, g.wlog.length⟩, by simp [G.finish], rfl, rfl, hle, Nat.le_refl _, ?_⟩
      show (∃ n, _ ∧ _ ∧ Why g0.cfg.creatorTombAboveIsCf (keyState g0 (List.take n g.wlog) k) rev) ∨
        4 ≤ rewrites k (List.drop (g.beginOf c.id) (List.take g.wlog.length g.wlog))
      rw [List.take_length]
      exact hjj.imp (fun hj1 => ⟨g.wlog.length, hle, Nat.le_refl _, by rw [List.take_length]; exact hj1⟩) id

theorem JE.finish_other {g0 g : G} {c : Client} (h : JE g0 g (some c.id)) (res : WriteRes) (rev : Nat)
    (hn : (∀ k v, c.kind ≠ .create k v) ∨ ∀ hdr kv, res ≠ .condFailed hdr kv) : JInv g0 (g.finish c res rev) :=
  h.finish res rev fun k v hdr kv hk hr => hn.elim (fun hn => absurd hk (hn k v)) (fun hn => absurd hr (hn hdr kv))

theorem JE.finishCreate {g0 g : G} {c : Client} (h : JE g0 g (some c.id)) (hle : g.beginOf c.id ≤ g.wlog.length)
    (key val : Bytes) (rev : Nat) (r : CommitRes)
    (hj : ∀ k v i cv, c.kind = .create k v → r = .conflict i cv → Just g0 g.wlog k (g.beginOf c.id) rev) :
    JInv g0 (finishCreate g c key val rev r) := by
  unfold KB.finishCreate
  have hG : Grows g (g.notify (mkW rev 0 (r == .ok) .create key val (r == .uncertain))) :=
    (Grows.refl g).notify _
  have h' := h.grow hG
  split
  · exact h'.finish_other _ _ (.inr nofun)
  · split
    · rename_i hk
      exact h'.set _ ⟨hG.le hle, fun k v e => nomatch hk.symm.trans e⟩
    · refine h'.finish _ _ fun k v hdr kv hk _ => ⟨hG.le hle, ?_⟩
      rw [beginOf_eq, G.notify_begins, G.notify_wlog]
      exact hj k v _ _ hk rfl
  · exact h'.finish_other _ _ (.inr nofun)

theorem JE.createSawIndex {g0 g : G} (hp0 : IdxParse g0) (hcfg : g.cfg = g0.cfg) {c : Client} (h : JE g0 g (some c.id))
    (hle : g.beginOf c.id ≤ g.wlog.length) (hrevs : ∀ w ∈ g.wlog, w.rev < 2 ^ 64) (val : Bytes) (rev : Nat)
    (old : Bytes) (att : Nat) (hrec : recOf g0 g.wlog c.kind.key = some old)
    (hatt : att ≤ rewrites c.kind.key (g.wlog.drop (g.beginOf c.id))) :
    JInv g0 (createSawIndex g c c.kind.key val rev old att) := by
  obtain ⟨p, tomb, hp, hks⟩ := recOf_state hp0 hrevs hrec
  unfold KB.createSawIndex
  simp only [hp]
  refine iteInduction (fun _ => h.set _ ⟨hle, g.wlog.length, hle, Nat.le_refl _, by rw [List.take_length]; exact hrec,
    by rw [List.take_length]; exact hatt⟩) fun hc => h.finishCreate hle _ _ _ _ fun k v i cv hk hr => .inl ?_
  obtain rfl : c.kind.key = k := by rw [hk]; rfl
  rw [hks]
  refine ⟨p, tomb, rfl, ?_⟩
  rcases tombAbove_cases g.cfg tomb with ⟨he, _, _⟩ | ⟨_, ht | hf⟩
  · rw [he] at hr; cases hr
  · exact .inl ht
  · cases tomb with
    | false => exact .inl rfl
    | true =>
      simp only [Bool.true_and, decide_eq_true_eq] at hc
      exact .inr ⟨by rw [← hcfg]; exact hf, by omega⟩

/-! ### one client step -/

theorem JInv.stepClient {g0 g : G} (hp0 : IdxParse g0) (hS : SysStore.SInv g0 g) (hb : g.dealt < 2 ^ 64)
    (hcfg : g.cfg = g0.cfg) (hnew : g0.cfg.creatorNoReeval = false) (h : JInv g0 g) {c : Client} (hc : c ∈ g.clients)
    (f : Fault) : JInv g0 (stepClient g c f) := by
  have hcj : CJ g0 g.wlog (g.beginOf c.id) c := h.cl c hc (by simp)
  have hle : g.beginOf c.id ≤ g.wlog.length := hcj.1
  have hE := JE.weaken h c.id
  have hrec : ∀ k, g.store.get (idxKey k) = recOf g0 g.wlog k := recOf_store hS.core hb
  have hrevs : ∀ w ∈ g.wlog, w.rev < 2 ^ 64 := fun w hw => Nat.lt_of_le_of_lt (hS.core.revs w hw).2 hb
  have hkey : ∀ {key val : Bytes}, c.kind.kv = (key, val) → key = c.kind.key := fun hkv => by
    rw [← ReqKind.kv_key, hkv]
  -- the states a step passes through before it moves / returns: `g` with a revision dealt, a batch committed, a slot filled
  have hD : Grows g { g with dealt := g.dealt + 1 } := .of_eq rfl rfl rfl rfl rfl
  apply stepClient_cases'
  case hStartCreate =>
    intro key val _ _
    exact (hE.grow hD).set _ ⟨hle, trivial⟩
  case hStartUpdate =>
    intro key val exp _ hk
    refine iteInduction (fun _ => (hE.grow hD).set _ ⟨hle, trivial⟩) fun _ => ?_
    exact iteInduction (fun _ => ((hE.grow hD).notify _).finish_other _ _ (.inr nofun)) fun _ =>
      (hE.grow hD).set _ ⟨hle, trivial⟩
  case hCreateCommit => -- createCommit: a refused put-if-absent shows the key's record
    intro rev key val r st hpc hkv hdc
    obtain rfl := hkey hkv
    have hG := (Grows.refl g).afterCommit r st f c.kind.key rev (some val) .absent
    split
    · obtain ⟨rfl, old, hget, rfl⟩ := doCommit_pine_conflict hdc
      rw [hrec] at hget
      rw [afterCommit_conflict] at hG ⊢
      exact iteInduction (fun _ => JE.createSawIndex hp0 hcfg (hE.grow hG) hle hrevs val rev _ 0 hget (Nat.zero_le _))
        fun _ => (hE.grow hG).set _ ⟨hle, show recOf g0 g.wlog c.kind.key ≠ none by rw [hget]; nofun⟩
    · rename_i hnc
      exact (hE.grow hG).finishCreate (hG.le hle) _ _ _ _ fun k v i cv _ e => absurd e (hnc i cv)
  case hCreateReread =>
    intro rev key val hpc hkv
    obtain rfl := hkey hkv
    have hpres : recOf g0 g.wlog c.kind.key ≠ none := by simpa only [hpc] using hcj.2
    split
    · rename_i old hget
      exact JE.createSawIndex hp0 hcfg hE hle hrevs val rev old 0 (hrec _ ▸ hget) (Nat.zero_le _)
    · rename_i hget
      exact absurd (hrec _ ▸ hget) hpres
  case hCreateRetry => -- createRetry: unreachable (the record never vanishes)
    intro rev key val r st hpc _ _
    exact absurd hcj.2 (by simp only [hpc]; exact id)
  case hCreateOver => -- createOver: a refused compare-and-swap shows that the record changed since moment `n`: one more write to the key
    intro rev old att key val r st hpc hkv hdc
    obtain rfl := hkey hkv
    have hG := (Grows.refl g).afterCommit r st f c.kind.key rev (some val) .absent
    split
    · obtain ⟨rfl, hne⟩ := doCommit_cas_conflict hdc
      rw [afterCommit_conflict] at hG ⊢
      obtain ⟨n, h1, h2, h3, h4⟩ : ∃ n, g.beginOf c.id ≤ n ∧ n ≤ g.wlog.length ∧
          recOf g0 (g.wlog.take n) c.kind.key = some old ∧
          att ≤ rewrites c.kind.key ((g.wlog.take n).drop (g.beginOf c.id)) := by simpa only [hpc] using hcj.2
      have hsplit : g.wlog = g.wlog.take n ++ g.wlog.drop n := (List.take_append_drop n g.wlog).symm
      have hpos : 1 ≤ rewrites c.kind.key (g.wlog.drop n) :=
        rewrites_pos_of_recOf_ne g0 (by rw [← hsplit, ← hrec, h3]; exact hne)
      refine (hE.grow hG).set _ ⟨hle, ?_, ?_⟩
      · show recOf g0 g.wlog c.kind.key ≠ none
        rw [hsplit]; exact recOf_some_append g0 (by rw [h3]; nofun)
      · show att + 1 ≤ rewrites c.kind.key (g.wlog.drop (g.beginOf c.id))
        have hd : g.wlog.drop (g.beginOf c.id) = (g.wlog.take n).drop (g.beginOf c.id) ++ g.wlog.drop n := by
          conv => lhs; rw [hsplit]
          exact List.drop_append_of_le_length (by rw [List.length_take]; omega)
        rw [hd, rewrites_append]
        omega
    · rename_i hnc
      exact (hE.grow hG).finishCreate (hG.le hle) _ _ _ _ fun k v i cv _ e => absurd e (hnc i cv)
  case hCreateRecheck => -- createRecheck: the fourth failed compare-and-swap gives up, with 4 writes to the key counted
    intro rev att key val hpc hkv
    obtain rfl := hkey hkv
    obtain ⟨hpres, hcnt⟩ : recOf g0 g.wlog c.kind.key ≠ none ∧
        att + 1 ≤ rewrites c.kind.key (g.wlog.drop (g.beginOf c.id)) := by simpa only [hpc] using hcj.2
    split
    · rename_i cur hget
      refine iteInduction (fun hgive => ?_) fun _ =>
        JE.createSawIndex hp0 hcfg hE hle hrevs val rev cur (att + 1) (hrec _ ▸ hget) hcnt
      rw [hcfg, hnew] at hgive
      simp only [Bool.false_or, decide_eq_true_eq] at hgive
      refine hE.finishCreate hle _ _ _ _ fun k v _ _ hkk _ => .inr ?_
      obtain rfl : c.kind.key = k := by rw [hkk]; rfl
      omega
    · rename_i hget
      exact absurd (hrec _ ▸ hget) hpres
  case hUpdateCommit =>
    intro rev key val exp r st hpc hk hdc
    have hnc : ∀ k v, c.kind ≠ .create k v := fun _ _ e => nomatch hk.symm.trans e
    have hG := ((Grows.refl g).afterCommit r st f key rev (some val) (.rev exp)).notify
      (mkW rev exp (r == .ok) .put key val (r == .uncertain))
    split
    · exact (hE.grow hG).finish_other _ _ (.inl hnc)
    · exact (hE.grow hG).set _ ⟨hG.le hle, hnc⟩
    · exact (hE.grow hG).finish_other _ _ (.inl hnc)
  case hStartDelete =>
    intro key exp _ _
    split <;> exact hE.set _ ⟨hle, trivial⟩
  case hDeleteDealNone =>
    intro key exp _ hk
    exact ((hE.grow hD).notify _).finish_other _ _ (.inr nofun)
  case hDeleteDealSome =>
    intro oldVal modRev key exp _ hk
    have hnc : ∀ k v, c.kind ≠ .create k v := fun _ _ e => nomatch hk.symm.trans e
    have hG := hD.notify (mkW (g.dealt + 1) modRev false .delete key oldVal)
    refine iteInduction (fun _ => (hE.grow hG).finish_other _ _ (.inl hnc)) fun _ => ?_
    refine iteInduction (fun _ => (hE.grow hG).set _ ⟨hG.le hle, hnc⟩) fun _ => ?_
    exact iteInduction (fun _ => (hE.grow hG).finish_other _ _ (.inl hnc)) fun _ => (hE.grow hD).set _ ⟨hle, trivial⟩
  case hDeleteCommit =>
    intro rev oldVal modRev key exp r st hpc hk hdc
    have hnc : ∀ k v, c.kind ≠ .create k v := fun _ _ e => nomatch hk.symm.trans e
    have hG := ((Grows.refl g).afterCommit r st f key rev none (.rev modRev)).notify
      (mkW rev modRev (r == .ok) .delete key oldVal (r == .uncertain))
    split
    · exact (hE.grow hG).finish_other _ _ (.inl hnc)
    · exact (hE.grow hG).set _ ⟨hG.le hle, hnc⟩
    · exact (hE.grow hG).finish_other _ _ (.inl hnc)
  case hReadLatest => -- readLatest: never a create
    intro rev fb hpc
    have hnc : ∀ k v, c.kind ≠ .create k v := by simpa only [hpc] using hcj.2
    split <;> exact hE.finish_other _ _ (.inl hnc)
  case hNop => exact h
  case hRefuse => -- `Deal` refused: the request returns without a revision (it is not recorded in `done`)
    intro _ _
    refine ⟨fun x hx _ => ?_, hE.dn⟩
    simp only [G.refuse, List.mem_filter, bne_iff_ne, ne_eq] at hx
    exact hE.cl x hx.1 (by simpa using fun e => hx.2 e.symm)

/-! ### the other actions, runs -/

theorem JInv.stepSeq {g0 g : G} (h : JInv g0 g) : JInv g0 (stepSeq g) := by
  unfold KB.stepSeq
  split
  · exact h
  · exact h.grow (.of_eq rfl rfl rfl rfl rfl)

theorem JInv.stepRetryRead {g0 g : G} (h : JInv g0 g) : JInv g0 (stepRetryRead g) := by
  apply stepRetryRead_cases <;> intros <;> exact h.grow (.of_eq rfl rfl rfl rfl rfl)

theorem JInv.stepRetryCommit {g0 g : G} (h : JInv g0 g) (f : Fault) : JInv g0 (stepRetryCommit g f) := by
  apply stepRetryCommit_cases
  · intro _; exact h
  · intro p r st _ _
    refine h.grow (Grows.notify (Grows.afterCommit ?_ ..) _)
    exact .of_eq rfl rfl rfl rfl rfl

theorem bOf_cons_ne {bs : List (Nat × Nat)} {id id' n : Nat} (h : id' ≠ id) : bOf ((id, n) :: bs) id' = bOf bs id' := by
  unfold bOf
  rw [List.find?_cons_of_neg]
  simpa using fun e => h e.symm

theorem bOf_cons_self (bs : List (Nat × Nat)) (id n : Nat) : bOf ((id, n) :: bs) id = n := by
  simp [bOf]

theorem afterCommit_cfg (g : G) (r : CommitRes) (st : Store) (f : Fault) (key : Bytes) (rev : Nat) (val : Option Bytes)
    (exp : Expect) : (afterCommit g r st f key rev val exp).cfg = g.cfg := by
  unfold afterCommit; split <;> rfl

theorem cfg_moves (cf : Cfg) : Moves (fun g => g.cfg = cf) where
  deal h := h
  notify w h := (G.notify_cfg _ w).trans h
  set _ h := h
  finish _ _ _ h := h

theorem act_cfg (g : G) (a : Action) : (act g a).cfg = g.cfg := by
  have hread : ∀ g, (KB.stepRetryRead g).cfg = g.cfg := fun g => by
    apply stepRetryRead_cases (P := fun g' => g'.cfg = g.cfg) <;> intros <;> rfl
  have hcommit : ∀ g f, (KB.stepRetryCommit g f).cfg = g.cfg := fun g f => by
    apply stepRetryCommit_cases (P := fun g' => g'.cfg = g.cfg)
    · intro _; rfl
    · intros; rw [G.notify_cfg, afterCommit_cfg]
  exact act_cases (P := fun g' => g'.cfg = g.cfg) g a rfl (fun _ _ _ _ => rfl)
    (fun c f _ => (cfg_moves g.cfg).stepClient rfl c f (fun _ _ => afterCommit_cfg ..) rfl) (stepSeq_frame g).2.1
    (fun f => (hcommit _ f).trans (hread g)) (hread g) (hcommit g)

theorem run_cfg (g : G) (s : List Action) : (run g s).cfg = g.cfg := by
  induction s generalizing g with
  | nil => rfl
  | cons a s ih => exact (ih (act g a)).trans (act_cfg g a)

theorem JInv.act {g0 g : G} (hp0 : IdxParse g0) (hS : SysStore.SInv g0 g)
    (hcfg : g.cfg = g0.cfg) (hnew : g0.cfg.creatorNoReeval = false) (h : JInv g0 g) (a : Action)
    (hb : (act g a).dealt < 2 ^ 64) : JInv g0 (act g a) := by
  have hb0 : g.dealt < 2 ^ 64 := Nat.lt_of_le_of_lt (act_dealt_le g a) hb
  refine act_cases g a h (fun id kind _ hne => ⟨fun x hx _ => ?_, h.dn⟩)
    (fun c f hc => h.stepClient hp0 hS hb0 hcfg hnew hc f) h.stepSeq (fun f => h.stepRetryRead.stepRetryCommit f)
    h.stepRetryRead h.stepRetryCommit
  -- a new request begins at the end of the log; the marks of the others are untouched
  show CJ g0 g.wlog (bOf ((id, g.wlog.length) :: g.begins) x.id) x
  rcases List.mem_append.mp hx with hx | hx
  · rw [bOf_cons_ne (hne x hx)]
    exact h.cl x hx (by simp)
  · rw [List.mem_singleton.mp hx, bOf_cons_self]
    exact ⟨Nat.le_refl _, trivial⟩

theorem JInv.reachable {g0 g : G} (hi : C02.Init g0) (hs : C02.StoreOK g0) (hr : Reachable g0 g)
    (hnew : g0.cfg.creatorNoReeval = false) (hb : g.dealt < 2 ^ 64) : JInv g0 g := by
  obtain ⟨sched, rfl⟩ := hr
  have hinit : JInv g0 g0 := by
    obtain ⟨⟨_, _, hcl, _, _⟩, _, _, hd⟩ := hi
    constructor
    · intro c hc; rw [hcl] at hc; cases hc
    · intro d hdm; rw [hd] at hdm; cases hdm
  -- along the run the store invariant and the configuration come from reachability
  suffices ∀ s g, Reachable g0 g → JInv g0 g → (run g s).dealt < 2 ^ 64 → JInv g0 (run g s) from
    this sched g0 ⟨[], rfl⟩ hinit hb
  intro s
  induction s with
  | nil => exact fun _ _ h _ => h
  | cons a s ih =>
    intro g hr h hb
    have hb1 : (KB.act g a).dealt < 2 ^ 64 := Nat.lt_of_le_of_lt (run_dealt_le (KB.act g a) s) hb
    have hcfg : g.cfg = g0.cfg := by obtain ⟨s0, rfl⟩ := hr; exact run_cfg g0 s0
    exact ih _ (hr.step a) (h.act (IdxParse.of_storeOK hs) (SysStore.SInv.reachable hi hs hr) hcfg hnew a hb1) hb

/-! ### the sequential model: run alone, the creator never re-enters its loop -/

theorem creatorOverLoop_first (c : Cfg) (ops1 : List BOp) (key val : Bytes) (rev fuel att : Nat) (st : Store)
    (old : Bytes) (fs : List Fault) (hget : st.get (idxKey key) = some old) :
    creatorOverLoop c ops1 key val rev (fuel + 1) att st old fs =
      ((doCommit c st [BOp.cas (idxKey key) (be8 rev) old, BOp.put (encode key rev) val] (nextFault fs).1).1,
       (doCommit c st [BOp.cas (idxKey key) (be8 rev) old, BOp.put (encode key rev) val] (nextFault fs).1).2,
       (nextFault fs).2) := by
  unfold creatorOverLoop
  simp only []
  generalize hdc : doCommit c st [BOp.cas (idxKey key) (be8 rev) old, BOp.put (encode key rev) val] (nextFault fs).1 = p
  obtain ⟨r2, st'⟩ := p
  cases r2 with
  | conflict i cv => exact absurd hget (doCommit_cas_conflict hdc).2
  | _ => rfl

/-- Run alone (sequential semantics) the creator since eb6d1d1 is the one-shot model `creatorCreate`. -/
theorem creatorCreateNow_eq (c : Cfg) (st : Store) (key val : Bytes) (rev : Nat) (fs : List Fault) :
    creatorCreateNow c st key val rev fs = creatorCreate c st key val rev fs := by
  unfold creatorCreateNow creatorCreate
  simp only []
  generalize hdc : doCommit c st [BOp.pine (idxKey key) (be8 rev), BOp.put (encode key rev) val] (nextFault fs).1 = p
  obtain ⟨r1, st1⟩ := p
  cases r1 with
  | conflict idx cv =>
    obtain ⟨hst, old0, hget, hcv⟩ := doCommit_pine_conflict hdc
    subst hst hcv
    simp only [hget, Option.getD_some]
    have hold : (if idx == some 0 then (Except.ok old0 : Except CommitRes Bytes) else Except.ok old0) = .ok old0 := by
      split <;> rfl
    rw [hold]
    simp only []
    cases hp : parseRevision old0 with
    | none => rfl
    | some pt =>
      obtain ⟨p, tomb⟩ := pt
      simp only []
      split
      · rw [creatorOverLoop_first _ _ _ _ _ _ _ _ _ _ hget]
      · rfl
  | _ => rfl

end KB.CreatorLoop
