/- The worker loop of `KB.Scan` as equations: `expiry` and `workerStep` branch by branch, and `passLoop` as a fold of
`passStep` that executes exactly the actions it reports (`passLoop_run`) and, with expiry off, is `runDeletes` over
`workerLoop` (`passLoop_expiry_off`). -/
import KB.Scan
namespace KB
open Generated

/-- expiry is off: the engine has native ttl, or there is no timeout revision -/
def WCfg.ExpiryOff (c : WCfg) : Prop := c.supportTTL = true ∨ c.timeout = 0

theorem expiry_off {c : WCfg} (hc : c.ExpiryOff) (live gone : Bytes) (r : Rec) : expiry c live gone r = .no := by
  unfold expiry
  rcases hc with h | h <;> simp [h]

theorem expireStep_off {c : WCfg} (hc : c.ExpiryOff) (live gone : Bytes) (snap : List Rec) (r : Rec) :
    expireStep c live gone snap r = none := by
  unfold expireStep; rw [expiry_off hc]

theorem expiry_nonevent {c : WCfg} {r : Rec} (h : isEventKey c r.key = false) (live gone : Bytes) :
    expiry c live gone r = .no := by
  unfold expiry; simp [h]

theorem expiry_live_version (c : WCfg) {r : Rec} {live gone : Bytes} (h0 : r.rev ≠ 0) (hl : r.key = live)
    (hg : r.key ≠ gone) : expiry c live gone r = .no := by
  subst hl
  unfold expiry; simp [h0, hg]

/-! with expiry on, for an event key: the decision by the kind of record -/
section
variable {c : WCfg} (hs : c.supportTTL = false) (hT : c.timeout ≠ 0) {r : Rec} (hev : isEventKey c r.key = true)
  (live gone : Bytes)
include hs hT hev

theorem expiry_on : expiry c live gone r =
    if r.rev == 0 then
      if r.val.length < 8 then .panic else if fromBE (r.val.take 8) ≤ c.timeout then .idx else .noLive
    else if r.key == gone then .gone else if r.rev ≤ c.timeout && r.key != live then .ver else .no := by
  unfold expiry
  rw [if_neg (by simp [hs, hT]), if_pos hev]

theorem expiry_panic (hr : r.rev = 0) (h8 : r.val.length < 8) : expiry c live gone r = .panic := by
  rw [expiry_on hs hT hev, if_pos (beq_iff_eq.2 hr), if_pos h8]

theorem expiry_idx (hr : r.rev = 0) (h8 : 8 ≤ r.val.length) (hv : fromBE (r.val.take 8) ≤ c.timeout) :
    expiry c live gone r = .idx := by
  rw [expiry_on hs hT hev, if_pos (beq_iff_eq.2 hr), if_neg (Nat.not_lt.2 h8), if_pos hv]

theorem expiry_noLive (hr : r.rev = 0) (h8 : 8 ≤ r.val.length) (hv : c.timeout < fromBE (r.val.take 8)) :
    expiry c live gone r = .noLive := by
  rw [expiry_on hs hT hev, if_pos (beq_iff_eq.2 hr), if_neg (Nat.not_lt.2 h8), if_neg (Nat.not_le.2 hv)]

theorem expiry_gone (hr : r.rev ≠ 0) (hg : r.key = gone) : expiry c live gone r = .gone := by
  rw [expiry_on hs hT hev, if_neg (mt beq_iff_eq.1 hr), if_pos (beq_iff_eq.2 hg)]

theorem expiry_ver (hr : r.rev ≠ 0) (hg : r.key ≠ gone) (ht : r.rev ≤ c.timeout) (hl : r.key ≠ live) :
    expiry c live gone r = .ver := by
  rw [expiry_on hs hT hev, if_neg (mt beq_iff_eq.1 hr), if_neg (mt beq_iff_eq.1 hg), if_pos (by simp [ht, hl])]
end

/-- the table of `expiry` read from the answer: `compactIfExpired` says "expired", by the call it made -/
theorem expireStep_some {c : WCfg} {live gone : Bytes} {snap : List Rec} {r : Rec} {acts : List Act}
    (h : expireStep c live gone snap r = some acts) :
    c.supportTTL = false ∧ c.timeout ≠ 0 ∧ isEventKey c r.key = true ∧
      ((acts = [.panic] ∧ r.rev = 0 ∧ r.val.length < 8) ∨
       (acts = [.expire r.ik r.val (versionsOf r.key snap) r.key] ∧ r.rev = 0 ∧ 8 ≤ r.val.length ∧
          fromBE (r.val.take 8) ≤ c.timeout) ∨
       (acts = [] ∧ r.rev ≠ 0 ∧ r.key = gone) ∨
       (acts = [.del r.ik r.key] ∧ r.rev ≠ 0 ∧ r.rev ≤ c.timeout ∧ r.key ≠ live ∧ r.key ≠ gone)) := by
  cases hs : c.supportTTL with
  | true => rw [expireStep_off (.inl hs)] at h; cases h
  | false =>
  by_cases hT : c.timeout = 0
  · rw [expireStep_off (.inr hT)] at h; cases h
  unfold expireStep at h
  cases hev : isEventKey c r.key with
  | false => rw [expiry_nonevent hev] at h; cases h
  | true =>
  refine ⟨rfl, hT, rfl, ?_⟩
  by_cases hr : r.rev = 0
  · by_cases h8 : r.val.length < 8
    · rw [expiry_panic hs hT hev _ _ hr h8] at h; cases h
      exact .inl ⟨rfl, hr, h8⟩
    · by_cases hv : fromBE (r.val.take 8) ≤ c.timeout
      · rw [expiry_idx hs hT hev _ _ hr (Nat.not_lt.1 h8) hv] at h; cases h
        exact .inr (.inl ⟨rfl, hr, Nat.not_lt.1 h8, hv⟩)
      · rw [expiry_noLive hs hT hev _ _ hr (Nat.not_lt.1 h8) (Nat.not_le.1 hv)] at h; cases h
  · by_cases hg : r.key = gone
    · rw [expiry_gone hs hT hev _ _ hr hg] at h; cases h
      exact .inr (.inr (.inl ⟨rfl, hr, hg⟩))
    · by_cases hv : r.rev ≤ c.timeout ∧ r.key ≠ live
      · rw [expiry_ver hs hT hev _ _ hr hg hv.1 hv.2] at h; cases h
        exact .inr (.inr (.inr ⟨rfl, hr, hv.1, hv.2, hg⟩))
      · rw [expiry_on hs hT hev, if_neg (mt beq_iff_eq.1 hr), if_neg (mt beq_iff_eq.1 hg),
          if_neg (by simpa using hv)] at h
        cases h

theorem runDeletes_nil' (mask : Nat → DelOutcome) (st : CompState) : runDeletes mask st [] = st := rfl

theorem runDeletes_append (mask : Nat → DelOutcome) (st : CompState) (l1 l2 : List Act) :
    runDeletes mask st (l1 ++ l2) = runDeletes mask (runDeletes mask st l1) l2 := by
  simp [runDeletes, List.foldl_append]

theorem runDeletes_emitPrev (mask : Nat → DelOutcome) (st : CompState) (p : Prev) :
    runDeletes mask st (emitPrev p) = st := by
  unfold emitPrev; split <;> rfl

/-! ### `runActs`: the expiry batch and the single-record deletes -/

def Act.single : Act → Prop
  | .expire _ _ _ _ => False
  | _ => True

theorem runAct_single (mask : Nat → DelOutcome) (st : CompState) {a : Act} (h : a.single) :
    runAct mask st a = runDelete mask st a := by
  cases a <;> first | rfl | exact absurd h (by simp [Act.single])

theorem runActs_nil (mask : Nat → DelOutcome) (st : CompState) : runActs mask st [] = st := rfl

theorem runActs_append (mask : Nat → DelOutcome) (st : CompState) (l1 l2 : List Act) :
    runActs mask st (l1 ++ l2) = runActs mask (runActs mask st l1) l2 := by
  simp [runActs, List.foldl_append]

theorem runActs_single (mask : Nat → DelOutcome) (acts : List Act) (st : CompState) (h : ∀ a ∈ acts, a.single) :
    runActs mask st acts = runDeletes mask st acts := by
  induction acts generalizing st with
  | nil => rfl
  | cons a l ih =>
    exact (congrArg (runActs mask · l) (runAct_single mask st (h a List.mem_cons_self))).trans
      (ih _ fun a' ha' => h a' (List.mem_cons_of_mem _ ha'))

/-! ### the ordinary rules of the loop body (`workerStep`), branch by branch -/

/-- what every iteration at or below the read revision does first: the emission, or the delete, that is due for
`prev`, then the delete of a tombstone -/
def stepActs (c : WCfg) (p : Prev) (r : Rec) : List Act :=
  (if r.key != p.key then emitPrev p
    else if c.compact && p.rev > 0 then [.del (encode p.key p.rev) p.key] else []) ++
  (if c.compact && isTomb r.val then [.del r.ik r.key] else [])

/-- a compaction meets a revision record that carries the deletion flag -/
def flaggedIdx (c : WCfg) (r : Rec) : Bool :=
  c.compact && r.rev == 0 && r.val.length == scannerRevisionValueLengthWithDeletionFlag

theorem workerStep_above {c : WCfg} {r : Rec} (h : c.R < r.rev) (p : Prev) : workerStep c p r = ([], p) :=
  if_pos h

/-- the deletion it records is above the compact revision: `continue`, `prev` stays -/
theorem workerStep_flagged_above {c : WCfg} {r : Rec} (h : ¬ c.R < r.rev) (hf : flaggedIdx c r = true)
    (hv : c.R < fromBE (r.val.take 8)) (p : Prev) : workerStep c p r = (stepActs c p r, p) := by
  unfold workerStep
  rw [if_neg h]
  exact (if_pos hf).trans (if_pos hv)

theorem workerStep_flagged {c : WCfg} {r : Rec} (h : ¬ c.R < r.rev) (hf : flaggedIdx c r = true)
    (hv : ¬ c.R < fromBE (r.val.take 8)) (p : Prev) :
    workerStep c p r = (stepActs c p r ++ [.delcur r.ik r.val r.key], ⟨r.key, r.rev, r.val⟩) := by
  unfold workerStep
  rw [if_neg h]
  exact (if_pos hf).trans (if_neg hv)

theorem workerStep_ordinary {c : WCfg} {r : Rec} (h : ¬ c.R < r.rev) (hf : ¬ flaggedIdx c r = true) (p : Prev) :
    workerStep c p r = (stepActs c p r, ⟨r.key, r.rev, r.val⟩) := by
  unfold workerStep
  rw [if_neg h]
  exact if_neg hf

theorem workerStep_cases (c : WCfg) (p : Prev) (r : Rec) :
    workerStep c p r = ([], p) ∨ workerStep c p r = (stepActs c p r, p) ∨
      workerStep c p r = (stepActs c p r ++ [.delcur r.ik r.val r.key], ⟨r.key, r.rev, r.val⟩) ∨
      workerStep c p r = (stepActs c p r, ⟨r.key, r.rev, r.val⟩) := by
  by_cases h : c.R < r.rev
  · exact .inl (workerStep_above h p)
  · by_cases hf : flaggedIdx c r = true
    · by_cases hv : c.R < fromBE (r.val.take 8)
      · exact .inr (.inl (workerStep_flagged_above h hf hv p))
      · exact .inr (.inr (.inl (workerStep_flagged h hf hv p)))
    · exact .inr (.inr (.inr (workerStep_ordinary h hf p)))

theorem eq_of_mem_emitPrev {p : Prev} {a : Act} (h : a ∈ emitPrev p) : a = .emit p.key p.val p.rev := by
  unfold emitPrev at h
  split at h
  · exact List.mem_singleton.1 h
  · cases h

theorem workerStep_acts (c : WCfg) (p : Prev) (r : Rec) {a : Act} (ha : a ∈ (workerStep c p r).1) :
    a ∈ emitPrev p ∨ (a = .del (encode p.key p.rev) p.key ∧ r.key = p.key ∧ 0 < p.rev) ∨ a = .del r.ik r.key ∨
      a = .delcur r.ik r.val r.key := by
  have hs : a ∈ stepActs c p r ++ [.delcur r.ik r.val r.key] := by
    rcases workerStep_cases c p r with e | e | e | e <;> rw [e] at ha
    · cases ha
    · exact List.mem_append_left _ ha
    · exact ha
    · exact List.mem_append_left _ ha
  rcases List.mem_append.1 hs with hs | hs
  · rcases List.mem_append.1 hs with h | h
    · by_cases hk : (r.key != p.key) = true
      · exact .inl (by rwa [if_pos hk] at h)
      · rw [if_neg hk] at h
        split at h
        · rename_i hc
          simp only [Bool.and_eq_true, decide_eq_true_eq] at hc
          exact .inr (.inl ⟨List.mem_singleton.1 h, by simpa using hk, hc.2⟩)
        · cases h
    · split at h
      · exact .inr (.inr (.inl (List.mem_singleton.1 h)))
      · cases h
  · exact .inr (.inr (.inr (List.mem_singleton.1 hs)))

theorem workerStep_all {P : Act → Prop} (hemit : ∀ k v n, P (.emit k v n)) (hprev : ∀ k n, P (.del (encode k n) k))
    (c : WCfg) (p : Prev) {r : Rec} (hrec : P (.del r.ik r.key) ∧ P (.delcur r.ik r.val r.key)) :
    ∀ a ∈ (workerStep c p r).1, P a := by
  intro a ha
  rcases workerStep_acts c p r ha with h | ⟨rfl, _⟩ | rfl | rfl
  · rw [eq_of_mem_emitPrev h]; exact hemit ..
  · exact hprev ..
  · exact hrec.1
  · exact hrec.2

theorem workerLoop_all {P : Act → Prop} (hemit : ∀ k v n, P (.emit k v n)) (hprev : ∀ k n, P (.del (encode k n) k))
    (c : WCfg) (rs : List Rec) (hrec : ∀ r ∈ rs, P (.del r.ik r.key) ∧ P (.delcur r.ik r.val r.key)) (p : Prev) :
    ∀ a ∈ workerLoop c p rs, P a := by
  induction rs generalizing p with
  | nil => intro a ha; rw [eq_of_mem_emitPrev ha]; exact hemit ..
  | cons r rs ih =>
    exact List.forall_mem_append.2 ⟨workerStep_all hemit hprev c p (hrec r (List.mem_cons_self ..)),
      ih (fun x hx => hrec x (List.mem_cons_of_mem _ hx)) _⟩

theorem emitPrev_single (p : Prev) : ∀ a ∈ emitPrev p, a.single := by
  intro a ha; rw [eq_of_mem_emitPrev ha]; trivial

theorem workerStep_single (c : WCfg) (p : Prev) (r : Rec) : ∀ a ∈ (workerStep c p r).1, a.single :=
  workerStep_all (fun _ _ _ => trivial) (fun _ _ => trivial) c p ⟨trivial, trivial⟩

theorem workerLoop_single (c : WCfg) (rs : List Rec) (p : Prev) : ∀ a ∈ workerLoop c p rs, a.single :=
  workerLoop_all (fun _ _ _ => trivial) (fun _ _ => trivial) c rs (fun _ _ => ⟨trivial, trivial⟩) p

theorem commit_expireOps (s : Store) (ik v : Bytes) (vers : List Bytes) :
    commit {} s (expireOps ik v vers) =
      if s.get ik = some v then .ok (vers.foldl Store.erase (s.erase ik))
      else .error (.conflict (some 0) (s.get ik)) := by
  have hdel : ∀ (l : List Bytes) (t : Store) (i : Nat),
      applyOps {} t i (l.map BOp.del) = .ok (l.foldl Store.erase t) := by
    intro l
    induction l with
    | nil => intro t i; rfl
    | cons x xs ih => intro t i; simp only [List.map_cons, applyOps, applyOp, List.foldl_cons]; exact ih _ _
  unfold commit expireOps
  simp only [applyOps, applyOp]
  cases hg : s.get ik with
  | none => simp
  | some cur =>
    by_cases hv : cur = v
    · subst hv; simp only [if_true]; exact hdel _ _ _
    · simp [hv]

/-- `isSkippedRawKey` -/
def skipped (st : CompState) (raw : Bytes) : Bool := decide (st.lastFailed.length > 0) && st.lastFailed == raw

theorem skipped_iff {st : CompState} {raw : Bytes} :
    skipped st raw = true ↔ st.lastFailed ≠ [] ∧ st.lastFailed = raw := by
  simp [skipped, List.length_pos_iff]

theorem runExpire_cases (mask : Nat → DelOutcome) (st : CompState) (ik v : Bytes) (vers : List Bytes) (raw : Bytes) :
    (skipped st raw = true ∧ runExpire mask st ik v vers raw = st ∧ expireErr mask st ik v raw = false) ∨
    (skipped st raw = false ∧ expireErr mask st ik v raw = false ∧
        mask st.calls = .ok ∧ st.store.get ik = some v ∧
        (runExpire mask st ik v vers raw).store = vers.foldl Store.erase (st.store.erase ik) ∧
        (runExpire mask st ik v vers raw).lastFailed = st.lastFailed ∧
        (runExpire mask st ik v vers raw).calls = st.calls + 1) ∨
    (skipped st raw = false ∧ expireErr mask st ik v raw = true ∧
        (runExpire mask st ik v vers raw).store = st.store ∧
        ((runExpire mask st ik v vers raw).lastFailed = st.lastFailed ∨
          (runExpire mask st ik v vers raw).lastFailed = raw) ∧
        (runExpire mask st ik v vers raw).calls = st.calls + 1) := by
  cases hsk : skipped st raw with
  | true =>
    left
    unfold skipped at hsk
    refine ⟨rfl, ?_, ?_⟩
    · simp only [runExpire, hsk, if_true]
    · simp only [expireErr, hsk]; rfl
  | false =>
    right
    unfold skipped at hsk
    simp only [runExpire, expireErr, hsk]
    cases hmc : mask st.calls with
    | ok =>
      rw [commit_expireOps]
      by_cases hg : st.store.get ik = some v
      · left; simp [hg]
      · right; simp [hg]
    | fail => right; simp
    | failCas => right; simp

theorem mem_versionsOf {k : Bytes} {snap : List Rec} {ik : Bytes} :
    ik ∈ versionsOf k snap ↔ ∃ w ∈ snap, w.key = k ∧ w.rev ≠ 0 ∧ w.rev < 2 ^ 64 - 1 ∧ w.ik = ik := by
  unfold versionsOf
  simp only [List.mem_map, List.mem_filter, Bool.and_eq_true, beq_iff_eq, bne_iff_ne, ne_eq, decide_eq_true_eq]
  constructor
  · rintro ⟨w, ⟨hw, ⟨h1, h2⟩, h3⟩, e⟩; exact ⟨w, hw, h1, h2, h3, e⟩
  · rintro ⟨w, hw, h1, h2, h3, e⟩; exact ⟨w, ⟨hw, ⟨h1, h2⟩, h3⟩, e⟩

/-! ### the loop as a fold: one iteration is `passStep`, what the worker remembers is `Loop` -/

/-- what the worker carries from one record to the next: `prevUserKey/Revision/Value`, `liveEventRawKey`,
`goneEventRawKey` and the execution state -/
structure Loop where
  p : Prev
  live : Bytes
  gone : Bytes
  st : CompState

/-- what every iteration keeps: the store sorted (`get` / `erase` are exact on it), and `prev`'s revision one that encodes
(the delete of the previous version names `encode key prev.rev`) -/
structure Loop.WF (s : Loop) : Prop where
  so : Store.Sorted s.st.store
  p64 : s.p.rev < 2 ^ 64

def passStep (c : WCfg) (mask : Nat → DelOutcome) (snap : List Rec) (s : Loop) (r : Rec) : Loop :=
  match expiry c s.live s.gone r with
  | .panic => s
  | .gone => s
  | .idx =>
    ⟨s.p, if expireErr mask s.st r.ik r.val r.key then r.key else s.live,
      if expireErr mask s.st r.ik r.val r.key then s.gone else r.key,
      runExpire mask s.st r.ik r.val (versionsOf r.key snap) r.key⟩
  | .ver => ⟨s.p, s.live, s.gone, runDelete mask s.st (.del r.ik r.key)⟩
  | .noLive => ⟨(workerStep c s.p r).2, r.key, s.gone, runDeletes mask s.st (workerStep c s.p r).1⟩
  | .no => ⟨(workerStep c s.p r).2, s.live, s.gone, runDeletes mask s.st (workerStep c s.p r).1⟩

theorem passLoop_cons (c : WCfg) (mask : Nat → DelOutcome) (snap : List Rec) (p : Prev) (live gone : Bytes)
    (st : CompState) (r : Rec) (rs : List Rec) :
    passLoop c mask snap p live gone st (r :: rs) =
      ((expireStep c live gone snap r).getD (workerStep c p r).1 ++
        (passLoop c mask snap (passStep c mask snap ⟨p, live, gone, st⟩ r).p
          (passStep c mask snap ⟨p, live, gone, st⟩ r).live (passStep c mask snap ⟨p, live, gone, st⟩ r).gone
          (passStep c mask snap ⟨p, live, gone, st⟩ r).st rs).1,
       (passLoop c mask snap (passStep c mask snap ⟨p, live, gone, st⟩ r).p
          (passStep c mask snap ⟨p, live, gone, st⟩ r).live (passStep c mask snap ⟨p, live, gone, st⟩ r).gone
          (passStep c mask snap ⟨p, live, gone, st⟩ r).st rs).2) := by
  rw [passLoop]
  unfold passStep expireStep
  cases expiry c live gone r <;> rfl

theorem passLoop_snd (c : WCfg) (mask : Nat → DelOutcome) (snap rs : List Rec) (p : Prev) (live gone : Bytes)
    (st : CompState) :
    (passLoop c mask snap p live gone st rs).2 = (rs.foldl (passStep c mask snap) ⟨p, live, gone, st⟩).st := by
  induction rs generalizing p live gone st with
  | nil => rfl
  | cons r rs ih => rw [passLoop_cons, List.foldl_cons]; exact ih ..

section step
variable {c : WCfg} {mask : Nat → DelOutcome} {snap : List Rec} {s : Loop} {r : Rec}

theorem passStep_no (h : expiry c s.live s.gone r = .no) :
    passStep c mask snap s r =
      ⟨(workerStep c s.p r).2, s.live, s.gone, runDeletes mask s.st (workerStep c s.p r).1⟩ := by
  simp only [passStep, h]

theorem passStep_noLive (h : expiry c s.live s.gone r = .noLive) :
    passStep c mask snap s r =
      ⟨(workerStep c s.p r).2, r.key, s.gone, runDeletes mask s.st (workerStep c s.p r).1⟩ := by
  simp only [passStep, h]

theorem passStep_ver (h : expiry c s.live s.gone r = .ver) :
    passStep c mask snap s r = ⟨s.p, s.live, s.gone, runDelete mask s.st (.del r.ik r.key)⟩ := by
  simp only [passStep, h]

theorem passStep_idx (h : expiry c s.live s.gone r = .idx) :
    passStep c mask snap s r =
      ⟨s.p, if expireErr mask s.st r.ik r.val r.key then r.key else s.live,
        if expireErr mask s.st r.ik r.val r.key then s.gone else r.key,
        runExpire mask s.st r.ik r.val (versionsOf r.key snap) r.key⟩ := by
  simp only [passStep, h]

theorem passStep_run (c : WCfg) (mask : Nat → DelOutcome) (snap : List Rec) (s : Loop) (r : Rec) :
    (passStep c mask snap s r).st = runActs mask s.st ((expireStep c s.live s.gone snap r).getD (workerStep c s.p r).1) ∧
    ((expireStep c s.live s.gone snap r).isSome → (passStep c mask snap s r).p = s.p) := by
  have hord := (runActs_single mask _ s.st (workerStep_single c s.p r)).symm
  unfold passStep expireStep
  cases expiry c s.live s.gone r
  · exact ⟨hord, nofun⟩
  · exact ⟨hord, nofun⟩
  all_goals exact ⟨rfl, fun _ => rfl⟩

end step

theorem passLoop_all {P : Act → Prop} (hemit : ∀ k v n, P (.emit k v n)) (hprev : ∀ k n, P (.del (encode k n) k))
    (c : WCfg) (mask : Nat → DelOutcome) (snap rs : List Rec)
    (hrec : ∀ r ∈ rs, P (.del r.ik r.key) ∧ P (.delcur r.ik r.val r.key) ∧
      P (.expire r.ik r.val (versionsOf r.key snap) r.key) ∧
      (c.supportTTL = false → c.timeout ≠ 0 → isEventKey c r.key = true → r.rev = 0 → r.val.length < 8 → P .panic))
    (p : Prev) (live gone : Bytes) (st : CompState) :
    ∀ a ∈ (passLoop c mask snap p live gone st rs).1, P a := by
  induction rs generalizing p live gone st with
  | nil => intro a ha; rw [eq_of_mem_emitPrev ha]; exact hemit ..
  | cons r rs ih =>
    obtain ⟨hdel, hcur, hexp, hpan⟩ := hrec r (List.mem_cons_self ..)
    rw [passLoop_cons]
    refine List.forall_mem_append.2 ⟨?_, ih (fun x hx => hrec x (List.mem_cons_of_mem _ hx)) _ _ _ _⟩
    cases h : expireStep c live gone snap r with
    | none => exact workerStep_all hemit hprev c p ⟨hdel, hcur⟩
    | some acts =>
      obtain ⟨hs, hT, hev, ⟨rfl, hr, hv⟩ | ⟨rfl, _⟩ | ⟨rfl, _⟩ | ⟨rfl, _⟩⟩ := expireStep_some h
      · exact List.forall_mem_singleton.2 (hpan hs hT hev hr hv)
      · exact List.forall_mem_singleton.2 hexp
      · exact List.forall_mem_nil _
      · exact List.forall_mem_singleton.2 hdel

theorem passLoop_run (c : WCfg) (mask : Nat → DelOutcome) (snap : List Rec) (rs : List Rec) (p : Prev)
    (live gone : Bytes) (st : CompState) :
    (passLoop c mask snap p live gone st rs).2 = runActs mask st (passLoop c mask snap p live gone st rs).1 := by
  induction rs generalizing p live gone st with
  | nil => exact ((runActs_single mask _ st (emitPrev_single p)).trans (runDeletes_emitPrev mask st p)).symm
  | cons r rs ih => rw [passLoop_cons, runActs_append, ← (passStep_run c mask snap ⟨p, live, gone, st⟩ r).1]; exact ih ..

theorem passLoop_expiry_off {c : WCfg} (hc : c.ExpiryOff) (mask : Nat → DelOutcome) (snap : List Rec)
    (rs : List Rec) (p : Prev) (live gone : Bytes) (st : CompState) :
    passLoop c mask snap p live gone st rs = (workerLoop c p rs, runDeletes mask st (workerLoop c p rs)) := by
  induction rs generalizing p live gone st with
  | nil => exact congrArg (Prod.mk _) (runDeletes_emitPrev mask st p).symm
  | cons r rs ih =>
    rw [passLoop_cons, expireStep_off hc, passStep_no (expiry_off hc ..), ih]
    exact congrArg (Prod.mk _) (runDeletes_append ..).symm

theorem expiryCallShape_eq : (expiryCallShape == "batch") = true := beq_iff_eq.2 rfl

/-- the loop the source has (regenerated fact `expiryCallShape`): the one with the expiry batch -/
theorem passRun_eq (c : WCfg) (mask : Nat → DelOutcome) (st : CompState) (recs : List Rec) :
    passRun c mask st recs = passLoop c mask recs {} [] [] { st with lastFailed := [] } recs := by
  unfold passRun
  rw [if_pos expiryCallShape_eq]

/-- why C07 / C07Race / C07Par can be stated about `runDeletes` over `workerActs` -/
theorem passRun_expiry_off {c : WCfg} (hc : c.ExpiryOff) (mask : Nat → DelOutcome) (st : CompState)
    (recs : List Rec) :
    passRun c mask st recs =
      (workerActs c recs, runDeletes mask { st with lastFailed := [] } (workerActs c recs)) := by
  rw [passRun_eq]; exact passLoop_expiry_off hc mask recs recs {} [] [] _

end KB
