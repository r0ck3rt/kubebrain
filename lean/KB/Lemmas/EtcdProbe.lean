/- Lemmas for the compaction-probe recogniser of C16 (`KB.Etcd.isCompact`, /repo 2870609): what it accepts is
exactly kube-apiserver's probe (`CompactProbe`), a transaction guarded by VERSION compares is the probe or
unsupported, and no other shape is ever answered with the canned probe answer. -/
import KB.Lemmas.Etcd
namespace KB.Etcd

/-- `Version(k) == n` on the single key `k` (any `n`) -/
def VerCmp (c : Compare) (k : Bytes) : Prop :=
  c.target = .version ∧ c.result = .equal ∧ c.key = k ∧ c.rangeEnd = []

/-- kube-apiserver's compaction probe (k8s.io/apiserver/pkg/storage/etcd3/compact.go):
`If(Version(compact_rev_key) = n).Then(Put compact_rev_key v).Else(Get compact_rev_key)` — the compare, the put
and the read on THAT key, no `range_end` on the compare, a put without flags, a plain Get. (The compared
version, the put's value and lease, limit / sort order / `serializable` of the point Get are free.) -/
inductive CompactProbe : TxnReq → Prop where
  | mk (c : Compare) (p : PutReq) (g : RangeReq) : VerCmp c compactRevKey → p.key = compactRevKey →
      p.prevKv = false → p.ignoreValue = false → p.ignoreLease = false → PlainGet g compactRevKey →
      CompactProbe { compare := [c], success := [.put p], failure := [.range g] }

theorem CompactProbe.inv {t : TxnReq} (h : CompactProbe t) :
    ∃ c p g, t = { compare := [c], success := [.put p], failure := [.range g] } ∧ VerCmp c compactRevKey ∧
      p.key = compactRevKey ∧ p.prevKv = false ∧ p.ignoreValue = false ∧ p.ignoreLease = false ∧
      PlainGet g compactRevKey := by
  obtain ⟨c, p, g, hc, hp, f1, f2, f3, hg⟩ := h
  exact ⟨c, p, g, rfl, hc, hp, f1, f2, f3, hg⟩

theorem isCompact_iff {t : TxnReq} : isCompact t = true ↔ CompactProbe t := by
  constructor
  · obtain ⟨cs, ss, fs⟩ := t
    intro h
    simp only [isCompact] at h
    split at h
    · rename_i c g p
      simp only [Bool.and_eq_true, beq_iff_eq, List.isEmpty_iff, Bool.not_eq_true', isPlainGet_iff] at h
      obtain ⟨⟨⟨⟨⟨⟨⟨⟨ht, hr⟩, he⟩, hk⟩, hpk⟩, f1⟩, f2⟩, f3⟩, hg⟩ := h
      exact .mk c p g ⟨ht, hr, hk, he⟩ (hpk.trans hk) f1 f2 f3 (hk ▸ hg)
    · cases h
  · rintro ⟨c, p, g, ⟨ht, hr, hk, he⟩, hpk, f1, f2, f3, hg⟩
    simp [isCompact, ht, hr, hk, he, hpk, f1, f2, f3, isPlainGet_iff.mpr hg]

/-- a transaction guarded by VERSION compares (at least one) is the compaction probe or unsupported: whatever
the other three recognisers accept carries a `ModRevision` compare, or none at all -/
theorem classify_of_version {t : TxnReq} (hver : ∀ cm ∈ t.compare, cm.target = .version) (hne : t.compare ≠ []) :
    classify t = if isCompact t then .compact else .unsupported := by
  have hno : ∀ {c k n}, ModCmp c k n → c ∉ t.compare := fun hc hm => by
    have := hver _ hm
    rw [hc.1] at this
    cases this
  refine classify_none ?_ ?_ ?_
  · cases h : isCreate t with
    | none => rfl
    | some p =>
      obtain ⟨c, rfl, hc⟩ := isCreate_iff.mp h
      exact absurd (.head _) (hno hc)
  · cases h : isDelete t with
    | none => rfl
    | some x =>
      rcases isDelete_iff.mp h with ⟨_, _, g, d, rfl, _⟩ | ⟨_, c, g, d, rfl, _, hc, _⟩
      · exact absurd rfl hne
      · exact absurd (.head _) (hno hc)
  · cases h : isUpdate t with
    | none => rfl
    | some x =>
      obtain ⟨c, p, g, rfl, hc, _⟩ := isUpdate_iff.mp h
      exact absurd (.head _) (hno hc)

/-- THE PROBE RECOGNISER IS EXACT: a transaction takes the compactor's branch of `RPCServer.Txn` iff it is
kube-apiserver's probe. -/
theorem classify_compact_iff {t : TxnReq} : classify t = .compact ↔ CompactProbe t := by
  constructor
  · intro h
    unfold classify at h
    split at h
    · cases h
    · split at h
      · cases h
      · split at h
        · cases h
        · split at h
          · rename_i hc
            exact isCompact_iff.mp hc
          · cases h
  · intro h
    have hc := isCompact_iff.mpr h
    obtain ⟨c, p, g, hv, _⟩ := h
    rw [classify_of_version (fun cm hm => by rw [List.mem_singleton.mp hm]; exact hv.1) (List.cons_ne_nil _ _), hc]
    rfl

theorem classify_version_not_probe {t : TxnReq} (hver : ∀ cm ∈ t.compare, cm.target = .version) (hne : t.compare ≠ [])
    (hnp : ¬ CompactProbe t) : classify t = .unsupported := by
  rw [classify_of_version hver hne]
  cases hc : isCompact t with
  | true => exact absurd (isCompact_iff.mp hc) hnp
  | false => rfl

/-- the canned probe answer (`Succeeded = false`, one range response with an invented key-value and Count 1) is
built for the compactor's shape only: no answer of the backend is ever shaped into it -/
theorem shapeTxn_eq_compactResp {sh : Shape} {a : BAns} (h : shapeTxn sh a = .ok compactResp) : sh = .compact := by
  -- every other shape answers an error, a put response, or a range response with count 0
  unfold compactResp at h
  cases sh with
  | compact => rfl
  | unsupported => cases h
  | create p =>
    simp only [shapeTxn] at h
    split at h
    · cases h
    · cases a <;> cases h
  | update rev key val l =>
    cases a with
    | error e => cases h
    | resp ok hdr kv => cases ok <;> cases kv <;> cases h
  | delete rev key g =>
    cases a with
    | error e => cases g <;> cases h
    | resp ok hdr kv => cases g <;> cases ok <;> cases kv <;> cases h

end KB.Etcd
