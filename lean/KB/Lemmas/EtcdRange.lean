/- Helper lemmas for C16, range part: the shim's Range over an encoded store against the reference
Range over the MVCC history that store abstracts to. -/
import KB.Lemmas.Etcd
import KB.Lemmas.Bounds
import KB.Props.C03
namespace KB.Etcd
open Generated

theorem sorted_ext {l1 l2 : List KB.KV} (h1 : l1.Pairwise (fun a b => cmp a.1 b.1 = .lt))
    (h2 : l2.Pairwise (fun a b => cmp a.1 b.1 = .lt)) (h : ∀ e, e ∈ l1 ↔ e ∈ l2) : l1 = l2 := by
  have hne : ∀ {a b : KB.KV}, cmp a.1 b.1 = .lt → a ≠ b := fun hab he => cmp_lt_irrefl (he ▸ hab)
  exact List.Perm.eq_of_pairwise (fun a b _ _ hab hba => absurd (cmp_lt_trans hab hba) cmp_lt_irrefl) h1 h2
    ((List.perm_ext_iff_of_nodup (h1.imp hne) (h2.imp hne)).mpr h)

/-! ### scanning a key-filtered store = filtering the scan -/

theorem sortedRecs_filter {recs : List Rec} (hs : SortedRecs recs) (P : Rec → Bool) : SortedRecs (recs.filter P) :=
  List.Pairwise.filter _ hs

theorem visible_filter_key (R : Nat) (recs : List Rec) (P : Bytes → Bool) (k : Bytes) :
    visible R (recs.filter (fun r => P r.key)) k = if P k then visible R recs k else none := by
  rw [visible_def, visible_def, List.filter_filter]
  -- a record visible at `k` has key `k`
  have hk : ∀ x, vis R k x = true → P x.key = P k := fun x hv => by rw [(vis_iff.mp hv).1]
  by_cases hp : P k = true
  · rw [if_pos hp]
    refine congrArg _ (List.filter_congr fun x _ => ?_)
    cases hv : vis R k x
    · rfl
    · rw [hk x hv, hp]; rfl
  · rw [if_neg hp, List.filter_eq_nil_iff.mpr]
    · rfl
    · intro x _
      cases hv : vis R k x
      · simp
      · simpa [hk x hv] using hp

theorem readAt_filter_key (R : Nat) (recs : List Rec) (P : Bytes → Bool) (k : Bytes) :
    readAt R (recs.filter (fun r => P r.key)) k = if P k then readAt R recs k else none := by
  rw [readAt_def, readAt_def, visible_filter_key]
  split <;> rfl

theorem scan_filter_key {recs : List Rec} (hs : SortedRecs recs) (R : Nat) (P : Bytes → Bool) :
    scanRecs R (recs.filter (fun r => P r.key)) = (scanRecs R recs).filter (fun e => P e.1) := by
  refine sorted_ext (scanRecs_sorted (sortedRecs_filter hs _) R) (List.Pairwise.filter _ (scanRecs_sorted hs R)) ?_
  intro ⟨k, v, r⟩
  rw [mem_scanRecs_iff (sortedRecs_filter hs _), List.mem_filter, mem_scanRecs_iff hs, readAt_filter_key]
  by_cases hp : P k = true <;> simp [hp]

theorem scan_point {recs : List Rec} (hs : SortedRecs recs) (R : Nat) (k : Bytes) :
    (scanRecs R recs).filter (fun e => e.1 == k) = match readAt R recs k with
      | none => []
      | some (v, r) => [(k, v, r)] := by
  refine sorted_ext (List.Pairwise.filter _ (scanRecs_sorted hs R)) ?_ ?_
  · cases readAt R recs k with
    | none => exact List.Pairwise.nil
    | some vr => exact List.pairwise_singleton _ _
  · intro ⟨k', v, r⟩
    rw [List.mem_filter, mem_scanRecs_iff hs]
    constructor
    · rintro ⟨h1, h2⟩
      obtain rfl : k' = k := by simpa using h2
      simp [h1]
    · intro h
      cases hr : readAt R recs k with
      | none => rw [hr] at h; cases h
      | some vr =>
        rw [hr] at h
        obtain ⟨rfl, rfl, rfl⟩ : k' = k ∧ v = vr.1 ∧ r = vr.2 := by simpa using h
        exact ⟨hr, by simp⟩

/-! ### the history an encoded store abstracts to -/

def fullOf (e : KB.KV) : KVFull := { key := e.1, val := e.2.1, mod := e.2.2 }

theorem proj_fullOf (e : KB.KV) : (fullOf e).proj = e := rfl

/-- the etcd state at revision `R`: the snapshot the worker loop computes (C03: `mem_scan_iff`,
`scan_keys_sorted` characterise it as "newest version ≤ R of every key, unless deleted") -/
def mvccAt (recs : List Rec) (R : Nat) : Mvcc := { rev := R, kvs := (scanRecs R recs).map fullOf }

def histOf (recs : List Rec) (committed : Nat) : Hist := { cur := committed, floor := 0, at_ := mvccAt recs }

/-- how a quiescent backend state abstracts to a history (`single`: one partition; `compat`: Count is enabled) -/
structure StoreAbs (c : Cfg) (s : BState) (recs : List Rec) : Prop where
  store : s.store = encodeStore recs
  sorted : SortedRecs recs
  keys : ∀ r ∈ recs, Alphabet r.key ∧ r.rev < 2 ^ 64
  newest : ∀ r ∈ recs, r.rev ≤ s.committed
  single : c.splits = []
  compat : c.etcdCompat = true

/-- no option the shim ignores is set -/
def PlainRange (r : RangeReq) : Prop :=
  r.keysOnly = false ∧ r.sortDesc = false ∧ r.minMod = 0 ∧ r.maxMod = 0 ∧ r.minCreate = 0 ∧ r.maxCreate = 0

theorem mvccAt_range (recs : List Rec) (R : Nat) (a b : Bytes) :
    ((mvccAt recs R).range a b).map KVFull.proj = (scanRecs R recs).filter (fun e => inInterval a b e.1) := by
  simp only [Mvcc.range, mvccAt, List.filter_map, List.map_map]
  exact List.map_id _

theorem ne_nil_of_lt {a b : Bytes} (hab : cmp a b = .lt) : b ≠ [] := by
  intro h
  subst h
  cases a <;> simp at hab

theorem ref_all_interval' (recs : List Rec) (hs : SortedRecs recs) (R : Nat) (a b : Bytes)
    (h0 : (b == [0]) = false) (hab : cmp a b = .lt) :
    ((mvccAt recs R).range a b).map KVFull.proj = scanRecs R (recs.filter (inRange a b)) := by
  have hemp := isEmpty_false_of_ne (ne_nil_of_lt hab)
  have hin : inInterval a b = fun k => ble a k && blt k b := by
    funext k
    simp [inInterval, hemp, h0]
  rw [mvccAt_range, hin]
  exact (scan_filter_key hs R fun k => ble a k && blt k b).symm

theorem ref_all_interval (recs : List Rec) (hs : SortedRecs recs) (R : Nat) (a b : Bytes)
    (hb : Alphabet b) (hab : cmp a b = .lt) :
    ((mvccAt recs R).range a b).map KVFull.proj = scanRecs R (recs.filter (inRange a b)) := by
  refine ref_all_interval' recs hs R a b ?_ hab
  -- over the alphabet no byte is 0
  cases b with
  | nil => exact absurd rfl (ne_nil_of_lt hab)
  | cons x xs =>
    have : splitByte < x := hb x (.head _)
    simp only [splitByte] at this
    simp only [beq_eq_false_iff_ne, ne_eq, List.cons.injEq, not_and]
    omega

/-- `[0]` is etcd's "from key" marker `\0`; it is the smallest non-empty byte string -/
theorem end_ne_zero_of_lt {a b : Bytes} (hne : a ≠ []) (hab : cmp a b = .lt) : (b == [0]) = false := by
  cases a with
  | nil => exact absurd rfl hne
  | cons x xs =>
    simp only [beq_eq_false_iff_ne, ne_eq]
    intro hb
    subst hb
    rw [cmp_cons_cons] at hab
    by_cases hx : 0 < x
    · simp [hx] at hab
    · have : x = 0 := by omega
      subst this
      cases xs <;> simp at hab

theorem bound_ne_zero {a b : Bytes} (ha : Alphabet a) (hne : a ≠ []) (hab : cmp a b = .lt) : (b == [0]) = false :=
  end_ne_zero_of_lt hne hab

theorem readRev_eq {rev : Int} {committed : Nat} (h0 : 0 ≤ rev) (hlt : rev < 2 ^ 64) :
    (if rev ≤ 0 then committed else rev.toNat) = C03.readRev (toU64 rev) committed := by
  rw [toU64_of_nonneg h0 hlt]
  unfold C03.readRev
  by_cases hz : rev = 0
  · subst hz; simp
  · have h1 : ¬ rev ≤ 0 := by omega
    have h2 : ¬ rev.toNat = 0 := by omega
    simp [h1, h2]

theorem readRev_le {rev : Int} {committed : Nat} (h0 : 0 ≤ rev) (hle : rev ≤ committed) (hlt : rev < 2 ^ 64) :
    C03.readRev (toU64 rev) committed ≤ committed := by
  rw [← readRev_eq h0 hlt]
  split <;> omega

theorem refRangeH_ok (recs : List Rec) (committed : Nat) (r : RangeReq) (hk : r.key ≠ [])
    (h0 : 0 ≤ r.revision) (hle : r.revision ≤ committed) (hlt : r.revision < 2 ^ 64) :
    refRangeH (histOf recs committed) r =
      .ok { refRangeOn (mvccAt recs (C03.readRev (toU64 r.revision) committed)) r with hdr := committed } := by
  have hR := readRev_le h0 hle hlt
  simp only [refRangeH, histOf, isEmpty_false_of_ne hk, readRev_eq h0 hlt, Nat.not_lt.mpr hR, Nat.not_lt_zero,
    Bool.false_eq_true, if_false]

theorem hdrOf_scan {c : Cfg} {s : BState} {recs : List Rec} (hst : StoreAbs c s recs) (R : Nat) (P : Rec → Bool)
    {l : List KB.KV} (hl : ∀ e ∈ l, e ∈ scanRecs R (recs.filter P)) : hdrOf s.committed l = s.committed := by
  have hle : ∀ e ∈ l, e.2.2 ≤ s.committed := by
    intro ⟨k, v, m⟩ he
    have h := (mem_scanRecs_iff (sortedRecs_filter hst.sorted P) R k v m).mp (hl _ he)
    rw [readAt_def] at h
    cases hv : visible R (recs.filter P) k with
    | none => simp [hv, readOne] at h
    | some x =>
      rw [hv] at h
      simp only [readOne] at h
      split at h
      · cases h
      · cases h
        exact hst.newest x (List.mem_filter.mp (visible_some_mem hv).1).1
  clear hl
  unfold hdrOf
  induction l with
  | nil => rfl
  | cons x xs ih =>
    rw [List.foldl_cons, Nat.max_eq_left (hle x (.head _))]
    exact ih fun e he => hle e (.tail _ he)

theorem refRangeH_interval {c : Cfg} {s : BState} {recs : List Rec} (hst : StoreAbs c s recs) (r : RangeReq)
    (hp : PlainRange r) (hk : r.key ≠ []) (hlt : cmp r.key r.rangeEnd = .lt) (hr0 : 0 ≤ r.revision)
    (hrc : r.revision ≤ s.committed) (hrl : r.revision < 2 ^ 64) {full : List KB.KV}
    (hfull : full = scanRecs (C03.readRev (toU64 r.revision) s.committed) (recs.filter (inRange r.key r.rangeEnd))) :
    refRangeH (histOf recs s.committed) r =
      .ok { hdr := s.committed,
            kvs := if r.countOnly then [] else if r.limit.toNat > 0 then full.take r.limit.toNat else full,
            count := full.length,
            more := !r.countOnly && decide (r.limit.toNat > 0 ∧ full.length > r.limit.toNat) } := by
  obtain ⟨hp1, hp2, hp3, hp4, hp5, hp6⟩ := hp
  rw [refRangeH_ok recs s.committed r hk hr0 hrc hrl, refRangeOn_unfiltered _ r hp1 hp3 hp4 hp5 hp6, hfull,
    ← ref_all_interval' recs hst.sorted _ r.key r.rangeEnd (end_ne_zero_of_lt hk hlt) hlt]
  simp only [hp2, Bool.false_eq_true, if_false, List.length_map, List.map_take, apply_ite (List.map KVFull.proj)]

/-! ### the guard of the partition-listing branch (/repo e617587) -/

theorem magicGuard_iff (r : RangeReq) :
    magicGuard r = true ↔ r.revision = getPartitionMagic ∧ r.limit = 0 ∧ r.countOnly = false := by
  simp [magicGuard, and_assoc]

/-- `h` is the hypothesis of the list theorems: at the magic revision a request with a limit or `count_only` is an
ordinary read -/
theorem magicGuard_false_of {r : RangeReq}
    (h : r.revision = getPartitionMagic → r.limit ≠ 0 ∨ r.countOnly = true) : magicGuard r = false := by
  rw [← Bool.not_eq_true, magicGuard_iff]
  rintro ⟨hr, hl, hc⟩
  rcases h hr with h | h
  · exact h hl
  · rw [hc] at h; cases h

theorem magicGuard_false_of_count {r : RangeReq} (hco : r.countOnly = true) : magicGuard r = false :=
  magicGuard_false_of (fun _ => .inr hco)

theorem magicGuard_false_of_limit {r : RangeReq} (hl : r.limit ≠ 0) : magicGuard r = false :=
  magicGuard_false_of (fun _ => .inl hl)

theorem magicGuardOld_of_magicGuard {r : RangeReq} (h : magicGuard r = true) : magicGuardOld r = true := by
  simp [magicGuardOld, ((magicGuard_iff r).mp h).1]

/-! ### point reads -/

theorem visible_latest {recs : List Rec} {committed : Nat} (hk : ∀ r ∈ recs, r.rev < 2 ^ 64)
    (hn : ∀ r ∈ recs, r.rev ≤ committed) (k : Bytes) :
    visible (2 ^ 64 - 1) recs k = visible committed recs k := by
  rw [visible_def, visible_def]
  refine congrArg _ (List.filter_congr fun x hx => ?_)
  have h1 := hk x hx
  have h2 := hn x hx
  have e1 : decide (x.rev ≤ 2 ^ 64 - 1) = true := by simp; omega
  simp [vis, e1, h2]

theorem doGet_abs {c : Cfg} {s : BState} {recs : List Rec} (hst : StoreAbs c s recs) (k : Bytes) (hka : Alphabet k)
    (rev : Nat) (hR : rev < 2 ^ 64) :
    doGet c s k rev =
      (s.committed, (readAt (C03.readRev rev s.committed) recs k).map fun vm => (k, vm.1, vm.2)) := by
  have hget := C03.get_spec c hst.sorted hst.keys k hka rev hR
  -- the revision the backend looks up is the read revision
  have hvis : visible (if (rev == 0) = true then 2 ^ 64 - 1 else rev) recs k =
      visible (C03.readRev rev s.committed) recs k := by
    unfold C03.readRev
    split
    · exact visible_latest (fun x hx => (hst.keys x hx).2) hst.newest k
    · rfl
  rw [hvis, ← hst.store] at hget
  rw [readAt_def]
  unfold doGet
  rw [bget_eq, hget]
  cases hv : visible (C03.readRev rev s.committed) recs k with
  | none => simp [readOne]
  | some x =>
    -- a deleted key: the header is raised to the deletion's revision, which is not above the committed one
    have hx := hst.newest x (visible_some_mem hv).1
    by_cases ht : isTomb x.val = true <;> simp [readOne, ht, Nat.max_eq_left hx]

end KB.Etcd
