/-
  Invariant of the watch pipeline LTS (KB.Watch) and its preservation by every action of the fixed code.
-/
import KB.Watch
import KB.Lemmas.WatchRing
namespace KB.Watch

/-! ### the filters -/

def keepP (f : Nat) (pfx : Bytes) (e : Event) : Bool := decide (f ≤ e.rev) && matches_ pfx e

theorem keepP_eq (f : Nat) (pfx : Bytes) : keepP f pfx = fun e => decide (f ≤ e.rev) && matches_ pfx e := rfl

theorem filter_keepP (l : List Event) (f : Nat) (pfx : Bytes) :
    (l.filter (fun e => decide (f ≤ e.rev))).filter (matches_ pfx) = l.filter (keepP f pfx) := by
  rw [List.filter_filter]
  exact List.filter_congr fun x _ => Bool.and_comm ..

theorem filterEvents_eq_filter {b : List Event} (hs : SortedRev b) (pfx : Bytes) (f : Nat) :
    filterEvents pfx f b = b.filter (keepP f pfx) := by
  rw [filterEvents, hs.dropWhile_eq_filter]
  exact filter_keepP b f pfx

theorem keepP_of_lt {S n : Nat} {pfx : Bytes} {e : Event} (hS : S ≤ n) (h : n < e.rev) :
    keepP (n + 1) pfx e = keepP S pfx e := by
  have h1 : n + 1 ≤ e.rev := h
  have h2 : S ≤ e.rev := by omega
  simp only [keepP, h1, h2]

theorem keepP_of_rev_lt {f : Nat} {pfx : Bytes} {e : Event} (h : e.rev < f) : ¬ keepP f pfx e = true := by
  have : ¬ f ≤ e.rev := by omega
  simp [keepP, this]

/-! ### `catchUpEvents` -/

theorem cuLoop_flatten (bs : Nat) : ∀ (fuel : Nat) (evs : List Event), (cuLoop bs fuel evs).flatten = evs := by
  intro fuel
  induction fuel with
  | zero => intro evs; simp [cuLoop]
  | succ n ih =>
    intro evs
    unfold cuLoop
    split
    · rw [List.flatten_cons, ih]; exact List.take_append_drop bs evs
    · simp

theorem cuLoop_length_le (bs : Nat) : ∀ (fuel k : Nat) (evs : List Event),
    evs.length ≤ (k + 1) * bs → (cuLoop bs fuel evs).length ≤ k + 1 := by
  intro fuel
  induction fuel with
  | zero => intro k evs _; exact Nat.succ_le_succ (Nat.zero_le k)
  | succ n ih =>
    intro k evs h
    unfold cuLoop
    split
    · next hgt =>
      cases k with
      | zero => omega
      | succ k =>
        rw [Nat.succ_mul] at h
        exact Nat.succ_le_succ (ih k _ (by rw [List.length_drop]; omega))
    · exact Nat.succ_le_succ (Nat.zero_le k)

theorem catchUpChunks_flatten (c : PCfg) (evs : List Event) (chunks : List (List Event))
    (h : catchUpChunks c evs = some chunks) : chunks.flatten = evs := by
  unfold catchUpChunks at h
  split at h
  · next he =>
    injection h with h; subst h
    exact (List.isEmpty_iff.mp he).symm
  · split at h
    · cases h
    · injection h with h; subst h
      exact cuLoop_flatten _ _ _

/-- with `n = (outCap - 1) * q + r`, the remainder `r ≤ outCap - 2 ≤ batchMax ≤ q` fits into one more batch -/
theorem catchUpBatch_ok (c : PCfg) (h2 : 2 ≤ c.outCap) (hle : c.outCap ≤ c.batchMax + 2) {n : Nat} (hn : n ≠ 0) :
    catchUpBatch c n ≠ 0 ∧ n ≤ c.outCap * catchUpBatch c n := by
  obtain ⟨d, hd⟩ : ∃ d, c.outCap = d + 1 := ⟨_, (Nat.sub_add_cancel (Nat.le_of_lt h2)).symm⟩
  rw [catchUpBatch, hd, Nat.add_sub_cancel, Nat.add_one_mul, Nat.add_one_mul]
  split
  · next hbig =>
    have hdm := Nat.div_add_mod n d
    have hr : n % d < d := Nat.mod_lt _ (by omega)
    have hq : c.batchMax ≤ n / d := (Nat.le_div_iff_mul_le (by omega)).2 (by rw [Nat.mul_comm]; omega)
    refine ⟨fun h0 => ?_, by omega⟩
    rw [h0, Nat.mul_zero] at hdm
    omega
  · next hbig => exact ⟨fun h0 => by rw [h0, Nat.mul_zero] at hbig; omega, Nat.le_of_not_lt hbig⟩

theorem catchUpChunks_fits (c : PCfg) (h2 : 2 ≤ c.outCap) (hle : c.outCap ≤ c.batchMax + 2) (evs : List Event) :
    ∃ chunks, catchUpChunks c evs = some chunks ∧ chunks.length ≤ c.outCap := by
  unfold catchUpChunks
  split
  · exact ⟨[], rfl, Nat.zero_le _⟩
  · next he =>
    obtain ⟨hb, hfit⟩ := catchUpBatch_ok c h2 hle fun h0 => he (List.isEmpty_iff.2 (List.length_eq_zero_iff.1 h0))
    rw [if_neg hb]
    refine ⟨_, rfl, ?_⟩
    have := cuLoop_length_le _ evs.length (c.outCap - 1) evs (by rw [Nat.sub_add_cancel (Nat.le_of_lt h2)]; exact hfit)
    rwa [Nat.sub_add_cancel (Nat.le_of_lt h2)] at this

/-! ### what a step does to a watcher -/

theorem Phase.isLive_iff {ph : Phase} : ph.isLive = true ↔ ph = .live := by
  cases ph <;> simp [Phase.isLive]

theorem W.consume_cases (w : W) :
    w.consume = w ∨ ∃ b rest, w.phase = .live ∧ w.out = b :: rest ∧
      w.consume = { w with out := rest, delivered := w.delivered ++ b } := by
  unfold W.consume
  split
  · exact .inl rfl
  · next hl =>
    split
    · next b rest ho => exact .inr ⟨b, rest, Phase.isLive_iff.1 (by simpa using hl), ho, rfl⟩
    · exact .inl rfl

theorem W.forward_cases (c : PCfg) (w : W) :
    w.forward c = w ∨
    (w.phase = .live ∧ w.forward c = { w with out := w.out ++ [w.hand], hand := [] }) ∨
    (∃ b rest, w.phase = .live ∧ w.hand = [] ∧ w.sub = b :: rest ∧ w.forward c =
      { w with sub := rest, hand := filterEvents w.pfx w.from_ b, taken := w.taken + b.length }) ∨
    (w.phase = .live ∧ w.forward c = { w with outClosed := true }) := by
  unfold W.forward
  cases hl : w.phase.isLive
  · exact .inl rfl
  · have hl' := Phase.isLive_iff.1 hl
    cases hh : w.hand.isEmpty
    · by_cases hr : w.out.length < c.outCap
      · exact .inr (.inl ⟨hl', if_pos hr⟩)
      · exact .inl (if_neg hr)
    · cases hs : w.sub with
      | cons b rest => exact .inr (.inr (.inl ⟨b, rest, hl', List.isEmpty_iff.1 hh, rfl, rfl⟩))
      | nil =>
        by_cases hc : (w.subClosed && !w.outClosed) = true
        · exact .inr (.inr (.inr ⟨hl', if_pos hc⟩))
        · exact .inl (if_neg hc)

theorem W.readCache_cases (ring : Ring) (n : Nat) (w : W) :
    w.readCache ring n = w ∨
    (w.phase = .subscribed ∧ w.start = 0 ∧ w.readCache ring n = { w with phase := .live, from_ := 0 }) ∨
    (w.phase = .subscribed ∧ w.start ≠ 0 ∧
      w.readCache ring n = { w with phase := .cacheRead (ring.findLit w.start), readAt := n }) := by
  unfold W.readCache
  split
  · next hph =>
    split
    · next hz => exact .inr (.inl ⟨hph, by simpa using hz, rfl⟩)
    · next hz => exact .inr (.inr ⟨hph, by simpa using hz, rfl⟩)
  · exact .inl rfl

theorem W.decide_cases (c : PCfg) (committed : Nat) (w : W) :
    w.decide c committed = w ∨ ∃ ret, w.phase = .cacheRead ret ∧
      ((decideRet w.pfx w.start committed ret = .refuse ∧
          w.decide c committed = { w with phase := .refused, subClosed := true }) ∨
       w.decide c committed = { w with phase := .hung } ∨
       ∃ f cu chunks, decideRet w.pfx w.start committed ret = .live f cu ∧ catchUpChunks c cu = some chunks ∧
          w.decide c committed = { w with phase := .live, from_ := f, out := chunks }) := by
  unfold W.decide
  split
  · next ret hph =>
    refine .inr ⟨ret, hph, ?_⟩
    split
    · next hd => exact .inl ⟨hd, rfl⟩
    · next f cu hd =>
      split
      · next chunks hcc =>
        split
        · exact .inr (.inr ⟨f, cu, chunks, hd, hcc, rfl⟩)
        · exact .inr (.inl rfl)
      · exact .inr (.inl rfl)
  · exact .inl rfl

theorem W.decide_isRefused {c : PCfg} {committed : Nat} {w : W} {ret : FindRet} (hph : w.phase = .cacheRead ret) :
    (w.decide c committed).phase.isRefused = true ↔ decideRet w.pfx w.start committed ret = .refuse := by
  unfold W.decide
  rw [hph]
  dsimp only
  cases decideRet w.pfx w.start committed ret with
  | refuse => exact ⟨fun _ => rfl, fun _ => rfl⟩
  | live f cu =>
    refine ⟨fun h => ?_, fun h => by cases h⟩
    dsimp only at h
    split at h
    · split at h <;> cases h
    · cases h

theorem W.decide_live_or_refused (c : PCfg) (h2 : 2 ≤ c.outCap) (hle : c.outCap ≤ c.batchMax + 2)
    (committed : Nat) {w : W} {ret : FindRet} (hph : w.phase = .cacheRead ret) :
    (w.decide c committed).phase.isLive = true ∨ (w.decide c committed).phase.isRefused = true := by
  unfold W.decide
  rw [hph]
  dsimp only
  cases decideRet w.pfx w.start committed ret with
  | refuse => exact .inr rfl
  | live f cu =>
    obtain ⟨chunks, h1, h3⟩ := catchUpChunks_fits c h2 hle cu
    dsimp only
    rw [h1]
    dsimp only
    rw [if_pos h3]
    exact .inl rfl

theorem mem_updAt {ws : List W} {i : Nat} {f : W → W} {x : W} (h : x ∈ updAt ws i f) :
    ∃ y ∈ ws, x = y ∨ x = f y := by
  obtain ⟨j, hj⟩ := List.mem_iff_getElem?.mp h
  rw [updAt, List.getElem?_modify] at hj
  obtain ⟨y, hy, rfl⟩ := Option.map_eq_some_iff.mp hj
  refine ⟨y, List.mem_of_getElem? hy, ?_⟩
  split
  · exact .inr rfl
  · exact .inl rfl

theorem getElem?_updAt {ws : List W} {i j : Nat} {f : W → W} {w : W} (h : ws[j]? = some w) :
    (updAt ws i f)[j]? = some (if i = j then f w else w) := by
  rw [updAt, List.getElem?_modify, h]; rfl

/-! ### the invariant -/

/-- the live filter agrees with the specification on every future event -/
def FromOK (w : W) (E : List Event) : Prop :=
  w.from_ = w.start ∨ (w.start ≤ w.from_ ∧ ∃ x ∈ E, w.from_ ≤ x.rev + 1)

def PhaseInv (c : PCfg) (E : List Event) (w : W) : Phase → Prop
  | .subscribed => w.taken = 0 ∧ w.stream = []
  | .cacheRead ret =>
      w.taken = 0 ∧ w.stream = [] ∧ w.start ≠ 0 ∧ w.subAt ≤ w.readAt ∧ w.readAt ≤ E.length ∧
      ret = findSpec c.ringCap (E.take w.readAt) w.start
  | .live =>
      w.stream ++ (E.drop (w.subAt + w.taken)).filter (keepP w.from_ w.pfx) = specOf w E ∧ FromOK w E
  | .refused => w.stream = []
  | .hung => w.delivered = []

/-- `E` = everything produced, `I` = produced but not yet fanned out -/
structure WInv (c : PCfg) (E I : List Event) (w : W) : Prop where
  bound : w.subAt + w.taken ≤ E.length
  subLe : w.subAt ≤ w.subProduced ∧ w.subProduced ≤ E.length
  rest : ∃ rest, w.sub.flatten ++ rest = E.drop (w.subAt + w.taken) ∧ (w.subClosed = false → rest = I)
  closed : w.missed = true → w.subClosed = true
  phase : PhaseInv c E w w.phase

structure GInv (c : PCfg) (s : WState) : Prop where
  sorted : SortedRev s.produced
  ring : s.ring = ringOf c.ringCap s.produced
  infl : ∃ F, s.produced = F ++ inflight s
  ws : ∀ w ∈ s.ws, WInv c s.produced (inflight s) w

theorem PhaseInv.delivered_nil {c : PCfg} {E : List Event} {w : W} {ph : Phase} (h : PhaseInv c E w ph)
    (hl : ph ≠ .live) : w.delivered = [] := by
  have hst : w.stream = [] → w.delivered = [] := fun hs =>
    (List.append_eq_nil_iff.mp (List.append_eq_nil_iff.mp hs).1).1
  cases ph with
  | live => exact absurd rfl hl
  | subscribed => exact hst h.2
  | cacheRead r => exact hst h.2.1
  | refused => exact hst h
  | hung => exact h

theorem WInv.live_accounting {c : PCfg} {E I : List Event} {w : W} (h : WInv c E I w) (hl : w.phase = .live) :
    ∃ rest, w.stream ++ (w.sub.flatten ++ rest).filter (keepP w.from_ w.pfx) = specOf w E ∧
      (w.subClosed = false → rest = I) := by
  obtain ⟨rest, hr1, hr2⟩ := h.rest
  have hp := h.phase
  rw [hl] at hp
  exact ⟨rest, hr1 ▸ hp.1, hr2⟩

/-! ### the specification -/

theorem specOf_sublist (w : W) (E : List Event) : (specOf w E).Sublist E := by
  unfold specOf
  split
  · exact List.filter_sublist.trans (List.drop_sublist _ _)
  · exact List.filter_sublist

theorem mem_specOf {w : W} {E : List Event} {e : Event} (h : e ∈ specOf w E) :
    e ∈ E ∧ hasPrefix e.key w.pfx = true ∧ w.start ≤ e.rev := by
  unfold specOf at h
  split at h
  · next h0 => exact ⟨List.mem_of_mem_drop (List.mem_filter.mp h).1, (List.mem_filter.mp h).2, by omega⟩
  · have h2 := (List.mem_filter.mp h).2
    rw [Bool.and_eq_true, decide_eq_true_eq] at h2
    exact ⟨(List.mem_filter.mp h).1, h2.2, h2.1⟩

/-! ### preservation, watcher by watcher -/

theorem specOf_append (w : W) (E : List Event) (e : Event) (hb : w.subAt ≤ E.length) :
    specOf w (E ++ [e]) = specOf w E ++ [e].filter (fun e =>
      if w.start = 0 then matches_ w.pfx e else (decide (w.start ≤ e.rev) && matches_ w.pfx e)) := by
  unfold specOf
  split
  · rw [List.drop_append_of_le_length hb, List.filter_append]
  · rw [List.filter_append]

theorem FromOK.keepP_new {w : W} {E : List Event} (hf : FromOK w E) {e : Event} (hnew : ∀ x ∈ E, x.rev < e.rev) :
    keepP w.from_ w.pfx e =
      if w.start = 0 then matches_ w.pfx e else (decide (w.start ≤ e.rev) && matches_ w.pfx e) := by
  unfold keepP
  rcases hf with hf | ⟨hle, x, hx, hxf⟩
  · rw [hf]; split
    · next h0 => simp [h0]
    · rfl
  · have := hnew x hx
    have h1 : w.from_ ≤ e.rev := by omega
    have h2 : w.start ≤ e.rev := by omega
    simp [h1, h2]

theorem winv_produce {c : PCfg} {E I : List Event} {w : W} (e : Event)
    (hnew : ∀ x ∈ E, x.rev < e.rev) (h : WInv c E I w) : WInv c (E ++ [e]) (I ++ [e]) w := by
  obtain ⟨hb, hsl, ⟨rest, hr, hopen⟩, hcl, hp⟩ := h
  have hdrop : (E ++ [e]).drop (w.subAt + w.taken) = E.drop (w.subAt + w.taken) ++ [e] :=
    List.drop_append_of_le_length hb
  have hlen : (E ++ [e]).length = E.length + 1 := by rw [List.length_append]; rfl
  refine ⟨by omega, ⟨hsl.1, by omega⟩, ⟨rest ++ [e], ?_, ?_⟩, hcl, ?_⟩
  · rw [hdrop, ← hr, List.append_assoc]
  · intro ho; rw [hopen ho]
  · cases hph : w.phase <;> rw [hph] at hp
    case subscribed | refused | hung => exact hp
    case cacheRead ret =>
      obtain ⟨h1, h2, h3, h4, h5, h6⟩ := hp
      exact ⟨h1, h2, h3, h4, by omega, by rw [List.take_append_of_le_length h5]; exact h6⟩
    case live =>
      obtain ⟨hs, hf⟩ := hp
      refine ⟨?_, hf.imp id fun ⟨hle, x, hx, hxf⟩ => ⟨hle, x, List.mem_append_left _ hx, hxf⟩⟩
      rw [hdrop, List.filter_append, ← List.append_assoc, hs, specOf_append w E e (by omega)]
      exact congrArg _ (List.filter_congr fun x hx => by rw [List.mem_singleton.1 hx]; exact hf.keepP_new hnew)

theorem PhaseInv.hub {c : PCfg} {E : List Event} {w : W} {ph : Phase} (h : PhaseInv c E w ph)
    (sub : List (List Event)) (cl ms : Bool) :
    PhaseInv c E { w with sub := sub, subClosed := cl, missed := ms } ph := by
  cases ph <;> exact h

theorem winv_offer {c : PCfg} {E I I' : List Event} {w : W} (b : List Event) (hI : I = b ++ I')
    (h : WInv c E I w) : WInv c E I' (w.offer c b) := by
  obtain ⟨hb, hsl, ⟨rest, hr, hopen⟩, hcl, hp⟩ := h
  unfold W.offer
  split
  · next hc => exact ⟨hb, hsl, ⟨rest, hr, fun ho => by rw [hc] at ho; cases ho⟩, hcl, hp⟩
  · next hc =>
    split
    · refine ⟨hb, hsl, ⟨I', ?_, fun _ => rfl⟩, fun hm => absurd (hcl hm) hc, hp.hub _ _ _⟩
      show (w.sub ++ [b]).flatten ++ I' = _
      rw [← hr, hopen (by simpa using hc), hI, List.flatten_append, List.append_assoc]
      simp
    · exact ⟨hb, hsl, ⟨rest, hr, fun ho => by cases ho⟩, fun _ => rfl, hp.hub _ _ _⟩

/-- a step of `processEvents` or of the client that only moves events along the client-side stream -/
theorem WInv.stream_step {c : PCfg} {E I : List Event} {w : W} (h : WInv c E I w) (hl : w.phase = .live)
    (o : List (List Event)) (hd d : List Event) (oc : Bool) (hs : d ++ o.flatten ++ hd = w.stream) :
    WInv c E I { w with out := o, hand := hd, delivered := d, outClosed := oc } := by
  obtain ⟨hb, hsl, hrest, hcl, hp⟩ := h
  refine ⟨hb, hsl, hrest, hcl, ?_⟩
  show PhaseInv c E _ w.phase
  rw [hl] at hp ⊢
  refine ⟨?_, hp.2⟩
  show d ++ o.flatten ++ hd ++ _ = _
  rw [hs]; exact hp.1

theorem winv_consume {c : PCfg} {E I : List Event} {w : W} (h : WInv c E I w) : WInv c E I w.consume := by
  rcases w.consume_cases with e | ⟨b, rest, hl, ho, e⟩ <;> rw [e]
  · exact h
  · exact h.stream_step hl _ _ _ _ (by simp [W.stream, ho])

theorem winv_forward {c : PCfg} {E I : List Event} {w : W} (hsort : SortedRev E) (h : WInv c E I w) :
    WInv c E I (w.forward c) := by
  rcases w.forward_cases c with e | ⟨hl, e⟩ | ⟨b, bs, hl, hh, hsub, e⟩ | ⟨hl, e⟩ <;> rw [e]
  · exact h
  · exact h.stream_step hl _ _ _ _ (by simp [W.stream])
  · -- the batch `b` leaves the subscription: `E.drop (subAt + taken) = b ++ E.drop (subAt + taken + |b|)`
    obtain ⟨hb, hsl, ⟨rest, hr, hopen⟩, hcl, hp⟩ := h
    rw [hsub, List.flatten_cons, List.append_assoc] at hr
    have hlen : w.subAt + (w.taken + b.length) ≤ E.length := by
      have := congrArg List.length hr
      rw [List.length_append, List.length_drop] at this
      omega
    have hdrop : E.drop (w.subAt + (w.taken + b.length)) = bs.flatten ++ rest := by
      rw [← Nat.add_assoc, ← List.drop_drop, ← hr, List.drop_left]
    have hsb : SortedRev b := (List.pairwise_append.mp (hr ▸ hsort.drop _)).1
    refine ⟨hlen, hsl, ⟨rest, hdrop.symm, hopen⟩, hcl, ?_⟩
    show PhaseInv c E _ w.phase
    rw [hl] at hp ⊢
    refine ⟨?_, hp.2⟩
    show w.delivered ++ w.out.flatten ++ filterEvents w.pfx w.from_ b ++
      (E.drop (w.subAt + (w.taken + b.length))).filter (keepP w.from_ w.pfx) = specOf w E
    rw [← hp.1, ← hr, hdrop, filterEvents_eq_filter hsb, W.stream, hh]
    simp only [List.filter_append, List.append_assoc, List.append_nil]
  · exact h.stream_step hl _ _ _ _ rfl

theorem winv_readCache {c : PCfg} {E I : List Event} {w : W} (hcap : 0 < c.ringCap) (hsort : SortedRev E)
    (ring : Ring) (hring : ring = ringOf c.ringCap E) (h : WInv c E I w) :
    WInv c E I (w.readCache ring E.length) := by
  rcases w.readCache_cases ring E.length with e | ⟨hph, hz, e⟩ | ⟨hph, hz, e⟩ <;> rw [e]
  · exact h
  all_goals
    obtain ⟨hb, hsl, hrest, hcl, hp⟩ := h
    rw [hph] at hp
    obtain ⟨ht, hst⟩ := hp
    refine ⟨hb, hsl, hrest, hcl, ?_⟩
  · -- start revision 0: live at once, from the point of subscription
    show w.stream ++ (E.drop (w.subAt + w.taken)).filter (keepP 0 w.pfx) = specOf w E ∧ _
    rw [hst, ht, specOf, if_pos hz]
    exact ⟨List.filter_congr fun x _ => by simp [keepP], .inl hz.symm⟩
  · exact ⟨ht, hst, hz, Nat.le_trans hsl.1 hsl.2, Nat.le_refl _,
      by rw [List.take_length, hring, ringOf_findLit _ hcap _ hsort]⟩

theorem decideRet_live {cap : Nat} (hcap : 0 < cap) {E : List Event} (hs : SortedRev E)
    {pfx : Bytes} {S committed f : Nat} {cu : List Event}
    (hd : decideRet pfx S committed (findSpec cap E S) = .live f cu) :
    (f = S ∧ cu = [] ∧ E.filter (keepP S pfx) = []) ∨
    (∃ newest ∈ E, (∀ x ∈ E, x.rev ≤ newest.rev) ∧ S ≤ newest.rev ∧ f = newest.rev + 1 ∧
      cu = E.filter (keepP S pfx)) := by
  by_cases hne : E = []
  · subst hne
    rw [findSpec_nil S (List.drop_nil), decideRet] at hd
    split at hd
    · injection hd with h1 h2; exact .inl ⟨h1.symm, h2.symm, rfl⟩
    · cases hd
  · obtain ⟨newest, oldest, hn, ho, hf⟩ := findSpec_of_ne_nil hcap hne S
    have hle := hs.le_last hn
    rw [hf] at hd
    split at hd
    · -- above the newest: nothing cached is wanted
      next hhi =>
      injection hd with h1 h2
      refine .inl ⟨h1.symm, h2.symm, List.filter_eq_nil_iff.2 fun a ha => keepP_of_rev_lt ?_⟩
      have := hle a ha; omega
    · split at hd
      · cases hd
      · next hhi hlo =>
        rw [hs.filter_drop ho (by omega)] at hd
        simp only [decideRet, filter_keepP] at hd
        split at hd <;> injection hd with h1 h2
        · next hemp => exact .inl ⟨h1.symm, h2.symm, List.isEmpty_iff.1 hemp⟩
        · exact .inr ⟨newest, List.mem_of_getLast? hn, hle, by omega, h1.symm, h2.symm⟩

/-- the subscription started at position `k`, not after the cache read at position `r` -/
theorem decide_live_ok {cap : Nat} (hcap : 0 < cap) {E : List Event} (hsort : SortedRev E) {k r : Nat}
    (hkr : k ≤ r) (hr : r ≤ E.length) {S committed : Nat} {pfx : Bytes} {f : Nat} {cu : List Event}
    (hd : decideRet pfx S committed (findSpec cap (E.take r) S) = .live f cu) :
    cu ++ (E.drop k).filter (keepP f pfx) = E.filter (fun e => decide (S ≤ e.rev) && matches_ pfx e) ∧
    (f = S ∨ (S ≤ f ∧ ∃ x ∈ E, f ≤ x.rev + 1)) := by
  show _ = E.filter (keepP S pfx) ∧ _
  rcases decideRet_live hcap (hsort.take r) hd with ⟨rfl, rfl, hnil⟩ | ⟨newest, hmem, hle, hS, rfl, rfl⟩
  · -- nothing wanted was produced before the read, hence nothing before the subscription
    refine ⟨?_, .inl rfl⟩
    have hk : (E.take k).filter (keepP f pfx) = [] := by
      rw [← Nat.min_eq_left hkr, ← List.take_take]
      exact List.eq_nil_of_sublist_nil (hnil ▸ (List.take_sublist k _).filter _)
    conv => rhs; rw [← List.take_append_drop k E, List.filter_append, hk]
  · -- what the subscription holds from before the read is not newer than `newest` and filtered out;
    -- everything after the read is newer than `newest`
    refine ⟨?_, .inr ⟨by omega, newest, List.mem_of_mem_take hmem, Nat.le_refl _⟩⟩
    have hcross := (List.pairwise_append.1 (List.take_append_drop r E ▸ hsort)).2.2
    have hdrop : E.drop k = (E.take r).drop k ++ E.drop r := by
      conv => lhs; rw [← List.take_append_drop r E]
      exact List.drop_append_of_le_length (by rw [List.length_take]; omega)
    have hold : ((E.take r).drop k).filter (keepP (newest.rev + 1) pfx) = [] :=
      List.filter_eq_nil_iff.2 fun a ha => keepP_of_rev_lt (Nat.lt_succ_of_le (hle a (List.mem_of_mem_drop ha)))
    have hnew : (E.drop r).filter (keepP (newest.rev + 1) pfx) = (E.drop r).filter (keepP S pfx) :=
      List.filter_congr fun x hx => keepP_of_lt hS (hcross newest hmem x hx)
    rw [hdrop, List.filter_append, hold, hnew, List.nil_append, ← List.filter_append, List.take_append_drop]

theorem winv_decide {c : PCfg} {E I : List Event} {w : W} (hcap : 0 < c.ringCap) (hsort : SortedRev E)
    (committed : Nat) (h : WInv c E I w) : WInv c E I (w.decide c committed) := by
  rcases w.decide_cases c committed with e | ⟨ret, hph, ⟨hd, e⟩ | e | ⟨f, cu, chunks, hd, hcc, e⟩⟩ <;> rw [e]
  · exact h
  all_goals
    obtain ⟨hb, hsl, ⟨rest, hr, hopen⟩, hcl, hp⟩ := h
    rw [hph] at hp
    obtain ⟨ht, hst, hS, hkr, hrl, hret⟩ := hp
  · exact ⟨hb, hsl, ⟨rest, hr, fun ho => by cases ho⟩, fun _ => rfl, hst⟩
  · exact ⟨hb, hsl, ⟨rest, hr, hopen⟩, hcl, (List.append_eq_nil_iff.mp (List.append_eq_nil_iff.mp hst).1).1⟩
  · refine ⟨hb, hsl, ⟨rest, hr, hopen⟩, hcl, ?_⟩
    obtain ⟨hdl, hh⟩ := List.append_eq_nil_iff.mp hst
    obtain ⟨h1, h2⟩ := decide_live_ok hcap hsort hkr hrl (hret ▸ hd)
    refine ⟨?_, h2⟩
    show w.delivered ++ chunks.flatten ++ w.hand ++ (E.drop (w.subAt + w.taken)).filter (keepP f w.pfx) = specOf w E
    rw [(List.append_eq_nil_iff.mp hdl).1, hh, catchUpChunks_flatten c cu chunks hcc, ht, specOf, if_neg hS,
      List.nil_append, List.append_nil]
    exact h1

theorem winv_new {c : PCfg} {E I F : List Event} (hE : E = F ++ I) (pfx : Bytes) (start : Nat) :
    WInv c E I { pfx := pfx, start := start, subAt := E.length - I.length, subProduced := E.length } := by
  have hlen : E.length - I.length = F.length := by rw [hE, List.length_append, Nat.add_sub_cancel]
  refine ⟨Nat.sub_le _ _, ⟨Nat.sub_le _ _, Nat.le_refl _⟩, ⟨I, ?_, fun _ => rfl⟩, fun h => Bool.noConfusion h, rfl, rfl⟩
  show [] ++ I = E.drop (E.length - I.length + 0)
  rw [Nat.add_zero, hlen, hE, List.drop_left]; rfl

/-! ### preservation by the actions -/

theorem ginv_init (c : PCfg) : GInv c (WState.init c) :=
  ⟨List.Pairwise.nil, rfl, ⟨[], rfl⟩, fun _ hw => by cases hw⟩

theorem GInv.updAt {c : PCfg} {s : WState} (h : GInv c s) (i : Nat) {f : W → W}
    (hf : ∀ w, WInv c s.produced (inflight s) w → WInv c s.produced (inflight s) (f w)) :
    GInv c { s with ws := updAt s.ws i f } := by
  refine ⟨h.sorted, h.ring, h.infl, fun w hw => ?_⟩
  obtain ⟨y, hy, rfl | rfl⟩ := mem_updAt hw
  · exact h.ws w hy
  · exact hf y (h.ws y hy)

theorem ginv_act {c : PCfg} (hcap : 0 < c.ringCap) {s : WState} (a : Act) (hfix : a.fixed = true)
    (h : GInv c s) : GInv c (act c s a) := by
  obtain ⟨hsort, hring, ⟨F, hF⟩, hws⟩ := id h
  cases a with
  | commit n => exact ⟨hsort, hring, ⟨F, hF⟩, hws⟩
  | produce e =>
    simp only [act]
    split
    · next hall =>
      have hnew : ∀ x ∈ s.produced, x.rev < e.rev := fun x hx => by simpa using List.all_eq_true.mp hall x hx
      have hinf : inflight { s with ring := s.ring.add e, batch := s.batch ++ [e], produced := s.produced ++ [e] }
          = inflight s ++ [e] := (List.append_assoc ..).symm
      refine ⟨?_, ?_, ⟨F, ?_⟩, fun w hw => ?_⟩
      · exact List.pairwise_append.mpr ⟨hsort, List.pairwise_singleton _ _,
          fun a ha b hb => by rw [List.mem_singleton.1 hb]; exact hnew a ha⟩
      · show s.ring.add e = _
        rw [ringOf, List.foldl_append, ← ringOf, ← hring]; rfl
      · rw [hinf, ← List.append_assoc, ← hF]
      · rw [hinf]; exact winv_produce e hnew (hws w hw)
    · exact h
  | flush =>
    simp only [act]
    split
    · exact h
    · have hinf : inflight { s with chan := s.chan ++ [s.batch], batch := [] } = inflight s := by simp [inflight]
      exact ⟨hsort, hring, ⟨F, hinf ▸ hF⟩, fun w hw => hinf ▸ hws w hw⟩
  | fanout =>
    simp only [act]
    cases hch : s.chan with
    | nil => exact h
    | cons b rest =>
      have hI : inflight s = b ++ inflight { s with chan := rest, ws := s.ws.map (fun w => w.offer c b) } := by
        simp [inflight, hch]
      refine ⟨hsort, hring, ⟨F ++ b, ?_⟩, fun w' hw' => ?_⟩
      · rw [List.append_assoc, ← hI]; exact hF
      · obtain ⟨w, hw, rfl⟩ := List.mem_map.mp hw'
        exact winv_offer b hI (hws w hw)
  | fanoutAsync => cases hfix
  | deleteRun i => cases hfix
  | subscribe pfx start =>
    refine ⟨hsort, hring, ⟨F, hF⟩, fun w hw => ?_⟩
    rcases List.mem_append.mp hw with hw | hw
    · exact hws w hw
    · rw [List.mem_singleton.1 hw]; exact winv_new hF pfx start
  | readCache i => exact h.updAt i fun w hw => winv_readCache hcap hsort s.ring hring hw
  | decide i => exact h.updAt i fun w hw => winv_decide hcap hsort s.committed hw
  | forward i => exact h.updAt i fun w hw => winv_forward hsort hw
  | consume i => exact h.updAt i fun w hw => winv_consume hw

theorem ginv_run {c : PCfg} (hcap : 0 < c.ringCap) {s : WState} (sched : List Act)
    (hfix : ∀ a ∈ sched, a.fixed = true) (h : GInv c s) : GInv c (run c s sched) := by
  induction sched generalizing s with
  | nil => exact h
  | cons a rest ih =>
    exact ih (fun x hx => hfix x (List.mem_cons_of_mem a hx)) (ginv_act hcap a (hfix a List.mem_cons_self) h)

theorem ginv_reachable {c : PCfg} (hcap : 0 < c.ringCap) {s : WState} (hr : Reachable c s) : GInv c s := by
  obtain ⟨sched, hfix, rfl⟩ := hr
  exact ginv_run hcap sched hfix (ginv_init c)

/-! ### a closed subscription only drains -/

/-- `w'` is a later state of a watcher `w` whose subscription was closed: nothing was added -/
structure Frozen (w w' : W) : Prop where
  closed : w'.subClosed = true
  missed : w'.missed = w.missed
  sub : w'.sub <:+ w.sub
  live : w.phase.isLive = true → w'.phase.isLive = true ∧ w'.total = w.total ∧ w.delivered <+: w'.delivered

theorem Frozen.refl {w : W} (h : w.subClosed = true) : Frozen w w :=
  ⟨h, rfl, List.suffix_refl _, fun hl => ⟨hl, rfl, List.prefix_refl _⟩⟩

theorem Frozen.trans {a b d : W} (h1 : Frozen a b) (h2 : Frozen b d) : Frozen a d :=
  ⟨h2.closed, h2.missed.trans h1.missed, h2.sub.trans h1.sub, fun hl =>
    have ⟨l1, t1, p1⟩ := h1.live hl
    have ⟨l2, t2, p2⟩ := h2.live l1
    ⟨l2, t2.trans t1, p1.trans p2⟩⟩

theorem Frozen.of_not_live {w w' : W} (hl : w.phase ≠ .live) (hc : w'.subClosed = true)
    (hm : w'.missed = w.missed) (hs : w'.sub = w.sub) : Frozen w w' :=
  ⟨hc, hm, hs ▸ List.suffix_refl _, fun h => absurd (Phase.isLive_iff.1 h) hl⟩

theorem Frozen.stream_step {w : W} (hc : w.subClosed = true) (o : List (List Event)) (hd d : List Event)
    (oc : Bool) (hs : d ++ o.flatten ++ hd = w.stream) (hp : w.delivered <+: d) :
    Frozen w { w with out := o, hand := hd, delivered := d, outClosed := oc } :=
  ⟨hc, rfl, List.suffix_refl _, fun hl =>
    ⟨hl, congrArg (· ++ w.sub.flatMap (filterEvents w.pfx w.from_)) hs, hp⟩⟩

theorem Frozen.delivered_prefix {w w' : W} (h : Frozen w w') (hl : w.phase.isLive = true) :
    w'.delivered <+: w.total := by
  rw [← (h.live hl).2.1, W.total, W.stream, List.append_assoc, List.append_assoc]
  exact List.prefix_append _ _

theorem frozen_offer (c : PCfg) {w : W} (h : w.subClosed = true) (b : List Event) : Frozen w (w.offer c b) := by
  rw [W.offer, if_pos h]; exact Frozen.refl h

theorem frozen_consume {w : W} (h : w.subClosed = true) : Frozen w w.consume := by
  rcases w.consume_cases with e | ⟨b, rest, _, ho, e⟩ <;> rw [e]
  · exact .refl h
  · exact .stream_step h _ _ _ _ (by simp [W.stream, ho]) (List.prefix_append _ _)

theorem frozen_forward (c : PCfg) {w : W} (h : w.subClosed = true) : Frozen w (w.forward c) := by
  rcases w.forward_cases c with e | ⟨_, e⟩ | ⟨b, bs, _, hh, hsub, e⟩ | ⟨_, e⟩ <;> rw [e]
  · exact .refl h
  · exact .stream_step h _ _ _ _ (by simp [W.stream]) (List.prefix_refl _)
  · refine ⟨h, rfl, hsub ▸ List.suffix_cons _ _, fun hl => ⟨hl, ?_, List.prefix_refl _⟩⟩
    simp [W.total, W.stream, hh, hsub]
  · exact .stream_step h _ _ _ _ rfl (List.prefix_refl _)

theorem frozen_readCache (ring : Ring) (n : Nat) {w : W} (h : w.subClosed = true) : Frozen w (w.readCache ring n) := by
  rcases w.readCache_cases ring n with e | ⟨hph, _, e⟩ | ⟨hph, _, e⟩ <;> rw [e]
  · exact .refl h
  all_goals exact .of_not_live (by simp [hph]) h rfl rfl

theorem frozen_decide (c : PCfg) (committed : Nat) {w : W} (h : w.subClosed = true) : Frozen w (w.decide c committed) := by
  rcases w.decide_cases c committed with e | ⟨ret, hph, ⟨_, e⟩ | e | ⟨f, cu, chunks, _, _, e⟩⟩ <;> rw [e]
  · exact .refl h
  · exact .of_not_live (by simp [hph]) rfl rfl rfl
  all_goals exact .of_not_live (by simp [hph]) h rfl rfl

theorem frozen_updAt {ws : List W} {i : Nat} {w : W} (hw : ws[i]? = some w) (hc : w.subClosed = true)
    (j : Nat) {f : W → W} (hf : Frozen w (f w)) : ∃ w', (updAt ws j f)[i]? = some w' ∧ Frozen w w' := by
  refine ⟨_, getElem?_updAt hw, ?_⟩
  split
  · exact hf
  · exact .refl hc

theorem frozen_act (c : PCfg) {s : WState} {i : Nat} {w : W} (hw : s.ws[i]? = some w) (hc : w.subClosed = true)
    (a : Act) (hfix : a.fixed = true) : ∃ w', (act c s a).ws[i]? = some w' ∧ Frozen w w' := by
  cases a with
  | commit n => exact ⟨w, hw, .refl hc⟩
  | produce e => simp only [act]; split <;> exact ⟨w, hw, .refl hc⟩
  | flush => simp only [act]; split <;> exact ⟨w, hw, .refl hc⟩
  | fanout =>
    simp only [act]
    split
    · exact ⟨w, hw, .refl hc⟩
    · next b rest _ => exact ⟨w.offer c b, by simp only [List.getElem?_map, hw, Option.map_some], frozen_offer c hc b⟩
  | fanoutAsync => cases hfix
  | deleteRun j => cases hfix
  | subscribe pfx start =>
    refine ⟨w, ?_, .refl hc⟩
    show (s.ws ++ _)[i]? = some w
    rw [List.getElem?_append_left (List.getElem?_eq_some_iff.mp hw).1, hw]
  | readCache j => exact frozen_updAt hw hc j (frozen_readCache _ _ hc)
  | decide j => exact frozen_updAt hw hc j (frozen_decide _ _ hc)
  | forward j => exact frozen_updAt hw hc j (frozen_forward _ hc)
  | consume j => exact frozen_updAt hw hc j (frozen_consume hc)

theorem frozen_run (c : PCfg) (sched : List Act) (hfix : ∀ a ∈ sched, a.fixed = true) {s : WState} {i : Nat} {w : W}
    (hw : s.ws[i]? = some w) (hc : w.subClosed = true) :
    ∃ w', (run c s sched).ws[i]? = some w' ∧ Frozen w w' := by
  induction sched generalizing s w with
  | nil => exact ⟨w, hw, Frozen.refl hc⟩
  | cons a rest ih =>
    obtain ⟨w1, hw1, hf1⟩ := frozen_act c hw hc a (hfix a List.mem_cons_self)
    obtain ⟨w2, hw2, hf2⟩ := ih (fun x hx => hfix x (List.mem_cons_of_mem a hx)) hw1 hf1.closed
    exact ⟨w2, hw2, hf1.trans hf2⟩

end KB.Watch
