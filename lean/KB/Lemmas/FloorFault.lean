/-
  KB.Lemmas.FloorFault — the floor lemmas of KB.Lemmas.Floor for `doCompactRF` (KB.CompactFault): a compaction during
  which the scanner's read of the compaction record fails in border pair `k`.

  Core-only.
-/
import KB.CompactFault
import KB.Lemmas.Floor
namespace KB

theorem doCompactRF_eq (c : Cfg) (s : BState) (rev : Nat) (mask : Nat → DelOutcome) (k : Nat) (old : Bool) :
    doCompactRF c s rev mask k old =
      (if (compactFoldRF c { s with store := setRecord c s.store (clampRev s rev) } (clampRev s rev) mask k old).2.2.1
        then .panic else .ok (clampRev s rev),
       (compactFoldRF c { s with store := setRecord c s.store (clampRev s rev) } (clampRev s rev) mask k old).1) := by
  unfold doCompactRF
  extract_lets cur r1 r2 stored store s1 res
  have h1 : clampRev s rev = r2 := rfl
  have h2 : setRecord c s.store r2 = store := rfl
  rw [h1, h2]

theorem doCompactRF_fst (c : Cfg) (s : BState) (rev : Nat) (mask : Nat → DelOutcome) (k : Nat) (R : Nat)
    (h : (doCompactRF c s rev mask k).1 = .ok R) : R = clampRev s rev :=
  ok_of_ite_panic (doCompactRF_eq c s rev mask k false ▸ h)

theorem compactRangeRF_store (s : BState) (r : Nat) : (compactRangeRF s r).store = s.store := rfl

theorem compactFoldRF_floor (c : Cfg) (s : BState) (r : Nat) (mask : Nat → DelOutcome) (k : Nat) (hr : r < 2 ^ 64)
    (hs : r ≤ floorOf c s.store) :
    floorOf c (compactFoldRF c s r mask k false).1.store = floorOf c s.store := by
  unfold compactFoldRF
  refine List.foldlRecOn (motive := fun acc : BState × Nat × Bool × Nat => floorOf c acc.1.store = floorOf c s.store)
    _ _ rfl fun acc hacc b _ => ?_
  by_cases hk : (acc.2.2.2 == k) = true
  · simp only [hk, if_true, Bool.false_eq_true, if_false, compactRangeRF_store, hacc]
  · rw [Bool.not_eq_true] at hk
    simp only [hk, Bool.false_eq_true, if_false, compactRange_floor c acc.1 b.1 b.2 r mask acc.2.1 hr, hacc]
    omega

theorem doCompactRF_floor (c : Cfg) (s : BState) (rev : Nat) (mask : Nat → DelOutcome) (k : Nat)
    (hrev : clampRev s rev < 2 ^ 64) :
    floorOf c (doCompactRF c s rev mask k).2.store = max (floorOf c s.store) (clampRev s rev) := by
  rw [doCompactRF_eq]
  simp only []
  rw [compactFoldRF_floor c _ _ mask k hrev]
  · exact setRecord_floor c s.store _ hrev
  · simp only [setRecord_floor c s.store _ hrev]; omega

theorem doCompactRF_single (c : Cfg) (s : BState) (rev : Nat) (mask : Nat → DelOutcome)
    (h1 : (pairs (compactBorders c)).length = 1) :
    (doCompactRF c s rev mask 0).2.store = setRecord c s.store (clampRev s rev) := by
  rw [doCompactRF_eq]
  obtain ⟨b, hb⟩ := List.length_eq_one_iff.mp h1
  simp only [compactFoldRF, hb, List.foldl_cons, List.foldl_nil]
  rfl

end KB
