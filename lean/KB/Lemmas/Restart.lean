/- Helper lemmas for C15. -/
import KB.Lemmas.Sys
namespace KB

/-! ### the dealt counter never falls below its initial value, and neither does any begin stamp -/

/-- every begin stamp (of requests in flight and of finished ones) is at least `ts`, and so is the counter -/
structure LowInv (ts : Nat) (v : View) : Prop where
  dl : ts ≤ v.dealt
  cl : ∀ c ∈ v.clients, ts ≤ c.beginDealt
  dn : ∀ d ∈ v.done, ts ≤ d.beginDealt

section
variable {ts : Nat} {v : View} (h : LowInv ts v)
include h

theorem LowInv.deal : LowInv ts v.deal := ⟨Nat.le_succ_of_le h.dl, h.cl, h.dn⟩

theorem LowInv.setR (r : Option Nat) : LowInv ts (v.setR r) := ⟨h.dl, h.cl, h.dn⟩

theorem LowInv.push (w : WEvent) : LowInv ts (v.push w) := by
  unfold View.push
  split
  · exact h
  · exact ⟨h.dl, h.cl, h.dn⟩

theorem LowInv.setPc {c : Client} (hc : c ∈ v.clients) (pc : Pc) : LowInv ts (v.setPc c pc) :=
  ⟨h.dl, fun x hx => by
    rcases mem_setPc.mp hx with ⟨rfl, _⟩ | ⟨hx, _⟩
    · exact h.cl c hc
    · exact h.cl x hx, h.dn⟩

end

theorem LowInv.closed (ts : Nat) : Closed (LowInv ts) where
  dealTo := fun h _ hc _ _ => h.deal.setPc hc _
  move := fun h hc _ _ _ => h.setPc hc _
  report := fun h hc _ _ => (h.push _).setPc (by rw [View.push_clients]; exact hc) _
  ret := fun {_ c _ _} h hc _ _ => ⟨h.dl, fun x hx => h.cl x (mem_fin.mp hx).1, fun d hd => by
    rcases List.mem_append.mp hd with hd | hd
    · exact h.dn d hd
    · rw [List.mem_singleton.mp hd]; exact h.cl c hc⟩
  consume := fun h _ _ => ⟨Nat.le_trans h.dl (Nat.le_max_left ..), h.cl, h.dn⟩
  rdeal := fun h _ _ => h.deal.setR _
  rpush := fun h _ => (h.push _).setR _
  spawn := fun h _ _ => ⟨h.dl, fun x hx => by
    rcases List.mem_append.mp hx with hx | hx
    · exact h.cl x hx
    · rw [List.mem_singleton.mp hx]; exact h.dl, h.dn⟩
  drop := fun h _ _ => ⟨h.dl, fun x hx => h.cl x (mem_fin.mp hx).1, h.dn⟩

theorem LowInv.init {g : G} (h3 : g.clients = []) (h4 : g.done = []) : LowInv g.dealt g.view := by
  constructor <;> simp [G.view, h3, h4]

/-! ### both filters of `visible` coincide when the bound dominates every stored revision -/

theorem visible_eq_of_all_le {recs : List Rec} {R R' : Nat} (h : ∀ r ∈ recs, r.rev ≤ R ∧ r.rev ≤ R') (k : Bytes) :
    visible R recs k = visible R' recs k := by
  unfold visible
  congr 1
  apply List.filter_congr
  intro r hr
  have := h r hr
  simp [this.1, this.2]

/-- a record of a decoded store is found in any other decoding of the same store, provided its revision
fits 8 bytes -/
theorem rec_of_encodeStore_eq {recs recs' : List Rec} (h : encodeStore recs = encodeStore recs')
    {r : Rec} (hr : r ∈ recs) (hb : r.rev < 2 ^ 64) (hb' : ∀ r' ∈ recs', r'.rev < 2 ^ 64) :
    ∃ r' ∈ recs', r'.key = r.key ∧ r'.rev = r.rev := by
  have hm : (encode r.key r.rev, r.val) ∈ encodeStore recs := List.mem_map.mpr ⟨r, hr, rfl⟩
  rw [h] at hm
  obtain ⟨r', hr', e⟩ := List.mem_map.mp hm
  simp only [Prod.mk.injEq] at e
  obtain ⟨e1, e2⟩ := encode_inj (hb' r' hr') hb e.1
  exact ⟨r', hr', e1, e2⟩

end KB
