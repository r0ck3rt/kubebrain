/- Partitions of a scan: border adjustment (`adjustBorders`), the engine's partitions as a chain of borders, and
the merged output of the per-partition workers over an encoded store. -/
import KB.Lemmas.Scan
namespace KB
open Generated

/-! ### border adjustment -/

/-- where `adjustBorders` moves an interior border -/
def alignEnd (e : Bytes) : Bytes :=
  match decode e with
  | .ok k r => if r != 0 then encode k 0 else e
  | _ => e

def adjusted : Option Bytes → List (Bytes × Bytes) → List (Bytes × Bytes)
  | _, [] => []
  | pe, [(s, e)] => [(pe.getD s, e)]
  | pe, (s, e) :: rest => (pe.getD s, alignEnd e) :: adjusted (some (alignEnd e)) rest

theorem adjustBorders_eq (pe : Option Bytes) (ps : List (Bytes × Bytes)) :
    adjustBorders pe ps = some (adjusted pe ps) := by
  induction ps generalizing pe with
  | nil => rfl
  | cons p rest ih =>
    obtain ⟨s, e⟩ := p
    cases rest with
    | nil => rfl
    | cons q rest =>
      rw [adjustBorders.eq_3 pe s e _ (by simp), adjusted.eq_3 pe s e _ (by simp), alignEnd]
      cases hd : decode e with
      | panic => exact absurd hd (decode_never_panics e)
      | _ => simp [ih]

theorem decode_alignEnd {e k : Bytes} {r : Nat} (h : decode (alignEnd e) = .ok k r) : r = 0 := by
  unfold alignEnd at h
  split at h
  · rename_i k' r' hd
    by_cases hr : r' = 0
    · rw [if_neg (by simpa using hr), hd] at h
      cases h; exact hr
    · rw [if_pos (by simpa using hr), decode_encode k' 0 (by decide)] at h
      cases h; rfl
  · rename_i hn
    exact absurd h (hn k r)

theorem adjusted_cons (pe : Option Bytes) (s e : Bytes) (rest : List (Bytes × Bytes)) :
    ∃ e' tl, adjusted pe ((s, e) :: rest) = (pe.getD s, e') :: tl := by
  cases rest with
  | nil => exact ⟨_, _, rfl⟩
  | cons q rest => exact ⟨_, _, adjusted.eq_3 pe s e _ (by simp)⟩

/-- Everything C13 says about `adjustBorders`, for an arbitrary carried `prevEnd`. -/
theorem adjusted_spec (pe : Option Bytes) (ps : List (Bytes × Bytes)) :
    (adjusted pe ps).length = ps.length ∧
    (∀ i, i + 1 < (adjusted pe ps).length → ((adjusted pe ps)[i + 1]!).1 = ((adjusted pe ps)[i]!).2) ∧
    ((adjusted pe ps).head?.map (·.1) = ps.head?.map (fun p => pe.getD p.1)) ∧
    ((adjusted pe ps).getLast?.map (·.2) = ps.getLast?.map (·.2)) ∧
    (∀ i, i + 1 < (adjusted pe ps).length → ∀ k r, decode ((adjusted pe ps)[i]!).2 = .ok k r → r = 0) := by
  induction ps generalizing pe with
  | nil => exact ⟨rfl, nofun, rfl, rfl, nofun⟩
  | cons p rest ih =>
    obtain ⟨s, e⟩ := p
    cases rest with
    | nil =>
      exact ⟨rfl, fun i hi => absurd (Nat.lt_of_succ_lt_succ hi) (Nat.not_lt_zero i), rfl, rfl,
        fun i hi => absurd (Nat.lt_of_succ_lt_succ hi) (Nat.not_lt_zero i)⟩
    | cons q rest =>
      obtain ⟨hlen, hcont, _, hlast, hpos⟩ := ih (some (alignEnd e))
      obtain ⟨e', tl, htl⟩ := adjusted_cons (some (alignEnd e)) q.1 q.2 rest
      rw [adjusted.eq_3 pe s e _ (by simp)]
      rw [htl] at hlen hcont hlast hpos ⊢
      refine ⟨by simpa using hlen, fun i hi => ?_, rfl, by simpa using hlast, fun i hi k r hd => ?_⟩
      · cases i with
        | zero => rfl
        | succ j => exact hcont j (by simpa using hi)
      · cases i with
        | zero => exact decode_alignEnd hd
        | succ j => exact hpos j (by simpa using hi) k r hd

/-! ### engine partitions as a chain of borders -/

def chain : Bytes → List Bytes → Bytes → List (Bytes × Bytes)
  | s, [], e => [(s, e)]
  | s, c :: cs, e => (s, c) :: chain c cs e

theorem chain_ne_nil (s : Bytes) (cs : List Bytes) (e : Bytes) : chain s cs e ≠ [] := by
  cases cs <;> simp [chain]

theorem chain_head (s : Bytes) (cs : List Bytes) (e : Bytes) :
    ∃ x tl, chain s cs e = (s, x) :: tl := by
  cases cs with
  | nil => exact ⟨e, [], rfl⟩
  | cons c cs => exact ⟨c, chain c cs e, rfl⟩

theorem zip_borders (s : Bytes) (cs : List Bytes) (e : Bytes) :
    (s :: cs ++ [e]).zip ((s :: cs ++ [e]).drop 1) = chain s cs e := by
  induction cs generalizing s with
  | nil => simp [chain]
  | cons c cs ih =>
    have := ih c
    simp only [List.cons_append, List.drop_one, List.tail_cons] at this ⊢
    simp [chain, this]

theorem partitions_eq_chain (splits : List Bytes) (start stop : Bytes) :
    partitions splits start stop =
      chain start (splits.filter (fun b => blt start b && blt b stop)) stop := by
  simp only [partitions]
  exact zip_borders _ _ _

theorem sortParts_chain (s : Bytes) (cs : List Bytes) (e : Bytes)
    (h : (s :: cs).Pairwise (fun x y => cmp x y = .lt)) :
    sortParts (chain s cs e) = chain s cs e := by
  induction cs generalizing s with
  | nil => simp [chain, sortParts, insertPart]
  | cons c cs ih =>
    rw [List.pairwise_cons] at h
    have ih' := ih c h.2
    obtain ⟨x, tl, hx⟩ := chain_head c cs e
    simp only [chain, sortParts, List.foldr_cons] at ih' ⊢
    rw [ih', hx]
    have : blt s c = true := blt_iff.mpr (h.1 c (by simp))
    simp [insertPart, this]

/-- `C13.GoodBorder` -/
def IsEnc (b : Bytes) : Prop := ∃ k r, Alphabet k ∧ r < 2 ^ 64 ∧ b = encode k r

theorem alignEnd_encode (k : Bytes) (r : Nat) (hr : r < 2 ^ 64) : alignEnd (encode k r) = encode k 0 := by
  rw [alignEnd, decode_encode k r hr]
  by_cases h0 : r = 0
  · simp [h0]
  · simp [h0]

theorem adjusted_chain (pe : Option Bytes) (s : Bytes) (cs : List Bytes) (e : Bytes) :
    adjusted pe (chain s cs e) = chain (pe.getD s) (cs.map alignEnd) e := by
  induction cs generalizing pe s with
  | nil => rfl
  | cons c cs ih =>
    rw [chain, adjusted.eq_3 pe s c _ (chain_ne_nil _ _ _), ih]
    rfl

theorem alignEnd_mono {x y : Bytes} (hx : IsEnc x) (hy : IsEnc y) (h : cmp x y = .lt) :
    ble (alignEnd x) (alignEnd y) = true := by
  obtain ⟨k, r, hk, hr, rfl⟩ := hx
  obtain ⟨k', r', hk', hr', rfl⟩ := hy
  rw [alignEnd_encode k r hr, alignEnd_encode k' r' hr', C10.encode_le_iff hk hk' (by decide) (by decide)]
  exact ((C10.encode_lt_iff hk hk' hr hr').mp (blt_iff.mpr h)).imp id fun h => ⟨h.1, Nat.le_refl _⟩

theorem chain_mem_le (p : Bytes) (cs : List Bytes) (e : Bytes)
    (h : (p :: cs ++ [e]).Pairwise (fun x y => ble x y = true)) :
    ∀ pr ∈ chain p cs e, ble pr.1 pr.2 = true := by
  induction cs generalizing p with
  | nil =>
    intro pr hpr
    simp only [chain, List.mem_singleton] at hpr
    subst hpr
    simpa using h
  | cons c cs ih =>
    intro pr hpr
    rw [List.cons_append, List.pairwise_cons] at h
    simp only [chain, List.mem_cons] at hpr
    rcases hpr with rfl | hpr
    · exact h.1 c (by simp)
    · exact ih c h.2 pr hpr

/-! ### splitting a sorted store at a border -/

def SortedEnc (recs : List Rec) : Prop := recs.Pairwise (fun x y => cmp (encOf x) (encOf y) = .lt)

theorem sortedEnc_of_sortedRecs {recs : List Rec} (hs : SortedRecs recs) (hk : GoodRecs recs) :
    SortedEnc recs := by
  refine List.Pairwise.imp_of_mem ?_ hs
  intro x y hx hy hlt
  have := (C10.encode_lt_iff (hk x hx).1 (hk y hy).1 (hk x hx).2 (hk y hy).2).mpr
    (hlt.imp (fun h => blt_iff.mpr h) id)
  exact blt_iff.mp this

theorem seg_split {recs : List Rec} (hs : SortedEnc recs) (lo mid hi : Bytes)
    (h1 : ble lo mid = true) (h2 : ble mid hi = true) :
    seg recs lo mid ++ seg recs mid hi = seg recs lo hi := by
  -- `[lo, hi)` is cut at the first key not below `mid`
  rw [← filter_split_sorted _ (fun r => blt (encOf r) mid) (seg recs lo hi) (hs.filter _)
    (fun x y hxy hy => blt_iff.mpr (cmp_lt_trans hxy (blt_iff.mp hy)))]
  simp only [seg, List.filter_filter]
  congr 1
  · apply List.filter_congr
    intro r _
    rw [Bool.eq_iff_iff]
    simp only [Bool.and_eq_true]
    exact ⟨fun h => ⟨h.2, h.1, blt_of_blt_of_ble h.2 h2⟩, fun h => ⟨h.2.1, h.1⟩⟩
  · apply List.filter_congr
    intro r _
    rw [Bool.eq_iff_iff]
    simp only [Bool.and_eq_true, Bool.not_eq_true', not_blt_iff_ble]
    exact ⟨fun h => ⟨h.1, ble_trans h1 h.1, h.2⟩, fun h => ⟨h.1, h.2.2⟩⟩

/-! ### the merged output of a chain of index-position borders -/

theorem seg_keys_disjoint {recs : List Rec} (hk : GoodRecs recs) (lo hi : Bytes) {k : Bytes}
    (hkA : Alphabet k) :
    ∀ x ∈ seg recs lo (encode k 0), ∀ y ∈ seg recs (encode k 0) hi, x.key ≠ y.key := by
  intro x hx y hy hxy
  simp only [seg, List.mem_filter, Bool.and_eq_true] at hx hy
  obtain ⟨hxm, _, hx2⟩ := hx
  obtain ⟨hym, hy1, _⟩ := hy
  rw [encOf, C10.encode_lt_iff (hk x hxm).1 hkA (hk x hxm).2 (by decide)] at hx2
  rw [encOf, C10.encode_le_iff hkA (hk y hym).1 (by decide) (hk y hym).2] at hy1
  have hx3 : cmp x.key k = .lt := by
    rcases hx2 with h | ⟨_, h⟩
    · exact blt_iff.mp h
    · omega
  rw [hxy] at hx3
  rcases hy1 with h | ⟨h, _⟩
  · have := cmp_lt_trans hx3 (blt_iff.mp h); simp at this
  · rw [h] at hx3; simp at hx3

theorem chain_scan (R : Nat) {recs : List Rec} (hs : SortedEnc recs) (hk : GoodRecs recs)
    (p : Bytes) (cs : List Bytes) (e : Bytes)
    (hidx : ∀ c ∈ cs, ∃ k, Alphabet k ∧ c = encode k 0)
    (hmono : (p :: cs ++ [e]).Pairwise (fun x y => ble x y = true)) :
    ((chain p cs e).map (fun pr => scanRecs R (seg recs pr.1 pr.2))).flatten
      = scanRecs R (seg recs p e) := by
  induction cs generalizing p with
  | nil => simp [chain]
  | cons c cs ih =>
    rw [List.cons_append, List.pairwise_cons] at hmono
    have hpc : ble p c = true := hmono.1 c (by simp)
    have hce : ble c e = true := by
      have := hmono.2
      rw [List.cons_append, List.pairwise_cons] at this
      exact this.1 e (by simp)
    obtain ⟨k, hkA, rfl⟩ := hidx c (by simp)
    simp only [chain, List.map_cons, List.flatten_cons]
    rw [ih (encode k 0) (fun x hx => hidx x (by simp [hx])) hmono.2,
      ← scanRecs_append R _ _ (seg_keys_disjoint hk p e hkA), seg_split hs p _ e hpc hce]

/-! ### assembling `scanParts` -/

theorem encodeBound_le_alignEnd {a x : Bytes} (hx : IsEnc x) (h : blt (encodeBound a) x = true) :
    ble (encodeBound a) (alignEnd x) = true := by
  obtain ⟨k, r, hk, hr, rfl⟩ := hx
  rw [alignEnd_encode k r hr, C10.bound_lower_iff hk (by decide)]
  exact (C10.bound_lower_iff hk hr).mp (ble_of_blt h)

theorem alignEnd_le_encodeBound {b x : Bytes} (hx : IsEnc x) (h : blt x (encodeBound b) = true) :
    ble (alignEnd x) (encodeBound b) = true := by
  obtain ⟨k, r, hk, hr, rfl⟩ := hx
  rw [alignEnd_encode k r hr]
  exact ble_of_blt ((C10.bound_upper_iff hk (by decide)).mpr ((C10.bound_upper_iff hk hr).mp h))

theorem scanPartitions_bounds (c : Cfg) (splits : List Bytes)
    (hsorted : splits.Pairwise (fun x y => cmp x y = .lt)) (hgood : ∀ b ∈ splits, IsEnc b)
    {a b : Bytes} (hab : cmp a b = .lt) :
    ∃ cs, scanPartitions { c with splits := splits } (encodeBound a) (encodeBound b)
        = some (chain (encodeBound a) cs (encodeBound b)) ∧
      (∀ x ∈ cs, ∃ k, Alphabet k ∧ x = encode k 0) ∧
      (encodeBound a :: cs ++ [encodeBound b]).Pairwise (fun x y => ble x y = true) := by
  let inner := splits.filter (fun x => blt (encodeBound a) x && blt x (encodeBound b))
  have hinner : ∀ x ∈ inner, IsEnc x ∧ blt (encodeBound a) x = true ∧ blt x (encodeBound b) = true := by
    intro x hx
    have := List.mem_filter.mp hx
    simp only [Bool.and_eq_true] at this
    exact ⟨hgood x this.1, this.2⟩
  have hin_sorted : inner.Pairwise (fun x y => cmp x y = .lt) := hsorted.filter _
  have h1 : (encodeBound a :: inner).Pairwise (fun x y => cmp x y = .lt) :=
    List.pairwise_cons.mpr ⟨fun y hy => blt_iff.mp (hinner y hy).2.1, hin_sorted⟩
  refine ⟨inner.map alignEnd, ?_, ?_, ?_⟩
  · show adjustBorders none (sortParts (partitions splits (encodeBound a) (encodeBound b))) = _
    rw [partitions_eq_chain, sortParts_chain _ _ _ h1, adjustBorders_eq, adjusted_chain]
    rfl
  · intro x hx
    obtain ⟨y, hy, rfl⟩ := List.mem_map.mp hx
    obtain ⟨k, r, hkA, hr, rfl⟩ := (hinner y hy).1
    exact ⟨k, hkA, alignEnd_encode k r hr⟩
  · rw [List.cons_append, List.pairwise_cons, List.pairwise_append]
    refine ⟨fun y hy => ?_, ?_, by simp, fun x hx y hy => ?_⟩
    · rcases List.mem_append.mp hy with hy | hy
      · obtain ⟨z, hz, rfl⟩ := List.mem_map.mp hy
        exact encodeBound_le_alignEnd (hinner z hz).1 (hinner z hz).2.1
      · rw [List.mem_singleton.mp hy]; exact ble_iff.mpr (encodeBound_mono hab)
    · exact List.pairwise_map.mpr (List.Pairwise.imp_of_mem
        (fun {x y} hx hy h => alignEnd_mono (hinner x hx).1 (hinner y hy).1 h) hin_sorted)
    · obtain ⟨z, hz, rfl⟩ := List.mem_map.mp hx
      rw [List.mem_singleton.mp hy]
      exact alignEnd_le_encodeBound (hinner z hz).1 (hinner z hz).2.2

theorem scanPartitions_good (c : Cfg) (splits : List Bytes)
    (hsorted : splits.Pairwise (fun x y => cmp x y = .lt)) (hgood : ∀ b ∈ splits, IsEnc b)
    (a b : Bytes) (ha : Alphabet a) (hb : Alphabet b) (hab : cmp a b = .lt) :
    ∃ cs, scanPartitions { c with splits := splits } (encode a 0) (encode b 0)
        = some (chain (encode a 0) cs (encode b 0)) ∧
      (∀ x ∈ cs, ∃ k, Alphabet k ∧ x = encode k 0) ∧
      (encode a 0 :: cs ++ [encode b 0]).Pairwise (fun x y => ble x y = true) := by
  rw [← encodeBound_of_alphabet ha, ← encodeBound_of_alphabet hb]
  exact scanPartitions_bounds c splits hsorted hgood hab

theorem scanParts_general (c : Cfg) {recs : List Rec} (hs : SortedRecs recs) (hk : GoodRecs recs)
    (splits : List Bytes) (hsorted : splits.Pairwise (fun x y => cmp x y = .lt))
    (hgood : ∀ b ∈ splits, IsEnc b) {a b : Bytes} (hab : cmp a b = .lt) (R : Nat) :
    ∃ outs, scanParts { c with splits := splits } (encodeStore recs) (encodeBound a) (encodeBound b) R
        = .ok outs ∧
      outs.flatten = scanRecs R (recs.filter (inRange a b)) := by
  obtain ⟨cs, hparts, hidx, hmono⟩ := scanPartitions_bounds c splits hsorted hgood hab
  refine ⟨_, scanParts_eq (belowFloor_encodeStore _ recs R) hparts
    (fun pr hpr => partWorker_encodeStore c.q hk R (chain_mem_le _ _ _ hmono pr hpr)), ?_⟩
  rw [chain_scan R (sortedEnc_of_sortedRecs hs hk) hk _ cs _ hidx hmono, seg_bounds hk]

theorem doList_general (c : Cfg) (hsorted : c.splits.Pairwise (fun x y => cmp x y = .lt))
    (hgood : ∀ b ∈ c.splits, IsEnc b) (s : BState) {recs : List Rec} (hstore : s.store = encodeStore recs)
    (hs : SortedRecs recs) (hk : GoodRecs recs) {a b : Bytes} (hab : cmp a b = .lt) (R n : Nat) {full : List KV}
    (hfull : full = scanRecs (if R == 0 then s.committed else R) (recs.filter (inRange a b))) :
    doList c s a b R n =
      .ok { hdr := hdrOf s.committed (if n = 0 then full else full.take n),
            more := decide (0 < n ∧ n < full.length),
            kvs := if n = 0 then full else full.take n } := by
  subst hfull
  refine doList_of_scan c s hab R n ?_ fun lim => ?_
  · rw [hstore]; exact scanParts_general c hs hk c.splits hsorted hgood hab _
  · rw [hstore]; exact scanLimited_encodeStore_bounds c hk hab _ lim

theorem doCount_general (c : Cfg) (hsorted : c.splits.Pairwise (fun x y => cmp x y = .lt))
    (hgood : ∀ b ∈ c.splits, IsEnc b) (hcompat : c.etcdCompat = true) (s : BState) {recs : List Rec}
    (hstore : s.store = encodeStore recs) (hs : SortedRecs recs) (hk : GoodRecs recs) {a b : Bytes}
    (hab : cmp a b = .lt) :
    doCount c s a b = .ok (s.committed, (scanRecs s.committed (recs.filter (inRange a b))).length) := by
  obtain ⟨outs, h1, h2⟩ := scanParts_general c hs hk c.splits hsorted hgood hab s.committed
  simp [doCount, hcompat, hstore, h1, h2]

end KB
