/-
  Helper lemmas for C10 (encoding reversible and order-preserving).
-/
import KB.Coder
namespace KB
open Generated

/-- A key is over the documented alphabet iff every byte is greater than the split byte. -/
def Alphabet (k : Bytes) : Prop := ∀ b ∈ k, splitByte < b

instance (k : Bytes) : Decidable (Alphabet k) := by unfold Alphabet; infer_instance

theorem alphabet_cons {x : Nat} {xs : Bytes} : Alphabet (x :: xs) ↔ splitByte < x ∧ Alphabet xs :=
  List.forall_mem_cons

theorem alphabet_append {a b : Bytes} : Alphabet (a ++ b) ↔ Alphabet a ∧ Alphabet b :=
  List.forall_mem_append

/-- The heart of order preservation: two keys over the alphabet, each followed by the split
byte and arbitrary tails, compare like the keys, and like the tails when the keys are equal. -/
theorem cmp_split (s : Nat) (k1 k2 t1 t2 : Bytes)
    (h1 : ∀ b ∈ k1, s < b) (h2 : ∀ b ∈ k2, s < b) :
    cmp (k1 ++ s :: t1) (k2 ++ s :: t2) = (cmp k1 k2).then (cmp t1 t2) := by
  induction k1 generalizing k2 with
  | nil =>
    cases k2 with
    | nil => simp [cmp_cons]
    | cons y ys => simp [cmp_cons, Nat.compare_eq_lt.mpr (h2 y (by simp))]
  | cons x xs ih =>
    cases k2 with
    | nil => simp [cmp_cons, Nat.compare_eq_gt.mpr (h1 x (by simp))]
    | cons y ys =>
      rw [List.forall_mem_cons] at h1 h2
      simp only [List.cons_append, cmp_cons, ih ys h1.2 h2.2, Ordering.then_assoc]

/-- ... in the shape all internal keys and encoded bounds have. -/
theorem cmp_keyed {k1 k2 : Bytes} (h1 : Alphabet k1) (h2 : Alphabet k2) (t1 t2 : Bytes) :
    cmp (magic ++ (k1 ++ splitByte :: t1)) (magic ++ (k2 ++ splitByte :: t2)) = (cmp k1 k2).then (cmp t1 t2) := by
  rw [cmp_append_left, cmp_split splitByte k1 k2 _ _ h1 h2]

theorem then_cmp (a b : Bytes) (o : Ordering) : (cmp a b).then o = if a = b then o else cmp a b := by
  by_cases h : a = b
  · simp [h]
  · rw [if_neg h]
    cases hc : cmp a b
    · rfl
    · exact absurd (cmp_eq_iff.mp hc) h
    · rfl

theorem encode_cmp_then {k1 k2 : Bytes} {r1 r2 : Nat} (h1 : Alphabet k1) (h2 : Alphabet k2)
    (hr1 : r1 < 2 ^ 64) (hr2 : r2 < 2 ^ 64) :
    cmp (encode k1 r1) (encode k2 r2) = (cmp k1 k2).then (compare r1 r2) := by
  rw [encode, encode, cmp_keyed h1 h2, cmp_be64 hr1 hr2]

theorem encode_cmp {k1 k2 : Bytes} {r1 r2 : Nat} (h1 : Alphabet k1) (h2 : Alphabet k2)
    (hr1 : r1 < 2 ^ 64) (hr2 : r2 < 2 ^ 64) :
    cmp (encode k1 r1) (encode k2 r2) = if k1 = k2 then compare r1 r2 else cmp k1 k2 := by
  rw [encode_cmp_then h1 h2 hr1 hr2, then_cmp]

theorem encode_append (k : Bytes) (r : Nat) (t : Bytes) :
    encode k r ++ t = magic ++ (k ++ splitByte :: (be64 r ++ t)) := by
  simp [encode]

theorem cmp_be64_after {r : Nat} (hr : r < 2 ^ 64) : cmp (be64 r) (be64 (2 ^ 64 - 1) ++ [0]) = .lt := by
  have h := cmp_append_of_length_eq (a := be64 r) (b := be64 (2 ^ 64 - 1)) (by simp [be64]) [] [0]
  rw [List.append_nil, cmp_be64 hr (by decide)] at h
  rw [h, Ordering.then_eq_lt, Nat.compare_eq_lt, Nat.compare_eq_eq]
  exact (Nat.lt_or_eq_of_le (Nat.le_pred_of_lt hr)).imp_right (⟨·, rfl⟩)

/-- The heart of the repaired bound: against "just after every version of K" a record of `k` compares like `k`
against `K`, a record of `K` itself (whatever its revision) sorting BEFORE it. -/
theorem encode_cmp_after {k K : Bytes} {r : Nat} (hk : Alphabet k) (hK : Alphabet K) (hr : r < 2 ^ 64) :
    cmp (encode k r) (encode K (2 ^ 64 - 1) ++ [0]) = if cmp k K = .gt then .gt else .lt := by
  rw [encode_append, encode, cmp_keyed hk hK, cmp_be64_after hr]
  cases cmp k K <;> rfl

/-- Continued by a byte BELOW the separator a key is, plainly encoded, before every record of the key itself. -/
theorem encode_ext_lt (K : Bytes) {c : Nat} (hc : c < splitByte) (rest : Bytes) (r' r : Nat) :
    cmp (encode (K ++ c :: rest) r') (encode K r) = .lt := by
  rw [encode, encode, List.append_assoc K, ← List.append_assoc magic, ← List.append_assoc magic,
    cmp_append_left, List.cons_append, cmp_cons, Nat.compare_eq_lt.mpr hc]
  rfl

theorem encode_length (k : Bytes) (r : Nat) : (encode k r).length = magic.length + k.length + 9 := by
  simp [encode, be64]; omega

theorem magic_length : magic.length = 4 := rfl

/-- `Decode` takes apart whatever has the shape of an internal key; the revision bytes need not come from `be64`. -/
theorem decode_keyed (k t : Bytes) (ht : t.length = 8) :
    decode (magic ++ (k ++ splitByte :: t)) = .ok k (fromBE t) := by
  have hl : (magic ++ (k ++ splitByte :: t)).length = magic.length + k.length + 9 := by
    rw [List.length_append, List.length_append, List.length_cons, ht]; rfl
  have h8 : magic.length + k.length + 9 - 8 = magic.length + (k.length + 1) :=
    Nat.add_sub_cancel (n := magic.length + (k.length + 1)) (m := 8)
  have hm : ¬ magic.length + k.length + 9 < magic.length + 1 + 8 := by
    rw [Nat.add_right_comm]; exact Nat.not_lt.mpr (Nat.le_add_right ..)
  simp only [decode, minKeyLength, hl, h8, hm, Nat.add_sub_cancel, Nat.add_sub_cancel_left]
  simp [List.getD_eq_getElem?_getD]

theorem decode_encode (k : Bytes) (r : Nat) (hr : r < 2 ^ 64) : decode (encode k r) = .ok k r := by
  rw [encode, decode_keyed k (be64 r) (beN_length 8 r), fromBE_be64 hr]

/-- `Decode` is total since /repo 5ace897: no input makes it index out of range. -/
theorem decode_never_panics (ik : Bytes) : decode ik ≠ .panic := by
  unfold decode
  repeat' split
  all_goals simp

/-- ... every key is classified: decoded, or reported as not an internal key. -/
theorem decode_total (ik : Bytes) : decode ik = .err ∨ ∃ k r, decode ik = .ok k r := by
  cases h : decode ik with
  | ok k r => exact .inr ⟨k, r, rfl⟩
  | err => exact .inl rfl
  | panic => exact absurd h (decode_never_panics ik)

theorem decode_short {ik : Bytes} (h : ik.length < 13) : decode ik = .err := if_pos h

/-- From 13 bytes on the old `Decode` passed its three length tests, and what remains is the repaired one. -/
theorem decodeOld_long {ik : Bytes} (h : 13 ≤ ik.length) : decodeOld ik = decode ik := by
  have h1 : ¬ ik.length < magic.length := by rw [magic_length]; omega
  have h3 : ¬ ik.length < 9 := by omega
  have h5 : ¬ ik.length - 9 < magic.length := by rw [magic_length]; omega
  have h0 : ¬ ik.length < minKeyLength := Nat.not_lt.mpr h
  rw [decodeOld, decode, if_neg h1, if_neg h3, if_neg h5, if_neg h0]

/-- Below 13 bytes its last length test failed, so that it never reached an answer other than an error. -/
theorem decodeOld_short {ik : Bytes} (h : ik.length < 13) : decodeOld ik = .panic ∨ decodeOld ik = .err := by
  have h5 : ik.length - 9 < magic.length := by rw [magic_length]; omega
  unfold decodeOld
  by_cases h1 : ik.length < magic.length
  · rw [if_pos h1]; exact .inl rfl
  rw [if_neg h1]
  by_cases h2 : (ik.take magic.length != magic) = true
  · rw [if_pos h2]; exact .inr rfl
  rw [if_neg h2]
  by_cases h3 : ik.length < 9
  · rw [if_pos h3]; exact .inl rfl
  rw [if_neg h3]
  by_cases h4 : (ik.getD (ik.length - 9) 0 != splitByte) = true
  · rw [if_pos h4]; exact .inr rfl
  rw [if_neg h4, if_pos h5]; exact .inl rfl

theorem encode_inj {k1 k2 : Bytes} {r1 r2 : Nat} (hr1 : r1 < 2 ^ 64) (hr2 : r2 < 2 ^ 64)
    (h : encode k1 r1 = encode k2 r2) : k1 = k2 ∧ r1 = r2 := by
  have e := decode_encode k1 r1 hr1
  rw [h, decode_encode k2 r2 hr2] at e
  injection e with a b
  exact ⟨a.symm, b.symm⟩

theorem prefixEndAux_eq_none {p : Bytes} : prefixEndAux p = none ↔ ∀ b ∈ p, 255 ≤ b := by
  induction p with
  | nil => simp [prefixEndAux]
  | cons x xs ih =>
    rw [List.forall_mem_cons, ← ih, prefixEndAux]
    cases prefixEndAux xs <;> simp

theorem between_cons (x y : Nat) (a b k : Bytes) :
    (ble (x :: a) (y :: k) = true ∧ blt (y :: k) (x :: b) = true) ↔
      (y = x ∧ ble a k = true ∧ blt k b = true) := by
  simp only [ble_iff, blt_iff, cmp_cons]
  rcases Nat.lt_trichotomy x y with h | rfl | h
  · simp [Nat.compare_eq_gt.mpr h, Nat.ne_of_gt h]
  · simp
  · simp [Nat.compare_eq_gt.mpr h, Nat.ne_of_lt h]

/-- Where `xs` has no end — every string from `xs` on has prefix `xs` — the strings with prefix `x :: xs` are those
from `x :: xs` on and below `[x + 1]`. -/
theorem between_succ (x y : Nat) {xs ys : Bytes} (h : hasPrefix ys xs = true ↔ ble xs ys = true) :
    hasPrefix (y :: ys) (x :: xs) = true ↔
      (ble (x :: xs) (y :: ys) = true ∧ blt (y :: ys) [x + 1] = true) := by
  have hnil : cmp ys [] ≠ .lt := by cases ys <;> simp
  simp only [hasPrefix, Bool.and_eq_true, beq_iff_eq, h, ble_iff, blt_iff, cmp_cons, Ordering.then_eq_lt,
    Nat.compare_eq_lt, hnil, and_false, or_false]
  rcases Nat.lt_trichotomy x y with h | rfl | h
  · simp [Nat.compare_eq_lt.mpr h, Nat.ne_of_gt h]; omega
  · simp
  · simp [Nat.compare_eq_gt.mpr h, Nat.ne_of_lt h]

theorem prefixEndAux_snoc (xs : Bytes) {b : Nat} (hb : b < 255) :
    prefixEndAux (xs ++ [b]) = some (xs ++ [b + 1]) := by
  induction xs with
  | nil => simp [prefixEndAux, hb]
  | cons x xs ih => simp [prefixEndAux, ih]

theorem hasPrefix_snoc_iff (xs : Bytes) (b : Nat) (k : Bytes) :
    hasPrefix k (xs ++ [b]) = true ↔ (ble (xs ++ [b]) k = true ∧ blt k (xs ++ [b + 1]) = true) := by
  induction xs generalizing k with
  | nil =>
    cases k with
    | nil => simp [hasPrefix, ble]
    | cons y ys => exact between_succ b y (by cases ys <;> simp [hasPrefix, ble])
  | cons x xs ih =>
    cases k with
    | nil => simp [hasPrefix, ble]
    | cons y ys =>
      simp only [List.cons_append, between_cons, hasPrefix, Bool.and_eq_true, beq_iff_eq, ih]

theorem hasPrefix_iff_between {p k : Bytes} (hk : ∀ b ∈ k, b < 256) :
    hasPrefix k p = true ↔ (ble p k = true ∧ ∀ e, prefixEndAux p = some e → blt k e = true) := by
  induction p generalizing k with
  | nil => cases k <;> simp [hasPrefix, ble, prefixEndAux]
  | cons x xs ih =>
    cases k with
    | nil => simp [hasPrefix, ble]
    | cons y ys =>
      rw [List.forall_mem_cons] at hk
      have ih := ih (k := ys) hk.2
      rw [prefixEndAux]
      cases he : prefixEndAux xs with
      | some e' =>
        simp only [he, Option.some.injEq, forall_eq'] at ih ⊢
        rw [between_cons, ← ih]
        simp [hasPrefix]
      | none =>
        simp only [he, reduceCtorEq, false_imp_iff, implies_true, and_true] at ih
        by_cases hx : x < 255
        · simp only [if_pos hx, Option.some.injEq, forall_eq']
          exact between_succ x y ih
        · -- no end: `y ≤ 0xff ≤ x`, so a string from `x :: xs` on begins with `x`
          have hy := hk.1
          simp only [if_neg hx, reduceCtorEq, false_imp_iff, implies_true, and_true, hasPrefix,
            Bool.and_eq_true, beq_iff_eq, ih, ble_iff, cmp_cons]
          rcases Nat.lt_or_eq_of_le (show y ≤ x by omega) with h | rfl
          · simp [Nat.compare_eq_gt.mpr h, Nat.ne_of_lt h]
          · simp

/-! ### range bounds (`encodeBound` = `backend.encodeRangeBound`, /repo 23c8b93: a raw bound is cut at its FIRST
byte at or below the key/revision separator) -/

/-- The byte at or below which `encodeRangeBound` cuts a bound (a constant local to the Go function, regenerated
as `rangeBoundSeparator`) is the coder's split byte. -/
theorem cutLow_cons (x : Nat) (xs : Bytes) :
    cutLow (x :: xs) = if x ≤ splitByte then some [] else (cutLow xs).map (x :: ·) := rfl

theorem cutLow_none_iff {b : Bytes} : cutLow b = none ↔ Alphabet b := by
  induction b with
  | nil => simp [cutLow, Alphabet]
  | cons x xs ih =>
    rw [alphabet_cons, ← ih, cutLow_cons]
    by_cases h : x ≤ splitByte
    · simp [h, Nat.not_lt.mpr h]
    · simp [h, Nat.not_le.mp h]

/-- What the loop finds: the bound is `P ++ c :: rest` with `P` over the alphabet and `c` at or below the
separator (`P = raw[:i]`, `c = raw[i]` for the first such `i`). -/
theorem cutLow_some {b P : Bytes} (h : cutLow b = some P) :
    Alphabet P ∧ ∃ c rest, b = P ++ c :: rest ∧ c ≤ splitByte := by
  induction b generalizing P with
  | nil => cases h
  | cons x xs ih =>
    rw [cutLow_cons] at h
    by_cases hx : x ≤ splitByte
    · rw [if_pos hx] at h
      cases h
      exact ⟨by simp [Alphabet], x, xs, rfl, hx⟩
    · rw [if_neg hx, Option.map_eq_some_iff] at h
      obtain ⟨Q, hQ, rfl⟩ := h
      obtain ⟨hA, c, rest, rfl, hc⟩ := ih hQ
      exact ⟨alphabet_cons.mpr ⟨Nat.not_le.mp hx, hA⟩, c, rest, rfl, hc⟩

theorem cutLow_append {P : Bytes} (hP : Alphabet P) {c : Nat} (hc : c ≤ splitByte) (rest : Bytes) :
    cutLow (P ++ c :: rest) = some P := by
  induction P with
  | nil => exact if_pos hc
  | cons x xs ih =>
    rw [alphabet_cons] at hP
    rw [List.cons_append, cutLow_cons, if_neg (Nat.not_le.mpr hP.1), ih hP.2]; rfl

theorem cutLow_cases (b : Bytes) :
    (cutLow b = none ∧ Alphabet b) ∨
    ∃ P c rest, cutLow b = some P ∧ Alphabet P ∧ c ≤ splitByte ∧ b = P ++ c :: rest := by
  cases h : cutLow b with
  | none => exact .inl ⟨rfl, cutLow_none_iff.mp h⟩
  | some P =>
    obtain ⟨hP, c, rest, e, hc⟩ := cutLow_some h
    exact .inr ⟨P, c, rest, rfl, hP, hc, e⟩

/-- A bound over the alphabet has no byte to cut at: it is encoded as before (the index key). -/
theorem encodeBound_of_alphabet {b : Bytes} (hb : Alphabet b) : encodeBound b = encode b 0 := by
  rw [encodeBound, cutLow_none_iff.mpr hb]

theorem encodeBound_cut {P : Bytes} (hP : Alphabet P) {c : Nat} (hc : c ≤ splitByte) (rest : Bytes) :
    encodeBound (P ++ c :: rest) = encode P (2 ^ 64 - 1) ++ [0] := by
  rw [encodeBound, cutLow_append hP hc rest]

theorem encodeBound_succ {K : Bytes} (hK : Alphabet K) : encodeBound (K ++ [0]) = encode K (2 ^ 64 - 1) ++ [0] :=
  encodeBound_cut hK (by decide) []

/-- `P ++ c :: rest` comes just after `P` for every `k` each of whose bytes is above `c` — or equal to it, when
nothing follows `c`: such a `k` is below `P ++ c :: rest` iff `k ≤ P`. -/
theorem cmp_lt_after_iff {k : Bytes} {c : Nat} {rest : Bytes} (hk : ∀ b ∈ k, c < b ∨ (b = c ∧ rest = []))
    (P : Bytes) : cmp k (P ++ c :: rest) = .lt ↔ cmp k P ≠ .gt := by
  induction P generalizing k with
  | nil =>
    cases k with
    | nil => simp
    | cons x xs =>
      rcases hk x (by simp) with h | ⟨rfl, rfl⟩
      · simp [cmp_cons, Nat.compare_eq_gt.mpr h]
      · cases xs <;> simp [cmp_cons]
  | cons y ys ih =>
    cases k with
    | nil => simp
    | cons x xs =>
      rw [List.forall_mem_cons] at hk
      rw [List.cons_append, cmp_cons, cmp_cons]
      cases compare x y <;> simp [ih hk.2]

/-- `K ++ [0]` is the immediate successor of `K` in `bytes.Compare` order (all byte strings):
`k < K ++ [0]` iff `k ≤ K`. -/
theorem blt_succ_iff (k K : Bytes) : blt k (K ++ [0]) = true ↔ ble k K = true := by
  rw [blt_iff, ble_iff]
  exact cmp_lt_after_iff (fun b _ => (Nat.eq_zero_or_pos b).elim (fun h => .inr ⟨h, rfl⟩) .inl) K

theorem ble_succ_iff (k K : Bytes) : ble (K ++ [0]) k = true ↔ blt K k = true := by
  rw [← not_blt_iff_ble, ← Bool.not_eq_true, blt_succ_iff, ← not_blt_iff_ble, Bool.not_eq_false]

theorem cmp_cut_lt_iff {k : Bytes} (hk : Alphabet k) (P : Bytes) {c : Nat} (hc : c ≤ splitByte) (rest : Bytes) :
    cmp k (P ++ c :: rest) = .lt ↔ cmp k P ≠ .gt :=
  cmp_lt_after_iff (fun b hb => .inl (Nat.lt_of_le_of_lt hc (hk b hb))) P

theorem compare_bool_eq {x y : Bool} : compare x y = .eq ↔ x = y := by
  cases x <;> cases y <;> decide

theorem compare_bool_gt {x y : Bool} : compare x y = .gt ↔ x = true ∧ y = false := by
  cases x <;> cases y <;> decide

/-- the key a bound is encoded around: the bound itself, or what stands in front of its first low byte -/
def boundKey (b : Bytes) : Bytes := (cutLow b).getD b

/-- ... and what follows it and the separator: revision 0, or the greatest revision and one more byte -/
def boundTail (b : Bytes) : Bytes := if (cutLow b).isSome then be64 (2 ^ 64 - 1) ++ [0] else be64 0

theorem encodeBound_eq (b : Bytes) : encodeBound b = magic ++ (boundKey b ++ splitByte :: boundTail b) := by
  unfold encodeBound boundKey boundTail
  cases cutLow b <;> simp [encode]

theorem cmp_boundTail (a b : Bytes) :
    cmp (boundTail a) (boundTail b) = compare (cutLow a).isSome (cutLow b).isSome := by
  unfold boundTail
  cases (cutLow a).isSome <;> cases (cutLow b).isSome <;> decide

theorem boundKey_alphabet (b : Bytes) : Alphabet (boundKey b) := by
  unfold boundKey
  rcases cutLow_cases b with ⟨h, hb⟩ | ⟨P, _, _, h, hP, _, _⟩ <;> rwa [h]

/-- the key of a bound is at or below the bound (a prefix of it) -/
theorem boundKey_le (b : Bytes) : cmp (boundKey b) b ≠ .gt := by
  unfold boundKey
  rcases cutLow_cases b with ⟨h, _⟩ | ⟨P, c, rest, h, _, _, rfl⟩ <;> rw [h]
  · simp
  · exact cmp_prefix_ne_gt P _

/-- a key over the alphabet is below a bound iff it is below (bound over the alphabet) or at or below (bound with
a low byte) the key of the bound -/
theorem lt_bound_iff {k : Bytes} (hk : Alphabet k) (b : Bytes) :
    cmp k b = .lt ↔ (if (cutLow b).isSome then cmp k (boundKey b) ≠ .gt else cmp k (boundKey b) = .lt) := by
  unfold boundKey
  rcases cutLow_cases b with ⟨h, _⟩ | ⟨P, c, rest, h, _, hc, rfl⟩ <;> rw [h]
  · simp
  · exact cmp_cut_lt_iff hk P hc rest

/-- How two encoded bounds compare: by their keys; with the same key, "the index key" sorts before "just after
every version". -/
theorem encodeBound_cmp (a b : Bytes) :
    cmp (encodeBound a) (encodeBound b) =
      (cmp (boundKey a) (boundKey b)).then (compare (cutLow a).isSome (cutLow b).isSome) := by
  rw [encodeBound_eq, encodeBound_eq, cmp_keyed (boundKey_alphabet a) (boundKey_alphabet b), cmp_boundTail]

theorem boundKey_mono {a b : Bytes} (hab : cmp a b = .lt) : cmp (boundKey a) (boundKey b) ≠ .gt := by
  -- the key of `a` (over the alphabet) is at or below `a`, hence below `b`
  have h := blt_iff.mp (blt_of_ble_of_blt (ble_iff.mpr (boundKey_le a)) (blt_iff.mpr hab))
  rw [lt_bound_iff (boundKey_alphabet a)] at h
  split at h
  · exact h
  · simp [h]

theorem encodeBound_eq_iff_key (a b : Bytes) :
    encodeBound a = encodeBound b ↔ boundKey a = boundKey b ∧ (cutLow a).isSome = (cutLow b).isSome := by
  rw [← cmp_eq_iff, encodeBound_cmp, Ordering.then_eq_eq, cmp_eq_iff, compare_bool_eq]

/-- two bounds are encoded alike iff they are equal or both have a low byte behind the same key -/
theorem encodeBound_eq_iff (a b : Bytes) :
    encodeBound a = encodeBound b ↔ (a = b ∨ ∃ P, cutLow a = some P ∧ cutLow b = some P) := by
  rw [encodeBound_eq_iff_key]
  unfold boundKey
  constructor
  · -- neither cut: the keys are the bounds; both cut: the keys are what was found; one cut: `hf` is absurd
    intro ⟨hK, hf⟩
    cases ha : cutLow a <;> cases hb : cutLow b <;> simp_all
  · rintro (rfl | ⟨P, ha, hb⟩)
    · exact ⟨rfl, rfl⟩
    · simp [ha, hb]

/-- ENCODED BOUNDS ARE ORDERED LIKE THE RAW BOUNDS, weakly: `a < b` gives `encodeBound a ≤ encodeBound b` for
ARBITRARY byte strings. -/
theorem encodeBound_mono {a b : Bytes} (hab : cmp a b = .lt) : cmp (encodeBound a) (encodeBound b) ≠ .gt := by
  rw [encodeBound_cmp, Ne, Ordering.then_eq_gt]
  rintro (h | ⟨hK, hf⟩)
  · exact boundKey_mono hab h
  · -- same key, but only `a` cut: the key is `b` itself, which would be at or below `a`
    rw [compare_bool_gt] at hf
    have hb : cutLow b = none := Option.isNone_iff_eq_none.mp (Option.isSome_eq_false_iff.mp hf.2)
    have h := boundKey_le a
    rw [cmp_eq_iff.mp hK, boundKey, hb, Option.getD_none, Ne, cmp_gt_iff] at h
    exact h hab

/-- ... they are EQUAL exactly when both have a low byte behind the same key (`P ++ [1]` and `P ++ [2]`: no key
over the alphabet lies between them, `KB.C10.encodeBound_eq_no_key_between`). -/
theorem encodeBound_lt_or_eq {a b : Bytes} (hab : cmp a b = .lt) :
    cmp (encodeBound a) (encodeBound b) = .lt ∨
      (encodeBound a = encodeBound b ∧ ∃ P, cutLow a = some P ∧ cutLow b = some P) := by
  cases h : cmp (encodeBound a) (encodeBound b) with
  | lt => exact .inl rfl
  | gt => exact absurd h (encodeBound_mono hab)
  | eq =>
    have he := cmp_eq_iff.mp h
    rcases (encodeBound_eq_iff a b).mp he with rfl | hP
    · rw [cmp_refl] at hab; cases hab
    · exact .inr ⟨he, hP⟩

end KB
