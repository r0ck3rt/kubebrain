/- The three write requests of the sequential backend model (`doCreate`, `doUpdate`, `doDelete`) as step equations:
every path either refuses at once or commits one batch and ends in `writeEnd`. -/
import KB.Backend
namespace KB
open Generated

theorem sequence_store (s : BState) (w : WEvent) : (sequence s w).store = s.store := by
  unfold sequence; split <;> rfl

theorem sequence_committed (s : BState) (w : WEvent) : (sequence s w).committed = w.rev := by
  unfold sequence; split <;> rfl

theorem sequence_dealt (s : BState) (w : WEvent) : (sequence s w).dealt = max s.dealt w.rev := by
  unfold sequence; split <;> rfl

theorem sequence_ring (s : BState) (w : WEvent) :
    (sequence s w).ring = if w.valid then s.ring.add (mkEvent w) else s.ring := by
  unfold sequence; cases w.valid <;> rfl

/-- The put-if-absent batch is refused exactly when the index record exists, and the old value is then that record
whether it comes with the conflict (`idxOffset = 0`) or is read again: the two attempts become a case split on it. -/
theorem creatorCreate_eq (c : Cfg) (st : Store) (key val : Bytes) (rev : Nat) (fs : List Fault) :
    creatorCreate c st key val rev fs =
      match st.get (idxKey key) with
      | none =>
        ((doCommit c st [BOp.pine (idxKey key) (be8 rev), BOp.put (encode key rev) val] (nextFault fs).1).1,
         (doCommit c st [BOp.pine (idxKey key) (be8 rev), BOp.put (encode key rev) val] (nextFault fs).1).2,
         (nextFault fs).2)
      | some old =>
        match parseRevision old with
        | none => (.err, st, fs)
        | some (p, tomb) =>
          if tomb && p < rev then
            ((doCommit c st [BOp.cas (idxKey key) (be8 rev) old, BOp.put (encode key rev) val] (nextFault fs).1).1,
             (doCommit c st [BOp.cas (idxKey key) (be8 rev) old, BOp.put (encode key rev) val] (nextFault fs).1).2,
             (nextFault fs).2)
          else (tombAbove c tomb, st, fs) := by
  unfold creatorCreate
  cases hg : st.get (idxKey key) with
  | none =>
    have : ∀ f, ∀ i v, (doCommit c st [BOp.pine (idxKey key) (be8 rev), BOp.put (encode key rev) val] f).1 ≠
        .conflict i v := by
      intro f i v
      cases f <;> simp [doCommit, commit, applyOps, applyOp, hg]
    cases hnf : nextFault fs with | mk f fs' =>
    dsimp only
    generalize hx : doCommit c st _ f = x
    obtain ⟨r, st'⟩ := x
    cases r
    case conflict i v => exact absurd (congrArg Prod.fst hx) (this f i v)
    all_goals rfl
  | some old =>
    have : ∀ f, doCommit c st [BOp.pine (idxKey key) (be8 rev), BOp.put (encode key rev) val] f =
        (.conflict (some c.q.idxOffset) (some old), st) := by
      intro f; simp [doCommit, commit, applyOps, applyOp, hg]
    cases hnf : nextFault fs with | mk f fs' =>
    simp only [this, hg, Option.getD_some, ite_self]
    cases parseRevision old with
    | none => rfl
    | some pr =>
      obtain ⟨p, tomb⟩ := pr
      rfl

/-- How a write request ends once its batch has answered `x = (r, st)`: the notification `w` is sequenced whatever `r`
is, and `r` becomes the response. `reread`: on a failed condition `Update` and `Delete` read the key again and answer
its current kv, or `dflt` when it is gone. -/
def writeEnd (c : Cfg) (s : BState) (w : WEvent) (reread : Bool) (dflt : Option (Bytes × Bytes × Nat))
    (x : CommitRes × Store) : WriteRes × BState :=
  (match x.1 with
    | .ok => .ok w.rev
    | .conflict _ _ =>
      if reread then
        match bget c x.2 w.key 0 with
        | .found v m => .condFailed (max w.rev m) (some (w.key, v, m))
        | .notFound _ => .condFailed w.rev dflt
      else .condFailed w.rev none
    | r => .error (commitErr r),
   sequence { s with dealt := w.rev, store := x.2 } { w with valid := x.1 == .ok, uncertain := x.1 == .uncertain })

theorem writeEnd_ok {c : Cfg} {s : BState} {w : WEvent} {reread : Bool} {dflt : Option (Bytes × Bytes × Nat)}
    {r : CommitRes} {st : Store} {n : Nat} (h : (writeEnd c s w reread dflt (r, st)).1 = .ok n) : r = .ok := by
  cases r with
  | ok => rfl
  | conflict i v =>
    simp only [writeEnd] at h
    split at h
    · split at h <;> cases h
    · cases h
  | _ => cases h

theorem doCreate_eq (c : Cfg) (s : BState) (k v : Bytes) (fs : List Fault) :
    doCreate c s k v fs =
      writeEnd c s { rev := s.dealt + 1, prevRev := 0, valid := false, verb := .create, key := k, val := v } false none
        ((creatorCreate c s.store k v (s.dealt + 1) fs).1, (creatorCreate c s.store k v (s.dealt + 1) fs).2.1) := by
  unfold doCreate writeEnd
  simp only []
  generalize creatorCreate c s.store k v (s.dealt + 1) fs = x
  obtain ⟨r, st, _⟩ := x
  cases r <;> rfl

theorem doUpdate_eq (c : Cfg) (s : BState) (k v : Bytes) (e : Nat) (fs : List Fault) :
    doUpdate c s k v e fs =
      if e == 0 then
        writeEnd c s { rev := s.dealt + 1, prevRev := 0, valid := false, verb := .create, key := k, val := v } true none
          ((creatorCreate c s.store k v (s.dealt + 1) fs).1, (creatorCreate c s.store k v (s.dealt + 1) fs).2.1)
      else if s.dealt + 1 ≤ e then
        (.error .drift, sequence { s with dealt := s.dealt + 1 }
          { rev := s.dealt + 1, prevRev := e, valid := false, verb := .put, key := k, val := v })
      else
        writeEnd c s { rev := s.dealt + 1, prevRev := e, valid := false, verb := .put, key := k, val := v } true none
          (doCommit c s.store [BOp.cas (idxKey k) (be8 (s.dealt + 1)) (be8 e), BOp.put (encode k (s.dealt + 1)) v]
            (nextFault fs).1) := by
  unfold doUpdate
  by_cases h0 : (e == 0) = true
  · rw [if_pos h0, if_pos h0]
    generalize creatorCreate c s.store k v (s.dealt + 1) fs = x
    obtain ⟨r, st, _⟩ := x
    cases r
    case conflict => simp only [writeEnd, sequence_store, if_true]; cases bget c st k 0 <;> rfl
    all_goals rfl
  · rw [if_neg h0, if_neg h0]
    by_cases h1 : s.dealt + 1 ≤ e
    · rw [if_pos h1, if_pos h1]
    · rw [if_neg h1, if_neg h1]
      cases nextFault fs with | mk f fs' =>
      dsimp only
      generalize doCommit c s.store _ f = x
      obtain ⟨r, st⟩ := x
      cases r
      case conflict => simp only [writeEnd, sequence_store, if_true]; cases bget c st k 0 <;> rfl
      all_goals rfl

theorem doDelete_eq (c : Cfg) (s : BState) (k : Bytes) (e : Nat) (fs : List Fault) :
    doDelete c s k e fs =
      match bget c s.store k 0 with
      | .notFound _ =>
        (.notFound (s.dealt + 1), sequence { s with dealt := s.dealt + 1 }
          { rev := s.dealt + 1, prevRev := 0, valid := false, verb := .delete, key := k, val := [] })
      | .found old m =>
        let w : WEvent := { rev := s.dealt + 1, prevRev := m, valid := false, verb := .delete, key := k, val := old }
        if e > 0 && s.dealt + 1 ≤ e then (.error .drift, sequence { s with dealt := s.dealt + 1 } w)
        else if e > 0 && e != m then writeEnd c s w true (some (k, old, m)) (.conflict none none, s.store)
        else if s.dealt + 1 ≤ m then (.error .other, sequence { s with dealt := s.dealt + 1 } w)
        else
          writeEnd c s w true (some (k, old, m)) (doCommit c s.store
            [BOp.cas (idxKey k) (be8 (s.dealt + 1) ++ [0]) (be8 m), BOp.put (encode k (s.dealt + 1)) tombstone]
            (nextFault fs).1) := by
  unfold doDelete
  cases bget c s.store k 0 with
  | notFound _ => rfl
  | found old m =>
    dsimp only
    by_cases h0 : (decide (e > 0) && decide (s.dealt + 1 ≤ e)) = true
    · rw [if_pos h0, if_pos h0]
    · rw [if_neg h0, if_neg h0]
      by_cases h1 : (decide (e > 0) && e != m) = true
      · rw [if_pos h1, if_pos h1]
        simp only [writeEnd, sequence_store, if_true]
        cases bget c s.store k 0 <;> rfl
      · rw [if_neg h1, if_neg h1]
        by_cases h2 : s.dealt + 1 ≤ m
        · rw [if_pos h2, if_pos h2]
        · rw [if_neg h2, if_neg h2]
          cases nextFault fs with | mk f fs' =>
          dsimp only
          generalize doCommit c s.store _ f = x
          obtain ⟨r, st⟩ := x
          cases r
          case conflict => simp only [writeEnd, sequence_store, if_true]; cases bget c st k 0 <;> rfl
          all_goals rfl

end KB
