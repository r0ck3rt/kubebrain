/- The event-key tests (`isEventKey`, `eventsPrefixOf`, `createHasTTL`) with the regenerated shape facts they branch on
resolved. Used by C17 and by the files about the ttl pass (`Lemmas.ExpirePass`, C07Expire). -/
import KB.Backend
namespace KB
open Generated

theorem eventsMatchScanner_eq : (eventsMatchScanner == "HasPrefix:eventsPrefix") = true := beq_iff_eq.2 rfl
theorem eventsMatchTxn_eq : (eventsMatchTxn == "HasPrefix:getEventsPrefix") = true := beq_iff_eq.2 rfl
theorem eventsPrefixShape_eq : (eventsPrefixShape == "prefix+events") = true := beq_iff_eq.2 rfl

theorem isEventKey_eq (c : WCfg) (k : Bytes) :
    isEventKey c k = (decide (c.eventsPfx.length > 0) && hasPrefix k c.eventsPfx) := by
  unfold isEventKey
  rw [eventsMatchScanner_eq]
  rfl

theorem isEventKey_iff {c : WCfg} {k : Bytes} :
    isEventKey c k = true ↔ c.eventsPfx ≠ [] ∧ hasPrefix k c.eventsPfx = true := by
  rw [isEventKey_eq, Bool.and_eq_true, decide_eq_true_eq, gt_iff_lt, List.length_pos_iff]

theorem isEventKey_nil (c : WCfg) : isEventKey c [] = false := by
  rw [isEventKey_eq]
  cases h : c.eventsPfx with
  | nil => simp
  | cons a as => simp [hasPrefix]

theorem eventsPrefixOf_eq (c : Cfg) : eventsPrefixOf c = c.pfx ++ eventsPattern := by
  unfold eventsPrefixOf
  rw [eventsPrefixShape_eq]
  rfl

theorem createHasTTL_eq (c : Cfg) (key : Bytes) :
    createHasTTL c key = hasPrefix key (c.pfx ++ eventsPattern) := by
  unfold createHasTTL
  rw [eventsMatchTxn_eq, eventsPrefixOf_eq]
  rfl

theorem mem_takeWhile_imp' {α : Type} {p : α → Bool} {l : List α} {x : α}
    (h : x ∈ l.takeWhile p) : x ∈ l ∧ p x = true := by
  induction l with
  | nil => simp at h
  | cons a as ih =>
    rw [List.takeWhile_cons] at h
    by_cases hp : p a = true
    · rw [if_pos hp] at h
      rcases List.mem_cons.mp h with rfl | h
      · exact ⟨List.mem_cons_self, hp⟩
      · exact ⟨List.mem_cons_of_mem _ (ih h).1, (ih h).2⟩
    · rw [if_neg hp] at h
      simp at h

theorem hasPrefix_append_left (p a b : Bytes) : hasPrefix (p ++ a) (p ++ b) = hasPrefix a b := by
  induction p with
  | nil => rfl
  | cons x xs ih => simp [hasPrefix, ih]

end KB
