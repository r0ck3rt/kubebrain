/-
  `Backend.List` / `Backend.Count` on an encoded store for ARBITRARY range bounds — `encodeBound` =
  `backend.encodeRangeBound` (/repo 23c8b93: a raw bound is cut at its first byte at or below the key/revision
  separator; before that, 146f0bb, only a bound `K ++ [0]` was recognised) — on an engine with one partition: the
  records read are exactly those of the raw keys between the RAW bounds.
-/
import KB.Lemmas.Scan
import KB.Props.C03
namespace KB
open Generated

theorem scanParts_encodeStore_bounds (c : Cfg) (hsplit : c.splits = []) {recs : List Rec}
    (hk : ∀ r ∈ recs, Alphabet r.key ∧ r.rev < 2 ^ 64) {a b : Bytes}
    (hab : cmp a b = .lt) (rev : Nat) :
    scanParts c (encodeStore recs) (encodeBound a) (encodeBound b) rev =
      .ok [scanRecs rev (recs.filter (inRange a b))] := by
  rw [← seg_bounds hk]
  exact scanParts_eq (g := fun p => scanRecs rev (seg recs p.1 p.2)) (belowFloor_encodeStore c recs rev)
    (scanPartitions_single hsplit _ _)
    (fun p hp => by rw [List.mem_singleton.mp hp]; exact partWorker_encodeStore c.q hk rev (ble_encodeBound hab))

/-- `Backend.List` over `[a, b)`, any bounds, one partition: the scan of exactly the records of the raw keys `k` with
`a ≤ k < b` (`bytes.Compare` on RAW keys); with a limit the first `n`, and `more` iff the limit cut. -/
theorem doList_bounds (c : Cfg) (hsplit : c.splits = []) (s : BState) {recs : List Rec}
    (hstore : s.store = encodeStore recs) (hk : ∀ r ∈ recs, Alphabet r.key ∧ r.rev < 2 ^ 64)
    {a b : Bytes} (hab : cmp a b = .lt) (R n : Nat) {full : List KV}
    (hfull : full = scanRecs (C03.readRev R s.committed) (recs.filter (inRange a b))) :
    doList c s a b R n =
      .ok { hdr := hdrOf s.committed (if n = 0 then full else full.take n),
            more := decide (0 < n ∧ n < full.length),
            kvs := if n = 0 then full else full.take n } := by
  subst hfull
  refine doList_of_scan c s hab R n ?_ fun lim => ?_
  · rw [hstore, scanParts_encodeStore_bounds c hsplit hk hab]
    exact ⟨_, rfl, List.flatten_singleton⟩
  · rw [hstore]
    exact scanLimited_encodeStore_bounds c hk hab _ lim

theorem doCount_bounds (c : Cfg) (hsplit : c.splits = []) (hcompat : c.etcdCompat = true) (s : BState)
    {recs : List Rec} (hstore : s.store = encodeStore recs) (hk : ∀ r ∈ recs, Alphabet r.key ∧ r.rev < 2 ^ 64)
    {a b : Bytes} (hab : cmp a b = .lt) :
    doCount c s a b = .ok (s.committed, (scanRecs s.committed (recs.filter (inRange a b))).length) := by
  simp [doCount, hcompat, hstore, scanParts_encodeStore_bounds c hsplit hk hab]

end KB
