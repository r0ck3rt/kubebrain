/- Helper lemmas for KB.Props.C07Atomic: a sub-store of an encoded store (`store_eq_encodeStore_filter`,
`index_of_sub_store`), the backend's point read on an encoded store (`bget_encodeStore`), and when a guarded
update / a create is accepted (`doUpdate_ok_of_index`, `doCreate_ok_of_no_index`, `doCreate_ok_of_flagged_index`). -/
import KB.Lemmas.ExpirePass
import KB.Lemmas.CompactRace
namespace KB.Atomic
open KB KB.Compact KB.ExpirePass KB.Race Generated

theorem store_eq_encodeStore_filter {recs : List Rec} (hs : SortedRecs recs) (hw : WellKeyed recs)
    (hk : ∀ r ∈ recs, Alphabet r.key ∧ r.rev < 2 ^ 64) {s : Store} (hso : s.Sorted)
    (hsub : ∀ b, s.get b = none ∨ s.get b = (encodeStore recs).get b) :
    s = encodeStore (recs.filter (fun r => (s.get r.ik).isSome)) := by
  have hsF : SortedRecs (recs.filter (fun r => (s.get r.ik).isSome)) :=
    List.Pairwise.sublist List.filter_sublist hs
  have hkF : ∀ r ∈ recs.filter (fun r => (s.get r.ik).isSome), Alphabet r.key ∧ r.rev < 2 ^ 64 :=
    fun r hr => hk r (List.mem_filter.1 hr).1
  apply store_ext hso (encodeStore_sorted hsF hkF)
  intro b
  cases hb : s.get b with
  | none =>
    cases hR : (encodeStore (recs.filter (fun r => (s.get r.ik).isSome))).get b with
    | none => rfl
    | some v =>
      exfalso
      have hm := Store.mem_of_get hR
      obtain ⟨r, hr, e⟩ := List.mem_map.1 hm
      simp only [Prod.mk.injEq] at e
      have hr' := List.mem_filter.1 hr
      rw [hw r hr'.1, e.1, hb] at hr'
      exact absurd hr'.2 (by decide)
  | some v =>
    have hE : (encodeStore recs).get b = some v := by
      rcases hsub b with h | h
      · rw [hb] at h; cases h
      · rw [← h, hb]
    have hm := Store.mem_of_get hE
    obtain ⟨r, hr, e⟩ := List.mem_map.1 hm
    simp only [Prod.mk.injEq] at e
    have hrF : r ∈ recs.filter (fun r => (s.get r.ik).isSome) := by
      rw [List.mem_filter]; refine ⟨hr, ?_⟩
      rw [hw r hr, e.1, hb]; rfl
    rw [← e.1, encodeStore_get hsF hkF hrF, e.2]

theorem index_of_sub_store {recs : List Rec} (hw : WellKeyed recs)
    (hk : ∀ r ∈ recs, Alphabet r.key ∧ r.rev < 2 ^ 64) {s : Store}
    (hsub : ∀ b, s.get b = none ∨ s.get b = (encodeStore recs).get b) {k old : Bytes}
    (hg : s.get (idxKey k) = some old) : ∃ i ∈ recs, i.key = k ∧ i.rev = 0 ∧ i.val = old ∧ i.ik = idxKey k := by
  have hE : (encodeStore recs).get (idxKey k) = some old := by
    rcases hsub (idxKey k) with h | h
    · rw [hg] at h; cases h
    · rw [← h, hg]
  obtain ⟨r, hr, e⟩ := List.mem_map.1 (Store.mem_of_get hE)
  obtain ⟨e1, e2⟩ := Prod.mk.inj e
  obtain ⟨e1, e3⟩ := encode_inj (hk r hr).2 (Nat.two_pow_pos 64) e1
  exact ⟨r, hr, e1, e3, e2, by rw [hw r hr, e1, e3]; rfl⟩

theorem bget_encodeStore (cb : Cfg) {l : List Rec} (hs : SortedRecs l)
    (hk : ∀ r ∈ l, Alphabet r.key ∧ r.rev < 2 ^ 64) (k : Bytes) (hka : Alphabet k) :
    bget cb (encodeStore l) k 0 =
      match visible (2 ^ 64 - 1) l k with
      | none => .notFound 0
      | some r => if isTomb r.val then .notFound r.rev else .found r.val r.rev := by
  unfold bget
  rw [getInternal_encodeStore cb hs hk k hka 0 (by decide)]
  simp only [beq_self_eq_true, if_true]
  cases visible (2 ^ 64 - 1) l k with
  | none => rfl
  | some r => rfl

theorem bget_found_iff (cb : Cfg) {l : List Rec} (hs : SortedRecs l)
    (hk : ∀ r ∈ l, Alphabet r.key ∧ r.rev < 2 ^ 64) (k : Bytes) (hka : Alphabet k) (v : Bytes) (m : Nat) :
    bget cb (encodeStore l) k 0 = .found v m ↔ readAt (2 ^ 64 - 1) l k = some (v, m) := by
  rw [bget_encodeStore cb hs hk k hka]
  unfold readAt
  cases visible (2 ^ 64 - 1) l k with
  | none => simp
  | some r =>
    simp only
    cases isTomb r.val <;> simp

theorem bget_notFound_iff (cb : Cfg) {l : List Rec} (hs : SortedRecs l)
    (hk : ∀ r ∈ l, Alphabet r.key ∧ r.rev < 2 ^ 64) (k : Bytes) (hka : Alphabet k) :
    (∃ m, bget cb (encodeStore l) k 0 = .notFound m) ↔ readAt (2 ^ 64 - 1) l k = none := by
  rw [bget_encodeStore cb hs hk k hka]
  unfold readAt
  cases visible (2 ^ 64 - 1) l k with
  | none => simp
  | some r =>
    simp only
    cases isTomb r.val <;> simp

/-! ### when the backend accepts a write -/

theorem doUpdate_ok_of_index (cb : Cfg) (s : BState) (k val : Bytes) (m : Nat) (hm0 : 0 < m) (hm : m ≤ s.dealt)
    (hidx : s.store.get (idxKey k) = some (be8 m)) :
    (doUpdate cb s k val m []).1 = .ok (s.dealt + 1) := by
  have h1 : (m == 0) = false := by simp; omega
  have h2 : ¬ (s.dealt + 1 ≤ m) := by omega
  simp [doUpdate, h1, h2, doCommit, nextFault, commit_cas_put_eq, hidx]

theorem doCreate_ok_of_no_index (cb : Cfg) (s : BState) (k val : Bytes)
    (hidx : s.store.get (idxKey k) = none) :
    (doCreate cb s k val []).1 = .ok (s.dealt + 1) := by
  simp [doCreate, creatorCreate, doCommit, nextFault, commit_pine_put_eq, hidx]

theorem doCreate_ok_of_flagged_index (cb : Cfg) (s : BState) (k val old : Bytes)
    (hidx : s.store.get (idxKey k) = some old) (hlen : old.length = 9) (hlt : fromBE (old.take 8) < s.dealt + 1) :
    (doCreate cb s k val []).1 = .ok (s.dealt + 1) := by
  have hp : parseRevision old = some (fromBE (old.take 8), true) := by
    simp [parseRevision, hlen, revisionValueLength, revisionValueLengthWithDeletionFlag]
  simp [doCreate, creatorCreate, doCommit, nextFault, commit_pine_put_eq, commit_cas_put_eq, hidx, hp, hlt]

end KB.Atomic
