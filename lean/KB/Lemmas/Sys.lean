/- Invariants of the interleaving LTS KB.Sys that read only the sequencing part of the state (`View`: counters, slots,
program counters, finished requests). A predicate on views is shown invariant by showing it closed under nine abstract
moves (`Closed`); that every action of KB.Sys is a composition of these moves is proved once (`act_P`). -/
import KB.Sys
import KB.Lemmas.Coder
namespace KB

/-! ### Revisions owned by a client -/

/-- The revision a request has been dealt but not yet reported to the sequencer
(`C04.inflightRev` on the program counter). -/
def Pc.inflight : Pc → Option Nat
  | .createCommit r => some r
  | .createReread r => some r
  | .createRetry r => some r
  | .createOver r _ _ => some r
  | .createRecheck r _ => some r
  | .updateCommit r => some r
  | .deleteCommit r _ _ => some r
  | _ => none

/-- The revision a request has been dealt and will return with: in flight, or already reported
and waiting in `readLatest`. -/
def Pc.held : Pc → Option Nat
  | .readLatest r _ => some r
  | pc => pc.inflight

theorem Pc.held_of_inflight {pc : Pc} {r : Nat} (h : pc.inflight = some r) : pc.held = some r := by
  cases pc <;> simp_all [Pc.held, Pc.inflight]

theorem Pc.held_cases {pc : Pc} {r : Nat} (h : pc.held = some r) :
    pc.inflight = some r ∨ ∃ fb, pc = .readLatest r fb := by
  cases pc <;> simp_all [Pc.held, Pc.inflight]

theorem Pc.inflight_none_of_held {pc : Pc} (h : pc.held = none) : pc.inflight = none := by
  cases pc <;> simp_all [Pc.held, Pc.inflight]

/-! ### The part of the state the sequencing invariants talk about -/

structure View where
  dealt : Nat
  committed : Nat
  slots : List WEvent
  clients : List Client
  done : List Done
  /-- the revision the retry loop was dealt and has not reported yet -/
  rpc : Option Nat
  /-- slots of the sequencer's ring (`tso.MaxInFlight`), and whether `Deal` is the unguarded one of before 624b477 -/
  ringLen : Nat
  unguarded : Bool

def G.view (g : G) : View :=
  ⟨g.dealt, g.committed, g.slots, g.clients, g.done, g.retryPc.map (·.rev), g.cfg.ringLen, g.cfg.dealUnguarded⟩

def View.setR (v : View) (r : Option Nat) : View := { v with rpc := r }

def View.setC (v : View) (c : Client) : View :=
  { v with clients := v.clients.map (fun x => if x.id == c.id then c else x) }

def View.setPc (v : View) (c : Client) (pc : Pc) : View := v.setC { c with pc := pc }

def View.deal (v : View) : View := { v with dealt := v.dealt + 1 }

def View.push (v : View) (w : WEvent) : View :=
  if w.rev == 0 then v else { v with slots := v.slots ++ [w] }

def View.fin (v : View) (c : Client) (res : WriteRes) (rev : Nat) : View :=
  { v with clients := v.clients.filter (·.id != c.id),
           done := v.done ++ [{ id := c.id, kind := c.kind, res := res, rev := rev,
                                beginDealt := c.beginDealt, endDealt := v.dealt }] }

def View.consume (v : View) (w : WEvent) : View :=
  { v with committed := w.rev, dealt := max v.dealt w.rev,
           slots := v.slots.filter (fun x => x.rev != w.rev) }

/-- a request that holds no revision returns (its `Deal` was refused) -/
def View.drop (v : View) (c : Client) : View := { v with clients := v.clients.filter (·.id != c.id) }

/-- `tso.Deal` hands out `dealt + 1`: the guarded `Deal` only while that revision is inside the ring's window -/
def View.WinOpen (v : View) : Prop := v.unguarded = false → v.dealt + 1 - v.committed < v.ringLen

def View.spawn (v : View) (id : Nat) (kind : ReqKind) : View :=
  { v with clients := v.clients ++ [{ id := id, kind := kind, pc := .start, beginDealt := v.dealt }] }

theorem View.push_of_lt {v : View} {w : WEvent} {n : Nat} (h : n < w.rev) :
    v.push w = { v with slots := v.slots ++ [w] } := by
  simp [View.push, Nat.ne_of_gt (Nat.zero_lt_of_lt h)]

theorem View.consume_of_le {v : View} {w : WEvent} (h : w.rev ≤ v.dealt) :
    v.consume w = { v with committed := w.rev, slots := v.slots.filter (fun x => x.rev != w.rev) } := by
  simp [View.consume, Nat.max_eq_left h]

theorem some_succ_ne {d r : Nat} (h : r ≤ d) : some (d + 1) ≠ some r :=
  fun e => by cases e; omega

theorem forall_mem_snoc {α : Type} {p : α → Prop} {l : List α} {a : α} (hl : ∀ x ∈ l, p x) (ha : p a) :
    ∀ x ∈ l ++ [a], p x :=
  List.forall_mem_append.2 ⟨hl, List.forall_mem_singleton.2 ha⟩

theorem exists_mem_snoc {α : Type} {p : α → Prop} {l : List α} {a : α} : (∃ x ∈ l, p x) → ∃ x ∈ l ++ [a], p x :=
  fun ⟨x, hx, h⟩ => ⟨x, List.mem_append_left _ hx, h⟩

theorem resolved_consume {slots : List WEvent} {committed r : Nat} {w : WEvent} (hw : committed ≤ w.rev)
    (h : r ≤ committed ∨ ∃ x ∈ slots, x.rev = r) :
    r ≤ w.rev ∨ ∃ x ∈ slots.filter (fun x => x.rev != w.rev), x.rev = r := by
  rcases h with hle | ⟨x, hx, e⟩
  · exact .inl (Nat.le_trans hle hw)
  · by_cases hxw : x.rev = w.rev
    · exact .inl (Nat.le_of_eq (e.symm.trans hxw))
    · exact .inr ⟨x, List.mem_filter.2 ⟨hx, by simpa using hxw⟩, e⟩

theorem mem_setPc {l : List Client} {c : Client} {pc : Pc} {x : Client} :
    x ∈ l.map (fun y => if y.id == c.id then { c with pc := pc } else y) ↔
      (x = { c with pc := pc } ∧ ∃ y ∈ l, y.id = c.id) ∨ (x ∈ l ∧ x.id ≠ c.id) := by
  simp only [List.mem_map]
  constructor
  · rintro ⟨y, hy, rfl⟩
    by_cases h : y.id = c.id
    · left; simp [h]; exact ⟨y, hy, h⟩
    · right; simp [h, hy]
  · rintro (⟨rfl, y, hy, h⟩ | ⟨hx, h⟩)
    · exact ⟨y, hy, by simp [h]⟩
    · exact ⟨x, hx, by simp [h]⟩

theorem mem_fin {l : List Client} {c x : Client} :
    x ∈ l.filter (·.id != c.id) ↔ x ∈ l ∧ x.id ≠ c.id := by
  simp [List.mem_filter]

theorem mem_setPc_self {v : View} {c : Client} (hc : c ∈ v.clients) (pc : Pc) :
    { c with pc := pc } ∈ (v.setPc c pc).clients :=
  mem_setPc.mpr (Or.inl ⟨rfl, c, hc, rfl⟩)

theorem View.forall_setPc_ne {v : View} {c : Client} {pc : Pc} {Q : Client → Prop}
    (hold : ∀ x ∈ v.clients, x ≠ c → Q x) (hnew : Q { c with pc := pc }) : ∀ x ∈ (v.setPc c pc).clients, Q x := by
  intro x hx
  rcases mem_setPc.1 hx with ⟨rfl, _⟩ | ⟨hx, hne⟩
  · exact hnew
  · exact hold x hx (fun e => hne (e ▸ rfl))

theorem View.forall_setPc {v : View} {c : Client} {pc : Pc} {Q : Client → Prop}
    (hold : ∀ x ∈ v.clients, Q x) (hnew : Q { c with pc := pc }) : ∀ x ∈ (v.setPc c pc).clients, Q x :=
  View.forall_setPc_ne (fun x hx _ => hold x hx) hnew

theorem idU_setPc {v : View} (c : Client) (pc : Pc)
    (h : ∀ c1 ∈ v.clients, ∀ c2 ∈ v.clients, c1.id = c2.id → c1 = c2) :
    ∀ c1 ∈ (v.setPc c pc).clients, ∀ c2 ∈ (v.setPc c pc).clients, c1.id = c2.id → c1 = c2 := by
  intro c1 h1 c2 h2 e
  rcases mem_setPc.1 h1 with ⟨rfl, _⟩ | ⟨h1, n1⟩ <;> rcases mem_setPc.1 h2 with ⟨rfl, _⟩ | ⟨h2, n2⟩
  · rfl
  · exact absurd e.symm n2
  · exact absurd e n1
  · exact h c1 h1 c2 h2 e

theorem heldU_setPc {v : View} {c : Client} {pc : Pc}
    (h : ∀ c1 ∈ v.clients, ∀ c2 ∈ v.clients, ∀ r, c1.pc.held = some r → c2.pc.held = some r → c1 = c2)
    (hne : ∀ x ∈ v.clients, x ≠ c → ∀ r, x.pc.held = some r → pc.held ≠ some r) :
    ∀ c1 ∈ (v.setPc c pc).clients, ∀ c2 ∈ (v.setPc c pc).clients, ∀ r,
      c1.pc.held = some r → c2.pc.held = some r → c1 = c2 :=
  View.forall_setPc_ne
    (fun x hx n => View.forall_setPc (h x hx) fun r h1 h2 => absurd h2 (hne x hx n r h1))
    (View.forall_setPc_ne (fun x hx n r h1 h2 => absurd h1 (hne x hx n r h2)) fun _ _ _ => rfl)

/-- Sequencing invariant. Every dealt revision above `committed` is in exactly one place (`cover`; exclusive by
`slotInfl`, `rpcSlot`, `rpcHeld`, `heldU`): a filled slot, a request that has not reported it yet (`Pc.inflight`), or the
retry loop (`rpc`). A request in `readLatest` has reported its revision (`rlRes`) but still holds it (`Pc.held`): it will
return with it, so nobody else may have it. -/
structure SInv (v : View) : Prop where
  le : v.committed ≤ v.dealt
  slotR : ∀ w ∈ v.slots, v.committed < w.rev ∧ w.rev ≤ v.dealt
  idU : ∀ c1 ∈ v.clients, ∀ c2 ∈ v.clients, c1.id = c2.id → c1 = c2
  cBegin : ∀ c ∈ v.clients, c.beginDealt ≤ v.dealt
  heldR : ∀ c ∈ v.clients, ∀ r, c.pc.held = some r → c.beginDealt < r ∧ r ≤ v.dealt
  inflR : ∀ c ∈ v.clients, ∀ r, c.pc.inflight = some r → v.committed < r
  heldU : ∀ c1 ∈ v.clients, ∀ c2 ∈ v.clients, ∀ r, c1.pc.held = some r → c2.pc.held = some r → c1 = c2
  slotInfl : ∀ w ∈ v.slots, ∀ c ∈ v.clients, c.pc.inflight ≠ some w.rev
  cover : ∀ r, v.committed < r → r ≤ v.dealt →
    (∃ w ∈ v.slots, w.rev = r) ∨ (∃ c ∈ v.clients, c.pc.inflight = some r) ∨ v.rpc = some r
  rlRes : ∀ c ∈ v.clients, ∀ r fb, c.pc = .readLatest r fb → r ≤ v.committed ∨ ∃ w ∈ v.slots, w.rev = r
  rpcR : ∀ r, v.rpc = some r → v.committed < r ∧ r ≤ v.dealt
  rpcSlot : ∀ w ∈ v.slots, v.rpc ≠ some w.rev
  rpcHeld : ∀ c ∈ v.clients, ∀ r, c.pc.held = some r → v.rpc ≠ some r

theorem SInv.inflD {v : View} (h : SInv v) : ∀ c ∈ v.clients, ∀ r, c.pc.inflight = some r →
    c.beginDealt < r ∧ r ≤ v.dealt :=
  fun c hc r hr => h.heldR c hc r (Pc.held_of_inflight hr)

theorem SInv.inflU {v : View} (h : SInv v) : ∀ c1 ∈ v.clients, ∀ c2 ∈ v.clients, ∀ r,
    c1.pc.inflight = some r → c2.pc.inflight = some r → c1 = c2 :=
  fun c1 h1 c2 h2 r hr1 hr2 => h.heldU c1 h1 c2 h2 r (Pc.held_of_inflight hr1) (Pc.held_of_inflight hr2)

theorem SInv.rpcInfl {v : View} (h : SInv v) : ∀ c ∈ v.clients, ∀ r, c.pc.inflight = some r → v.rpc ≠ some r :=
  fun c hc r hr => h.rpcHeld c hc r (Pc.held_of_inflight hr)

theorem SInv.mem_setPc_of_ne {v : View} (h : SInv v) {c x : Client} (hc : c ∈ v.clients) (hx : x ∈ v.clients)
    (hne : x ≠ c) (pc : Pc) : x ∈ (v.setPc c pc).clients :=
  mem_setPc.2 (.inr ⟨hx, fun e => hne (h.idU x hx c hc e)⟩)

/-! Closure of `SInv` under the nine moves. A field that does not read what a move changes is inherited from `h`
(`{ h with … }`: its statement about the new view unfolds to the old one); every other field is derived from the
old fields it needs. -/

theorem SInv.dealTo {v : View} (h : SInv v) {c : Client} (hc : c ∈ v.clients) (hn : c.pc.held = none)
    {pc : Pc} (hp : pc.inflight = some (v.dealt + 1)) : SInv (v.deal.setPc c pc) :=
  have hph : pc.held = some (v.dealt + 1) := Pc.held_of_inflight hp
  { h with
    le := Nat.le_succ_of_le h.le
    slotR := fun w hw => (h.slotR w hw).imp_right Nat.le_succ_of_le
    idU := idU_setPc c pc h.idU
    cBegin := View.forall_setPc (fun x hx => Nat.le_succ_of_le (h.cBegin x hx)) (Nat.le_succ_of_le (h.cBegin c hc))
    heldR := View.forall_setPc (fun x hx r hr => (h.heldR x hx r hr).imp_right Nat.le_succ_of_le)
      fun r hr => by cases hph.symm.trans hr; exact ⟨Nat.lt_succ_of_le (h.cBegin c hc), Nat.le_refl _⟩
    inflR := View.forall_setPc h.inflR fun r hr => by cases hp.symm.trans hr; exact Nat.lt_succ_of_le h.le
    heldU := heldU_setPc h.heldU fun x hx _ r hr => hph ▸ some_succ_ne (h.heldR x hx r hr).2
    slotInfl := fun w hw => View.forall_setPc (h.slotInfl w hw) (hp ▸ some_succ_ne (h.slotR w hw).2)
    cover := fun r hlo hhi => by
      rcases Nat.lt_or_ge v.dealt r with hr | hr
      · exact .inr (.inl ⟨_, mem_setPc_self hc pc, hp.trans (congrArg some (Nat.le_antisymm hr hhi))⟩)
      · exact (h.cover r hlo hr).imp_right <| Or.imp_left fun ⟨x, hx, hi⟩ =>
          ⟨x, h.mem_setPc_of_ne hc hx (fun e => by rw [e, Pc.inflight_none_of_held hn] at hi; cases hi) pc, hi⟩
    rlRes := View.forall_setPc h.rlRes fun _ _ (e : pc = _) => by subst e; cases hp
    rpcR := fun r hr => (h.rpcR r hr).imp_right Nat.le_succ_of_le
    rpcHeld := View.forall_setPc h.rpcHeld fun r hr e => some_succ_ne (h.rpcR _ e).2 (hph.symm.trans hr) }

theorem SInv.move {v : View} (h : SInv v) {c : Client} (hc : c ∈ v.clients)
    {pc : Pc} (hi : pc.inflight = c.pc.inflight) (hh : pc.held = c.pc.held)
    (hrl : ∀ r fb, pc ≠ .readLatest r fb) : SInv (v.setPc c pc) :=
  { h with
    idU := idU_setPc c pc h.idU
    cBegin := View.forall_setPc h.cBegin (h.cBegin c hc)
    heldR := View.forall_setPc h.heldR fun r hr => h.heldR c hc r (hh ▸ hr)
    inflR := View.forall_setPc h.inflR fun r hr => h.inflR c hc r (hi ▸ hr)
    heldU := heldU_setPc h.heldU fun x hx n r hr e => n (h.heldU x hx c hc r hr (hh ▸ e))
    slotInfl := fun w hw => View.forall_setPc (h.slotInfl w hw) (hi ▸ h.slotInfl w hw c hc)
    cover := fun r hlo hhi => (h.cover r hlo hhi).imp_right <| Or.imp_left fun ⟨x, hx, hr⟩ =>
      if e : x = c then ⟨_, mem_setPc_self hc pc, hi.trans (e ▸ hr)⟩ else ⟨x, h.mem_setPc_of_ne hc hx e pc, hr⟩
    rlRes := View.forall_setPc h.rlRes fun r fb e => absurd e (hrl r fb)
    rpcHeld := View.forall_setPc h.rpcHeld fun r hr => h.rpcHeld c hc r (hh ▸ hr) }

theorem SInv.report {v : View} (h : SInv v) {c : Client} (hc : c ∈ v.clients) {w : WEvent}
    (hi : c.pc.inflight = some w.rev) (fb : Option (Bytes × Bytes × Nat)) :
    SInv ((v.push w).setPc c (.readLatest w.rev fb)) := by
  have hh := Pc.held_of_inflight hi
  rw [View.push_of_lt (h.inflR c hc _ hi)]
  exact
  { h with
    slotR := forall_mem_snoc h.slotR ⟨h.inflR c hc _ hi, (h.inflD c hc _ hi).2⟩
    idU := idU_setPc c _ h.idU
    cBegin := View.forall_setPc h.cBegin (h.cBegin c hc)
    heldR := View.forall_setPc h.heldR fun r hr => by cases hr; exact h.inflD c hc _ hi
    inflR := View.forall_setPc h.inflR fun _ hr => nomatch hr
    heldU := heldU_setPc h.heldU fun x hx n r hr e => by cases e; exact n (h.heldU x hx c hc _ hr hh)
    slotInfl := forall_mem_snoc (fun w' hw' => View.forall_setPc (h.slotInfl w' hw') fun e => nomatch e)
      (View.forall_setPc_ne (fun x hx n hr => n (h.inflU x hx c hc _ hr hi)) fun e => nomatch e)
    cover := fun r hlo hhi => by
      rcases h.cover r hlo hhi with ⟨w', hw', hr⟩ | ⟨x, hx, hr⟩ | hp
      · exact .inl (exists_mem_snoc ⟨w', hw', hr⟩)
      · by_cases e : x = c
        · exact .inl ⟨w, List.mem_concat_self, Option.some.inj (hi.symm.trans (e ▸ hr))⟩
        · exact .inr (.inl ⟨x, h.mem_setPc_of_ne hc hx e _, hr⟩)
      · exact .inr (.inr hp)
    rlRes := View.forall_setPc (fun x hx r fb e => (h.rlRes x hx r fb e).imp_right exists_mem_snoc)
      fun r fb e => by cases e; exact .inr ⟨w, List.mem_concat_self, rfl⟩
    rpcSlot := forall_mem_snoc h.rpcSlot (h.rpcInfl c hc _ hi)
    rpcHeld := View.forall_setPc h.rpcHeld fun r hr => by cases hr; exact h.rpcInfl c hc _ hi }

theorem SInv.drop {v : View} (h : SInv v) {c : Client} (hc : c ∈ v.clients) (hn : c.pc.inflight = none) :
    SInv (v.drop c) :=
  have sub : ∀ {x}, x ∈ (v.drop c).clients → x ∈ v.clients := fun hx => (mem_fin.1 hx).1
  { h with
    idU := fun c1 h1 c2 h2 => h.idU c1 (sub h1) c2 (sub h2)
    cBegin := fun x hx => h.cBegin x (sub hx)
    heldR := fun x hx => h.heldR x (sub hx)
    inflR := fun x hx => h.inflR x (sub hx)
    heldU := fun c1 h1 c2 h2 => h.heldU c1 (sub h1) c2 (sub h2)
    slotInfl := fun w hw x hx => h.slotInfl w hw x (sub hx)
    cover := fun r hlo hhi => (h.cover r hlo hhi).imp_right <| Or.imp_left fun ⟨x, hx, hr⟩ =>
      ⟨x, mem_fin.2 ⟨hx, fun e => by rw [h.idU x hx c hc e, hn] at hr; cases hr⟩, hr⟩
    rlRes := fun x hx => h.rlRes x (sub hx)
    rpcHeld := fun x hx => h.rpcHeld x (sub hx) }

/-- `SInv` does not read `done`, so `fin` is `drop` here. -/
theorem SInv.ret {v : View} (h : SInv v) {c : Client} (hc : c ∈ v.clients) {r : Nat}
    {fb : Option (Bytes × Bytes × Nat)} (hp : c.pc = .readLatest r fb) (res : WriteRes) :
    SInv (v.fin c res r) :=
  { h.drop hc (by rw [hp]; rfl) with }

theorem SInv.consume {v : View} (h : SInv v) {w : WEvent} (hw : w ∈ v.slots)
    (hr : w.rev = v.committed + 1) : SInv (v.consume w) := by
  have hm : ∀ {x}, x ∈ v.slots.filter (fun x => x.rev != w.rev) ↔ x ∈ v.slots ∧ x.rev ≠ w.rev := by
    simp [List.mem_filter]
  have up : ∀ {r}, v.committed < r → r ≠ w.rev → w.rev < r := by omega
  rw [View.consume_of_le (h.slotR w hw).2]
  exact
  { h with
    le := (h.slotR w hw).2
    slotR := fun x hx => ⟨up (h.slotR x (hm.1 hx).1).1 (hm.1 hx).2, (h.slotR x (hm.1 hx).1).2⟩
    inflR := fun x hx r hi => up (h.inflR x hx r hi) fun e => h.slotInfl w hw x hx (e ▸ hi)
    slotInfl := fun x hx => h.slotInfl x (hm.1 hx).1
    cover := fun r (hlo : w.rev < r) hhi => (h.cover r (by omega) hhi).imp_left
      fun ⟨x, hx, e⟩ => ⟨x, hm.2 ⟨hx, by omega⟩, e⟩
    rlRes := fun x hx r fb e => resolved_consume (by omega) (h.rlRes x hx r fb e)
    rpcR := fun r e => ⟨up (h.rpcR r e).1 fun e' => h.rpcSlot w hw (e' ▸ e), (h.rpcR r e).2⟩
    rpcSlot := fun x hx => h.rpcSlot x (hm.1 hx).1 }

theorem SInv.rdeal {v : View} (h : SInv v) (hn : v.rpc = none) : SInv (v.deal.setR (some (v.dealt + 1))) :=
  { h with
    le := Nat.le_succ_of_le h.le
    slotR := fun w hw => (h.slotR w hw).imp_right Nat.le_succ_of_le
    cBegin := fun x hx => Nat.le_succ_of_le (h.cBegin x hx)
    heldR := fun x hx r hr => (h.heldR x hx r hr).imp_right Nat.le_succ_of_le
    cover := fun r hlo hhi => by
      rcases Nat.lt_or_ge v.dealt r with hr | hr
      · exact .inr (.inr (congrArg some (Nat.le_antisymm hr hhi)))
      · exact (h.cover r hlo hr).imp_right (Or.imp_right fun e => by cases hn.symm.trans e)
    rpcR := fun r e => by cases e; exact ⟨Nat.lt_succ_of_le h.le, Nat.le_refl _⟩
    rpcSlot := fun w hw => some_succ_ne (h.slotR w hw).2
    rpcHeld := fun x hx r hr => some_succ_ne (h.heldR x hx r hr).2 }

theorem SInv.rpush {v : View} (h : SInv v) {w : WEvent} (hr : v.rpc = some w.rev) : SInv ((v.push w).setR none) := by
  rw [View.push_of_lt (h.rpcR _ hr).1]
  exact
  { h with
    slotR := forall_mem_snoc h.slotR (h.rpcR _ hr)
    slotInfl := forall_mem_snoc h.slotInfl fun x hx hi => h.rpcInfl x hx _ hi hr
    cover := fun r hlo hhi => by
      rcases h.cover r hlo hhi with ⟨w', hw', e⟩ | hc | hp
      · exact .inl (exists_mem_snoc ⟨w', hw', e⟩)
      · exact .inr (.inl hc)
      · exact .inl ⟨w, List.mem_concat_self, Option.some.inj (hr.symm.trans hp)⟩
    rlRes := fun x hx r fb e => (h.rlRes x hx r fb e).imp_right exists_mem_snoc
    rpcR := fun _ e => nomatch e
    rpcSlot := fun _ _ e => nomatch e
    rpcHeld := fun _ _ _ _ e => nomatch e }

theorem SInv.spawn {v : View} (h : SInv v) {id : Nat} (hid : ∀ c ∈ v.clients, c.id ≠ id) (kind : ReqKind) :
    SInv (v.spawn id kind) :=
  { h with
    idU := forall_mem_snoc (fun c1 h1 => forall_mem_snoc (h.idU c1 h1) fun e => absurd e (hid c1 h1))
      (forall_mem_snoc (fun c2 h2 e => absurd e.symm (hid c2 h2)) fun _ => rfl)
    cBegin := forall_mem_snoc h.cBegin (Nat.le_refl _)
    heldR := forall_mem_snoc h.heldR fun _ e => nomatch e
    inflR := forall_mem_snoc h.inflR fun _ e => nomatch e
    heldU := forall_mem_snoc (fun c1 h1 => forall_mem_snoc (h.heldU c1 h1) fun _ _ e => nomatch e)
      fun _ _ _ e => nomatch e
    slotInfl := fun w hw => forall_mem_snoc (h.slotInfl w hw) fun e => nomatch e
    cover := fun r hlo hhi => (h.cover r hlo hhi).imp_right (Or.imp_left exists_mem_snoc)
    rlRes := forall_mem_snoc h.rlRes fun _ _ e => nomatch e
    rpcHeld := forall_mem_snoc h.rpcHeld fun _ e => nomatch e }

/-! ### Finished requests -/

/-- Invariant of the ghost log of finished requests (relative to `SInv`). -/
structure DInv (v : View) : Prop where
  dR : ∀ d ∈ v.done, d.beginDealt < d.rev ∧ d.rev ≤ d.endDealt ∧ d.endDealt ≤ v.dealt
  dRes : ∀ d ∈ v.done, d.rev ≤ v.committed ∨ ∃ w ∈ v.slots, w.rev = d.rev
  dNodup : (v.done.map (·.rev)).Nodup
  dHeld : ∀ d ∈ v.done, ∀ c ∈ v.clients, c.pc.held ≠ some d.rev
  dRpc : ∀ d ∈ v.done, v.rpc ≠ some d.rev

theorem nodup_map_snoc {α β : Type} (f : α → β) (l : List α) (d : α) :
    ((l ++ [d]).map f).Nodup ↔ (l.map f).Nodup ∧ ∀ x ∈ l, f x ≠ f d := by
  simp only [List.map_append, List.map_cons, List.map_nil, List.nodup_append, List.mem_map,
    List.mem_singleton, List.nodup_cons, List.not_mem_nil, not_false_eq_true, List.nodup_nil,
    and_self, true_and, ne_eq, forall_exists_index, and_imp, forall_apply_eq_imp_iff₂, forall_eq]

theorem DInv.fresh {v : View} (h : DInv v) {d : Done} (hd : d ∈ v.done) : some (v.dealt + 1) ≠ some d.rev :=
  some_succ_ne (Nat.le_trans (h.dR d hd).2.1 (h.dR d hd).2.2)

theorem DInv.dealTo {v : View} (h : DInv v) (c : Client) {pc : Pc} (hp : pc.inflight = some (v.dealt + 1)) :
    DInv (v.deal.setPc c pc) :=
  { h with
    dR := fun d hd => (h.dR d hd).imp_right (And.imp_right Nat.le_succ_of_le)
    dHeld := fun d hd => View.forall_setPc (h.dHeld d hd) (Pc.held_of_inflight hp ▸ h.fresh hd) }

theorem DInv.move {v : View} (h : DInv v) {c : Client} (hc : c ∈ v.clients) {pc : Pc} (hh : pc.held = c.pc.held) :
    DInv (v.setPc c pc) :=
  { h with dHeld := fun d hd => View.forall_setPc (h.dHeld d hd) (hh ▸ h.dHeld d hd c hc) }

theorem DInv.report {v : View} (hs : SInv v) (h : DInv v) {c : Client} (hc : c ∈ v.clients) {w : WEvent}
    (hi : c.pc.inflight = some w.rev) (fb : Option (Bytes × Bytes × Nat)) :
    DInv ((v.push w).setPc c (.readLatest w.rev fb)) := by
  rw [View.push_of_lt (hs.inflR c hc _ hi)]
  exact
  { h with
    dRes := fun d hd => (h.dRes d hd).imp_right exists_mem_snoc
    dHeld := fun d hd => View.forall_setPc (h.dHeld d hd) fun e => h.dHeld d hd c hc (e ▸ Pc.held_of_inflight hi) }

theorem DInv.ret {v : View} (hs : SInv v) (h : DInv v) {c : Client} (hc : c ∈ v.clients) {r : Nat}
    {fb : Option (Bytes × Bytes × Nat)} (hp : c.pc = .readLatest r fb) (res : WriteRes) :
    DInv (v.fin c res r) :=
  have hh : c.pc.held = some r := by rw [hp]; rfl
  { dR := forall_mem_snoc h.dR ⟨(hs.heldR c hc r hh).1, (hs.heldR c hc r hh).2, Nat.le_refl _⟩
    dRes := forall_mem_snoc h.dRes (hs.rlRes c hc r fb hp)
    dNodup := (nodup_map_snoc _ _ _).2 ⟨h.dNodup, fun d hd e => h.dHeld d hd c hc (e ▸ hh)⟩
    dHeld := forall_mem_snoc (fun d hd x hx => h.dHeld d hd x (mem_fin.1 hx).1)
      fun x hx e => (mem_fin.1 hx).2 (congrArg Client.id (hs.heldU x (mem_fin.1 hx).1 c hc r e hh))
    dRpc := forall_mem_snoc h.dRpc (hs.rpcHeld c hc r hh) }

theorem DInv.consume {v : View} (hs : SInv v) (h : DInv v) {w : WEvent} (hw : w ∈ v.slots)
    (hr : w.rev = v.committed + 1) : DInv (v.consume w) := by
  rw [View.consume_of_le (hs.slotR w hw).2]
  exact { h with dRes := fun d hd => resolved_consume (by omega) (h.dRes d hd) }

theorem DInv.rdeal {v : View} (h : DInv v) : DInv (v.deal.setR (some (v.dealt + 1))) :=
  { h with
    dR := fun d hd => (h.dR d hd).imp_right (And.imp_right Nat.le_succ_of_le)
    dRpc := fun _ hd => h.fresh hd }

theorem DInv.rpush {v : View} (hs : SInv v) (h : DInv v) {w : WEvent} (hr : v.rpc = some w.rev) :
    DInv ((v.push w).setR none) := by
  rw [View.push_of_lt (hs.rpcR _ hr).1]
  exact
  { h with
    dRes := fun d hd => (h.dRes d hd).imp_right exists_mem_snoc
    dRpc := fun _ _ e => nomatch e }

theorem DInv.spawn {v : View} (h : DInv v) (id : Nat) (kind : ReqKind) : DInv (v.spawn id kind) :=
  { h with dHeld := fun d hd => forall_mem_snoc (h.dHeld d hd) fun e => nomatch e }

theorem DInv.drop {v : View} (h : DInv v) (c : Client) : DInv (v.drop c) :=
  { h with dHeld := fun d hd x hx => h.dHeld d hd x (mem_fin.1 hx).1 }

/-! ### Predicates closed under the atomic moves -/

structure Closed (P : View → Prop) : Prop where
  dealTo : ∀ {v : View} {c : Client} {pc : Pc}, P v → v.WinOpen → c ∈ v.clients → c.pc.held = none →
    pc.inflight = some (v.dealt + 1) → P (v.deal.setPc c pc)
  move : ∀ {v : View} {c : Client} {pc : Pc}, P v → c ∈ v.clients → pc.inflight = c.pc.inflight →
    pc.held = c.pc.held → (∀ r fb, pc ≠ .readLatest r fb) → P (v.setPc c pc)
  report : ∀ {v : View} {c : Client} {w : WEvent}, P v → c ∈ v.clients → c.pc.inflight = some w.rev →
    ∀ fb, P ((v.push w).setPc c (.readLatest w.rev fb))
  ret : ∀ {v : View} {c : Client} {r : Nat} {fb : Option (Bytes × Bytes × Nat)}, P v → c ∈ v.clients →
    c.pc = .readLatest r fb → ∀ res, P (v.fin c res r)
  consume : ∀ {v : View} {w : WEvent}, P v → w ∈ v.slots → w.rev = v.committed + 1 → P (v.consume w)
  rdeal : ∀ {v : View}, P v → v.WinOpen → v.rpc = none → P (v.deal.setR (some (v.dealt + 1)))
  rpush : ∀ {v : View} {w : WEvent}, P v → v.rpc = some w.rev → P ((v.push w).setR none)
  spawn : ∀ {v : View} {id : Nat}, P v → (∀ c ∈ v.clients, c.id ≠ id) → ∀ kind, P (v.spawn id kind)
  drop : ∀ {v : View} {c : Client}, P v → c ∈ v.clients → c.pc.held = none → P (v.drop c)

theorem SInv.closed : Closed SInv :=
  ⟨fun h _ hc hn hp => h.dealTo hc hn hp,
   fun h hc hi hh hrl => h.move hc hi hh hrl,
   fun h hc hi fb => h.report hc hi fb,
   fun h hc hp res => h.ret hc hp res,
   fun h hw hr => h.consume hw hr,
   fun h _ hn => h.rdeal hn,
   fun h hr => h.rpush hr,
   fun h hid kind => h.spawn hid kind,
   fun h hc hn => h.drop hc (Pc.inflight_none_of_held hn)⟩

def FInv (v : View) : Prop := SInv v ∧ DInv v

theorem FInv.closed : Closed FInv :=
  ⟨fun h _ hc hn hp => ⟨h.1.dealTo hc hn hp, h.2.dealTo _ hp⟩,
   fun h hc hi hh hrl => ⟨h.1.move hc hi hh hrl, h.2.move hc hh⟩,
   fun h hc hi fb => ⟨h.1.report hc hi fb, h.2.report h.1 hc hi fb⟩,
   fun h hc hp res => ⟨h.1.ret hc hp res, h.2.ret h.1 hc hp res⟩,
   fun h hw hr => ⟨h.1.consume hw hr, h.2.consume h.1 hw hr⟩,
   fun h _ hn => ⟨h.1.rdeal hn, h.2.rdeal⟩,
   fun h hr => ⟨h.1.rpush hr, h.2.rpush h.1 hr⟩,
   fun h hid kind => ⟨h.1.spawn hid kind, h.2.spawn _ kind⟩,
   fun h hc hn => ⟨h.1.drop hc (Pc.inflight_none_of_held hn), h.2.drop _⟩⟩

/-! ### The window of the sequencer's ring (/repo 624b477) -/

/-- With the guarded `Deal`, the dealt revision is never a whole ring ahead of the committed one: every dealt,
unresolved revision `r` (`committed < r ≤ dealt`) has `r - committed < ringLen` — `notify` always finds the ring
not full. -/
def WInv (v : View) : Prop := v.unguarded = false ∧ 0 < v.ringLen ∧ v.dealt < v.committed + v.ringLen

theorem WInv.deal {v : View} (h : WInv v) (ho : v.WinOpen) : WInv v.deal :=
  ⟨h.1, h.2.1, by have := ho h.1; have := h.2.1; show v.dealt + 1 < v.committed + v.ringLen; omega⟩

theorem WInv.push {v : View} (h : WInv v) (w : WEvent) : WInv (v.push w) := by
  unfold View.push; split <;> exact h

theorem WInv.closed : Closed WInv where
  dealTo := fun h ho _ _ _ => h.deal ho
  move := fun h _ _ _ _ => h
  report := fun h _ _ _ => h.push _
  ret := fun h _ _ _ => h
  consume := fun {v w} h _ hr =>
    ⟨h.1, h.2.1, by have := h.2.1; have := h.2.2; show max v.dealt w.rev < w.rev + v.ringLen; omega⟩
  rdeal := fun h ho _ => h.deal ho
  rpush := fun h _ => h.push _
  spawn := fun h _ _ => h
  drop := fun h _ _ => h

/-! View algebra -/

theorem View.push_clients (v : View) (w : WEvent) : (v.push w).clients = v.clients := by
  unfold View.push; split <;> rfl

theorem View.setR_push (v : View) (r : Option Nat) (w : WEvent) : (v.setR r).push w = (v.push w).setR r := by
  unfold View.push; split <;> rfl

theorem View.push_setPc (v : View) (c : Client) (pc : Pc) (w : WEvent) :
    (v.setPc c pc).push w = (v.push w).setPc c pc := by
  unfold View.push; split <;> rfl

theorem filter_setPc (l : List Client) (c : Client) (pc : Pc) :
    (l.map (fun x => if x.id == c.id then { c with pc := pc } else x)).filter (·.id != c.id) =
      l.filter (·.id != c.id) := by
  induction l with
  | nil => rfl
  | cons x xs ih =>
    by_cases h : x.id = c.id <;> simp_all

theorem View.fin_setPc (v : View) (c : Client) (pc pc' : Pc) (res : WriteRes) (r : Nat) :
    (v.setPc c pc).fin { c with pc := pc' } res r = v.fin c res r := by
  simp only [View.fin, View.setPc, View.setC, filter_setPc]

theorem View.setPc_setPc (v : View) (c : Client) (pc pc' : Pc) :
    (v.setPc c pc).setPc { c with pc := pc } pc' = v.setPc c pc' := by
  simp only [View.setPc, View.setC, List.map_map]
  congr 1
  apply List.map_congr_left
  intro x _
  by_cases h : x.id = c.id <;> simp [h]

section
variable {P : View → Prop} (H : Closed P)
include H

theorem Closed.reportFin {v : View} {c : Client} {w : WEvent} (hv : P v) (hc : c ∈ v.clients)
    (hi : c.pc.inflight = some w.rev) (res : WriteRes) : P ((v.push w).fin c res w.rev) := by
  have := H.ret (H.report hv hc hi none) (mem_setPc_self ((v.push_clients w).symm ▸ hc) _) rfl res
  rwa [View.fin_setPc] at this

theorem Closed.dealFin {v : View} {c : Client} {w : WEvent} (hv : P v) (ho : v.WinOpen) (hc : c ∈ v.clients)
    (hn : c.pc.held = none) (hr : w.rev = v.dealt + 1) (res : WriteRes) :
    P ((v.deal.push w).fin c res (v.dealt + 1)) := by
  -- the pc in between is arbitrary: any pc in flight with `dealt + 1` would do
  have := H.reportFin (w := w) (H.dealTo (pc := .createCommit (v.dealt + 1)) hv ho hc hn rfl)
    (mem_setPc_self hc _) (congrArg some hr.symm) res
  rwa [View.push_setPc, View.fin_setPc, hr] at this

theorem Closed.dealReport {v : View} {c : Client} {w : WEvent} (hv : P v) (ho : v.WinOpen) (hc : c ∈ v.clients)
    (hn : c.pc.held = none) (hr : w.rev = v.dealt + 1) (fb : Option (Bytes × Bytes × Nat)) :
    P ((v.deal.push w).setPc c (.readLatest (v.dealt + 1) fb)) := by
  have := H.report (w := w) (H.dealTo (pc := .createCommit (v.dealt + 1)) hv ho hc hn rfl)
    (mem_setPc_self hc _) (congrArg some hr.symm) fb
  rwa [View.push_setPc, View.setPc_setPc, hr] at this

end

/-! ### Case analysis of a step -/

section
open Generated

def SysStore.afterCommit (g : G) (r : CommitRes) (st : Store) (f : Fault) (key : Bytes) (rev : Nat) (val : Option Bytes)
    (exp : Expect) : G :=
  if applied r f then G.logWrite { g with store := st } key rev val exp else { g with store := st }

open SysStore

/-- key and value a create-path request writes (exactly the inline `match` of `stepClientCore`) -/
def ReqKind.kv : ReqKind → Bytes × Bytes
  | .create k v => (k, v)
  | .update k v _ => (k, v)
  | .delete k _ => (k, [])

theorem ReqKind.kv_key (k : ReqKind) : k.kv.1 = k.key := by cases k <;> rfl

theorem stepClient_cases' {P : G → Prop} (g : G) (c : Client) (f : Fault)
    (hStartCreate : ∀ key val, c.pc = .start → c.kind = .create key val →
      P (G.setClient { g with dealt := g.dealt + 1 } { c with pc := .createCommit (g.dealt + 1) }))
    (hStartUpdate : ∀ key val exp, c.pc = .start → c.kind = .update key val exp →
      P (if exp == 0 then G.setClient { g with dealt := g.dealt + 1 } { c with pc := .createCommit (g.dealt + 1) }
         else if g.dealt + 1 ≤ exp then
           (G.notify { g with dealt := g.dealt + 1 } (mkW (g.dealt + 1) exp false .put key val)).finish c (.error .drift) (g.dealt + 1)
         else G.setClient { g with dealt := g.dealt + 1 } { c with pc := .updateCommit (g.dealt + 1) }))
    (hCreateCommit : ∀ rev key val r st, c.pc = .createCommit rev → c.kind.kv = (key, val) →
      doCommit g.cfg g.store (createOps key val rev) f = (r, st) →
      P (match r with
         | .conflict idx cv =>
           if idx == some 0 then createSawIndex (afterCommit g r st f key rev (some val) .absent) c key val rev (cv.getD [])
           else (afterCommit g r st f key rev (some val) .absent).setClient { c with pc := .createReread rev }
         | r' => finishCreate (afterCommit g r st f key rev (some val) .absent) c key val rev r'))
    (hCreateReread : ∀ rev key val, c.pc = .createReread rev → c.kind.kv = (key, val) →
      P (match g.store.get (idxKey key) with
         | some old => createSawIndex g c key val rev old
         | none => g.setClient { c with pc := .createRetry rev }))
    (hCreateRetry : ∀ rev key val r st, c.pc = .createRetry rev → c.kind.kv = (key, val) →
      doCommit g.cfg g.store (createOps key val rev) f = (r, st) →
      P (finishCreate (afterCommit g r st f key rev (some val) .absent) c key val rev r))
    (hCreateOver : ∀ rev old att key val r st, c.pc = .createOver rev old att → c.kind.kv = (key, val) →
      doCommit g.cfg g.store [BOp.cas (idxKey key) (be8 rev) old, BOp.put (encode key rev) val] f = (r, st) →
      P (match r with
         | .conflict _ _ => (afterCommit g r st f key rev (some val) .absent).setClient { c with pc := .createRecheck rev att }
         | r' => finishCreate (afterCommit g r st f key rev (some val) .absent) c key val rev r'))
    (hCreateRecheck : ∀ rev att key val, c.pc = .createRecheck rev att → c.kind.kv = (key, val) →
      P (match g.store.get (idxKey key) with
         | some cur =>
           if g.cfg.creatorNoReeval || att ≥ 3 then finishCreate g c key val rev (.conflict none none)
           else createSawIndex g c key val rev cur (att + 1)
         | none => g.setClient { c with pc := .createRetry rev }))
    (hUpdateCommit : ∀ rev key val exp r st, c.pc = .updateCommit rev → c.kind = .update key val exp →
      doCommit g.cfg g.store [BOp.cas (idxKey key) (be8 rev) (be8 exp), BOp.put (encode key rev) val] f = (r, st) →
      P (match r with
         | .ok => ((afterCommit g r st f key rev (some val) (.rev exp)).notify
                    (mkW rev exp (r == .ok) .put key val (r == .uncertain))).finish c (.ok rev) rev
         | .conflict _ _ => ((afterCommit g r st f key rev (some val) (.rev exp)).notify
                    (mkW rev exp (r == .ok) .put key val (r == .uncertain))).setClient { c with pc := .readLatest rev none }
         | r' => ((afterCommit g r st f key rev (some val) (.rev exp)).notify
                    (mkW rev exp (r == .ok) .put key val (r == .uncertain))).finish c (.error (commitErr r')) rev))
    (hStartDelete : ∀ key exp, c.pc = .start → c.kind = .delete key exp →
      P (match bget g.cfg g.store key 0 with
         | .notFound _ => g.setClient { c with pc := .deleteDeal none }
         | .found v m => g.setClient { c with pc := .deleteDeal (some (v, m)) }))
    (hDeleteDealNone : ∀ key exp, c.pc = .deleteDeal none → c.kind = .delete key exp →
      P ((G.notify { g with dealt := g.dealt + 1 } (mkW (g.dealt + 1) 0 false .delete key [])).finish c
          (.notFound (g.dealt + 1)) (g.dealt + 1)))
    (hDeleteDealSome : ∀ oldVal modRev key exp, c.pc = .deleteDeal (some (oldVal, modRev)) → c.kind = .delete key exp →
      P (if exp > 0 && g.dealt + 1 ≤ exp then
           (G.notify { g with dealt := g.dealt + 1 } (mkW (g.dealt + 1) modRev false .delete key oldVal)).finish c (.error .drift) (g.dealt + 1)
         else if exp > 0 && exp != modRev then
           (G.notify { g with dealt := g.dealt + 1 } (mkW (g.dealt + 1) modRev false .delete key oldVal)).setClient
             { c with pc := .readLatest (g.dealt + 1) (some (key, oldVal, modRev)) }
         else if g.dealt + 1 ≤ modRev then
           (G.notify { g with dealt := g.dealt + 1 } (mkW (g.dealt + 1) modRev false .delete key oldVal)).finish c (.error .other) (g.dealt + 1)
         else G.setClient { g with dealt := g.dealt + 1 } { c with pc := .deleteCommit (g.dealt + 1) oldVal modRev }))
    (hDeleteCommit : ∀ rev oldVal modRev key exp r st, c.pc = .deleteCommit rev oldVal modRev → c.kind = .delete key exp →
      doCommit g.cfg g.store [BOp.cas (idxKey key) (be8 rev ++ [0]) (be8 modRev), BOp.put (encode key rev) tombstone] f = (r, st) →
      P (match r with
         | .ok => ((afterCommit g r st f key rev none (.rev modRev)).notify
                    (mkW rev modRev (r == .ok) .delete key oldVal (r == .uncertain))).finish c (.ok rev) rev
         | .conflict _ _ => ((afterCommit g r st f key rev none (.rev modRev)).notify
                    (mkW rev modRev (r == .ok) .delete key oldVal (r == .uncertain))).setClient
                      { c with pc := .readLatest rev (some (key, oldVal, modRev)) }
         | r' => ((afterCommit g r st f key rev none (.rev modRev)).notify
                    (mkW rev modRev (r == .ok) .delete key oldVal (r == .uncertain))).finish c (.error (commitErr r')) rev))
    (hReadLatest : ∀ rev fb, c.pc = .readLatest rev fb →
      P (match bget g.cfg g.store c.kind.key 0 with
         | .found v m => g.finish c (.condFailed (max rev m) (some (c.kind.key, v, m))) rev
         | .notFound _ => g.finish c (.condFailed rev fb) rev))
    (hNop : P g)
    (hRefuse : dealSite c = true → g.windowFull = true → P (g.refuse c (refusal c))) : P (stepClient g c f) := by
  unfold stepClient
  split
  · rename_i h
    simp only [Bool.and_eq_true] at h
    exact hRefuse h.1 h.2
  clear hRefuse
  unfold stepClientCore
  -- on the create path a second `split` names the pair the inline match on the kind yields; the pair a commit
  -- returns is matched by reduction
  split
  · exact hStartCreate _ _ ‹_› ‹_›
  · exact hStartUpdate _ _ _ ‹_› ‹_›
  · split
    next key val hkv => exact hCreateCommit _ key val _ _ ‹_› hkv rfl
  · split
    next key val hkv => exact hCreateReread _ key val ‹_› hkv
  · split
    next key val hkv => exact hCreateRetry _ key val _ _ ‹_› hkv rfl
  · split
    next key val hkv => exact hCreateOver _ _ _ key val _ _ ‹_› hkv rfl
  · split
    next key val hkv => exact hCreateRecheck _ _ key val ‹_› hkv
  · exact hUpdateCommit _ _ _ _ _ _ ‹_› ‹_› rfl
  · exact hStartDelete _ _ ‹_› ‹_›
  · exact hDeleteDealNone _ _ ‹_› ‹_›
  · exact hDeleteDealSome _ _ _ _ ‹_› ‹_›
  · exact hDeleteCommit _ _ _ _ _ _ _ ‹_› ‹_› rfl
  · exact hReadLatest _ _ ‹_›
  · exact hNop

theorem SysStore.act_cases {P : G → Prop} (g : G) (a : Action) (hnop : P g)
    (hbegin : ∀ id kind, a = .begin id kind → (∀ x ∈ g.clients, x.id ≠ id) →
      P { g with clients := g.clients ++ [{ id := id, kind := kind, pc := .start, beginDealt := g.dealt }],
                 begins := (id, g.wlog.length) :: g.begins })
    (hstep : ∀ c f, c ∈ g.clients → P (stepClient g c f))
    (hseq : P (stepSeq g)) (hretry : ∀ f, P (stepRetry g f)) (hread : P (stepRetryRead g))
    (hcommit : ∀ f, P (stepRetryCommit g f)) : P (act g a) := by
  cases a with
  | begin id kind =>
    unfold KB.act; simp only []
    split
    · exact hnop
    · rename_i hfree
      refine hbegin id kind rfl fun x hx e => hfree ?_
      simp only [G.client, List.find?_isSome]
      exact ⟨x, hx, by simp [e]⟩
  | step id f =>
    unfold KB.act; simp only []
    split
    · exact hnop
    · rename_i c hfind
      exact hstep c f (List.mem_of_find?_eq_some hfind)
  | seq => exact hseq
  | retry f => exact hretry f
  | retryRead => exact hread
  | retryCommit f => exact hcommit f

end

/-! ### Matching the steps of `KB.Sys` to the atomic moves -/

theorem view_setClient (g : G) (c : Client) : (g.setClient c).view = g.view.setC c := rfl
theorem view_notify (g : G) (w : WEvent) : (g.notify w).view = g.view.push w := by
  unfold G.notify View.push; split <;> rfl
theorem view_finish (g : G) (c : Client) (res : WriteRes) (rev : Nat) :
    (g.finish c res rev).view = g.view.fin c res rev := rfl
theorem view_ite_log (b : Prop) [Decidable b] (g : G) (k : Bytes) (r : Nat) (v : Option Bytes) (e : Expect) :
    (if b then g.logWrite k r v e else g).view = g.view := by
  split <;> rfl

theorem view_afterCommit (g : G) (r : CommitRes) (st : Store) (f : Fault) (key : Bytes) (rev : Nat) (val : Option Bytes)
    (exp : Expect) : (SysStore.afterCommit g r st f key rev val exp).view = g.view := by
  unfold SysStore.afterCommit; split <;> rfl

theorem held_none_of_dealSite {c : Client} (h : dealSite c = true) : c.pc.held = none := by
  unfold dealSite at h
  split at h
  next e _ => rw [e]; rfl
  next e _ => rw [e]; rfl
  next e _ => rw [e]; rfl
  · cases h

theorem winOpen_of_not_full {g : G} (h : g.windowFull = false) : g.view.WinOpen := by
  intro hu
  have hu' : g.cfg.dealUnguarded = false := hu
  simp only [G.windowFull, windowFullAt, hu', Bool.not_false, Bool.true_and, decide_eq_false_iff_not, Nat.not_le] at h
  exact h

theorem view_refuse (g : G) (c : Client) (res : WriteRes) : (g.refuse c res).view = g.view.drop c := rfl

theorem view_stepSeq (g : G) : ((stepSeq g).view = g.view ∧ ∀ w ∈ g.slots, w.rev ≠ g.committed + 1) ∨
    ∃ w ∈ g.slots, w.rev = g.committed + 1 ∧ (stepSeq g).view = g.view.consume w := by
  unfold stepSeq
  split
  · next h => exact .inl ⟨rfl, fun w hw e => by simpa [e] using List.find?_eq_none.1 h w hw⟩
  · next w h => exact .inr ⟨w, List.mem_of_find?_eq_some h, by simpa using List.find?_some h, rfl⟩

section
variable {P : View → Prop} (H : Closed P)
include H

theorem finishCreate_P {g g' : G} {c : Client} {rev : Nat} (e : g'.view = g.view) (hv : P g.view)
    (hc : c ∈ g.view.clients) (hi : c.pc.inflight = some rev) {key val : Bytes} {r : CommitRes} :
    P (finishCreate g' c key val rev r).view := by
  rw [← e] at hv hc
  unfold finishCreate
  split
  · rw [view_finish, view_notify]; exact H.reportFin hv hc hi _
  · split
    · rw [view_setClient, view_notify]; exact H.report hv hc hi _
    · rw [view_finish, view_notify]; exact H.reportFin hv hc hi _
  · rw [view_finish, view_notify]; exact H.reportFin hv hc hi _

theorem createSawIndex_P {g g' : G} {c : Client} {rev : Nat} (e : g'.view = g.view) (hv : P g.view)
    (hc : c ∈ g.view.clients) (hi : c.pc.inflight = some rev) (hh : c.pc.held = some rev) {key val old : Bytes}
    {att : Nat} : P (createSawIndex g' c key val rev old att).view := by
  unfold createSawIndex
  split
  · exact finishCreate_P H e hv hc hi
  · split
    · rw [view_setClient, e]
      exact H.move hv hc hi.symm hh.symm nofun
    · exact finishCreate_P H e hv hc hi

theorem stepClient_P {g : G} {c : Client} (f : Fault) (hv : P g.view) (hc : c ∈ g.view.clients) :
    P (stepClient g c f).view := by
  by_cases hfull : (dealSite c && g.windowFull) = true
  · rw [show stepClient g c f = g.refuse c (refusal c) from if_pos hfull, view_refuse]
    exact H.drop hv hc (held_none_of_dealSite (Bool.and_eq_true _ _ ▸ hfull).1)
  have ho : dealSite c = true → g.view.WinOpen := fun hd => winOpen_of_not_full (by simpa [hd] using hfull)
  have hac := view_afterCommit g
  have ite : ∀ {b : Prop} [Decidable b] {x y : G}, (b → P x.view) → (¬b → P y.view) → P (if b then x else y).view :=
    iteInduction (motive := fun g' : G => P g'.view)
  apply stepClient_cases' (P := fun g' => P g'.view)
  case hStartCreate =>
    intro key val hpc hk
    exact H.dealTo hv (ho (by unfold dealSite; rw [hpc, hk])) hc (congrArg Pc.held hpc) rfl
  case hStartUpdate =>
    intro key val exp hpc hk
    have hn : c.pc.held = none := congrArg Pc.held hpc
    have hw := ho (by unfold dealSite; rw [hpc, hk])
    refine ite (fun _ => H.dealTo (pc := .createCommit (g.dealt + 1)) hv hw hc hn rfl)
      fun _ => ite (fun _ => ?_) fun _ => H.dealTo (pc := .updateCommit (g.dealt + 1)) hv hw hc hn rfl
    rw [view_finish, view_notify]; exact H.dealFin hv hw hc hn rfl _
  case hCreateCommit =>
    intro rev key val r st hpc _ _
    have hi : c.pc.inflight = some rev := congrArg Pc.inflight hpc
    split
    · refine ite (fun _ => createSawIndex_P H (hac ..) hv hc hi (Pc.held_of_inflight hi)) fun _ => ?_
      rw [view_setClient, hac]
      exact H.move (pc := .createReread rev) hv hc hi.symm (Pc.held_of_inflight hi).symm nofun
    · exact finishCreate_P H (hac ..) hv hc hi
  case hCreateReread =>
    intro rev key val hpc _
    have hi : c.pc.inflight = some rev := congrArg Pc.inflight hpc
    split
    · exact createSawIndex_P H rfl hv hc hi (Pc.held_of_inflight hi)
    · exact H.move (pc := .createRetry rev) hv hc hi.symm (Pc.held_of_inflight hi).symm nofun
  case hCreateRetry =>
    intro rev key val r st hpc _ _
    exact finishCreate_P H (hac ..) hv hc (congrArg Pc.inflight hpc)
  case hCreateOver =>
    intro rev old att key val r st hpc _ _
    have hi : c.pc.inflight = some rev := congrArg Pc.inflight hpc
    split
    · rw [view_setClient, hac]
      exact H.move (pc := .createRecheck rev att) hv hc hi.symm (Pc.held_of_inflight hi).symm nofun
    · exact finishCreate_P H (hac ..) hv hc hi
  case hCreateRecheck =>
    intro rev att key val hpc _
    have hi : c.pc.inflight = some rev := congrArg Pc.inflight hpc
    split
    · exact ite (fun _ => finishCreate_P H rfl hv hc hi) fun _ =>
        createSawIndex_P H rfl hv hc hi (Pc.held_of_inflight hi)
    · exact H.move (pc := .createRetry rev) hv hc hi.symm (Pc.held_of_inflight hi).symm nofun
  case hUpdateCommit =>
    intro rev key val exp r st hpc _ _
    have hi : c.pc.inflight = some rev := congrArg Pc.inflight hpc
    split <;> simp only [view_finish, view_notify, view_setClient, hac]
    · exact H.reportFin hv hc hi _
    · exact H.report hv hc hi _
    · exact H.reportFin hv hc hi _
  case hStartDelete =>
    intro key exp hpc _
    split <;> exact H.move hv hc (congrArg Pc.inflight hpc).symm (congrArg Pc.held hpc).symm nofun
  case hDeleteDealNone =>
    intro key exp hpc hk
    rw [view_finish, view_notify]
    exact H.dealFin hv (ho (by unfold dealSite; rw [hpc, hk])) hc (congrArg Pc.held hpc) rfl _
  case hDeleteDealSome =>
    intro oldVal modRev key exp hpc hk
    have hn : c.pc.held = none := congrArg Pc.held hpc
    have hw := ho (by unfold dealSite; rw [hpc, hk])
    refine ite (fun _ => ?_) fun _ => ite (fun _ => ?_) fun _ =>
      ite (fun _ => ?_) fun _ => H.dealTo (pc := .deleteCommit (g.dealt + 1) oldVal modRev) hv hw hc hn rfl
    · rw [view_finish, view_notify]; exact H.dealFin hv hw hc hn rfl _
    · rw [view_setClient, view_notify]; exact H.dealReport hv hw hc hn rfl _
    · rw [view_finish, view_notify]; exact H.dealFin hv hw hc hn rfl _
  case hDeleteCommit =>
    intro rev oldVal modRev key exp r st hpc _ _
    have hi : c.pc.inflight = some rev := congrArg Pc.inflight hpc
    split <;> simp only [view_finish, view_notify, view_setClient, hac]
    · exact H.reportFin hv hc hi _
    · exact H.report hv hc hi _
    · exact H.reportFin hv hc hi _
  case hReadLatest =>
    intro rev fb hpc
    split <;> exact H.ret hv hc hpc _
  case hNop => exact hv
  case hRefuse =>
    intro hd hw
    exact absurd (by rw [hd, hw]; rfl) hfull

theorem stepSeq_P {g : G} (hv : P g.view) : P (stepSeq g).view := by
  rcases view_stepSeq g with ⟨e, _⟩ | ⟨w, hw, hr, e⟩ <;> rw [e]
  · exact hv
  · exact H.consume hv hw hr

theorem stepRetryRead_P {g : G} (hv : P g.view) : P (stepRetryRead g).view := by
  unfold stepRetryRead
  split
  · exact hv
  · rename_i hn
    split
    · exact hv
    · split
      · exact hv
      · split
        · exact hv
        · split
          · exact hv
          · rename_i hw
            exact H.rdeal hv (winOpen_of_not_full (by simpa using hw)) (by simp [G.view, hn])

theorem stepRetryCommit_P {g : G} (f : Fault) (hv : P g.view) : P (stepRetryCommit g f).view := by
  unfold stepRetryCommit
  split
  · exact hv
  · rename_i p hp
    simp only [view_notify, view_ite_log]
    show P ((g.view.setR none).push _)
    rw [View.setR_push]
    exact H.rpush hv (by simp [G.view, hp])

theorem act_P {g : G} (a : Action) (hv : P g.view) : P (act g a).view :=
  SysStore.act_cases (P := fun g' => P g'.view) g a hv (fun _ kind _ hid => H.spawn hv hid kind)
    (fun _ f hc => stepClient_P H f hv hc) (stepSeq_P H hv) (fun f => stepRetryCommit_P H f (stepRetryRead_P H hv)) (stepRetryRead_P H hv)
    (fun f => stepRetryCommit_P H f hv)

theorem run_P {g : G} (sched : List Action) (hv : P g.view) : P (run g sched).view := by
  induction sched generalizing g with
  | nil => exact hv
  | cons a as ih => exact ih (act_P H a hv)

theorem Reachable.closed {g0 g : G} (hr : Reachable g0 g) (hv : P g0.view) : P g.view := by
  obtain ⟨sched, rfl⟩ := hr
  exact run_P H sched hv

end

theorem SInv.init {g : G} (h1 : g.committed = g.dealt) (h2 : g.slots = []) (h3 : g.clients = [])
    (h4 : g.retryPc = none) : SInv g.view := by
  constructor <;> simp [G.view, h1, h2, h3, h4]

theorem DInv.init {g : G} (h : g.done = []) : DInv g.view := by
  constructor <;> simp [G.view, h]

theorem Reachable.step {g0 g : G} (hr : Reachable g0 g) (a : Action) : Reachable g0 (act g a) := by
  obtain ⟨sched, rfl⟩ := hr
  exact ⟨sched ++ [a], by simp [run, List.foldl_append]⟩

end KB
