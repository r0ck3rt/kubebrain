/- The worker loop with expiry (`KB.passLoop`) on a sorted store, as a fold of one step (`passStep`) over the records.
Every step only removes, and only keys of the raw key under the iterator (`passStep_get`), so the records of one raw key
`k` — a contiguous block of the sorted store (`key_block`) — are touched while the loop is inside that block only, and
there the worker remembers nothing about `k` yet (`AtBlock`). Three results, under every failure mask unless said
otherwise: a key the ttl pass has to spare (`SparedIn`) goes through the ordinary compaction rules alone (`spared_key`);
an expired Event goes as a whole when every call succeeds (`expired_key_removed`), and as a whole or not at all whatever
the calls answer (`pass_all_or_nothing`: the expiry batch of /repo 74218cc). Used by C07Expire / C07Atomic. -/
import KB.Lemmas.Compact
import KB.Lemmas.Expire
namespace KB.ExpirePass
open KB KB.Compact

/-! ### the ordinary rules (`workerStep`) for any configuration -/

theorem workerStep_ccfg {c : WCfg} (hc : c.compact = true) (p : Prev) (r : Rec) :
    workerStep c p r = workerStep (ccfg c.R) p r := by
  simp only [workerStep, hc]

theorem workerStep_snd_cases (c : WCfg) (p : Prev) (r : Rec) :
    (workerStep c p r).2 = p ∨ (workerStep c p r).2 = ⟨r.key, r.rev, r.val⟩ := by
  rcases workerStep_cases c p r with e | e | e | e <;> rw [e]
  · exact .inl rfl
  · exact .inl rfl
  · exact .inr rfl
  · exact .inr rfl

/-- the raw key a delete call is made for (`isSkippedRawKey` / `updateSkippedRawKey`) -/
def actRaw : Act → Option Bytes
  | .del _ raw => some raw
  | .delcur _ _ raw => some raw
  | .expire _ _ _ raw => some raw
  | _ => none

/-- the call `a` is made at the record `r` with `p` remembered as `prev`: for `r`'s raw key, on `r` itself or on the previous
version of that key -/
def ActFor (p : Prev) (r : Rec) (a : Act) : Prop :=
  (∀ raw, actRaw a = some raw → raw = r.key) ∧
  (∀ b, actTarget a = some b → b = r.ik ∨ (b = encode r.key p.rev ∧ 0 < p.rev))

theorem actFor_del (p : Prev) (r : Rec) : ActFor p r (.del r.ik r.key) :=
  ⟨fun _ h => (Option.some.inj h).symm, fun _ h => .inl (Option.some.inj h).symm⟩

theorem workerStep_act (c : WCfg) (p : Prev) (r : Rec) {a : Act} (ha : a ∈ (workerStep c p r).1) : ActFor p r a := by
  rcases workerStep_acts c p r ha with h | ⟨rfl, hkey, hpos⟩ | rfl | rfl
  · rw [eq_of_mem_emitPrev h]; exact ⟨nofun, nofun⟩
  · exact ⟨fun _ h => hkey ▸ (Option.some.inj h).symm, fun _ h => .inr ⟨hkey ▸ (Option.some.inj h).symm, hpos⟩⟩
  · exact actFor_del p r
  · exact ⟨fun _ h => (Option.some.inj h).symm, fun _ h => .inl (Option.some.inj h).symm⟩

/-! ### `runDelete` / `runDeletes`: what they can change -/

theorem runDelete_lastFailed (mask : Nat → DelOutcome) (st : CompState) (a : Act) :
    (runDelete mask st a).lastFailed = st.lastFailed ∨ actRaw a = some (runDelete mask st a).lastFailed := by
  cases a with
  | emit k v r => exact .inl rfl
  | panic => exact .inl rfl
  | expire ik v vers raw => exact .inl rfl
  | del ik raw =>
    simp only [runDelete]
    split
    · exact .inl rfl
    · split
      · exact .inl rfl
      · exact .inr rfl
      · exact .inr rfl
  | delcur ik v raw =>
    simp only [runDelete]
    split
    · exact .inl rfl
    · split
      · split <;> exact .inl rfl
      · exact .inr rfl
      · exact .inl rfl

theorem runDeletes_lastFailed (mask : Nat → DelOutcome) (acts : List Act) (st : CompState) :
    (runDeletes mask st acts).lastFailed = st.lastFailed ∨
      ∃ a ∈ acts, actRaw a = some (runDeletes mask st acts).lastFailed := by
  induction acts generalizing st with
  | nil => exact .inl rfl
  | cons a l ih =>
    rw [runDeletes_cons]
    rcases ih (runDelete mask st a) with h | ⟨a', ha', h⟩
    · rcases runDelete_lastFailed mask st a with h' | h'
      · exact .inl (h.trans h')
      · exact .inr ⟨a, by simp, by rw [h]; exact h'⟩
    · exact .inr ⟨a', List.mem_cons_of_mem _ ha', h⟩

/-! ### erasing a list of keys: what the expiry batch does to the store -/

theorem eraseAll_sorted (l : List Bytes) {s : Store} (h : Store.Sorted s) : Store.Sorted (l.foldl Store.erase s) := by
  induction l generalizing s with
  | nil => exact h
  | cons x xs ih => exact ih (KB.Store.erase_sorted _ h x)

theorem eraseAll_get (l : List Bytes) {s : Store} (h : Store.Sorted s) (b : Bytes) :
    (l.foldl Store.erase s).get b = if b ∈ l then none else s.get b := by
  induction l generalizing s with
  | nil => simp
  | cons x xs ih =>
    simp only [List.foldl_cons, List.mem_cons]
    rw [ih (KB.Store.erase_sorted _ h x), KB.Store.get_erase _ h]
    by_cases h1 : b ∈ xs
    · simp [h1]
    · by_cases h2 : b = x
      · simp [h2]
      · simp [h1, h2]

theorem runExpire_store (mask : Nat → DelOutcome) (st : CompState) (ik v : Bytes) (vers : List Bytes) (raw : Bytes) :
    (runExpire mask st ik v vers raw).store = st.store ∨
      (runExpire mask st ik v vers raw).store = (ik :: vers).foldl Store.erase st.store := by
  rcases runExpire_cases mask st ik v vers raw with ⟨_, e, _⟩ | ⟨_, _, _, _, e, _⟩ | ⟨_, _, e, _⟩
  · exact .inl (by rw [e])
  · exact .inr e
  · exact .inl e

theorem runExpire_sorted (mask : Nat → DelOutcome) (st : CompState) (ik v : Bytes) (vers : List Bytes) (raw : Bytes)
    (h : Store.Sorted st.store) : Store.Sorted (runExpire mask st ik v vers raw).store := by
  rcases runExpire_store mask st ik v vers raw with e | e
  · rw [e]; exact h
  · rw [e]; exact eraseAll_sorted _ h

theorem runExpire_get (mask : Nat → DelOutcome) (st : CompState) (ik v : Bytes) (vers : List Bytes) (raw : Bytes)
    (h : Store.Sorted st.store) (b : Bytes) :
    (runExpire mask st ik v vers raw).store.get b = st.store.get b ∨
      ((runExpire mask st ik v vers raw).store.get b = none ∧ b ∈ ik :: vers) := by
  rcases runExpire_store mask st ik v vers raw with e | e
  · exact .inl (by rw [e])
  · rw [e, eraseAll_get _ h]
    by_cases hb : b ∈ ik :: vers
    · exact .inr ⟨if_pos hb, hb⟩
    · exact .inl (if_neg hb)

theorem runExpire_lastFailed (mask : Nat → DelOutcome) (st : CompState) (ik v : Bytes) (vers : List Bytes)
    (raw : Bytes) :
    (runExpire mask st ik v vers raw).lastFailed = st.lastFailed ∨ (runExpire mask st ik v vers raw).lastFailed = raw := by
  rcases runExpire_cases mask st ik v vers raw with ⟨_, e, _⟩ | ⟨_, _, _, _, _, e, _⟩ | ⟨_, _, _, e, _⟩
  · exact .inl (by rw [e])
  · exact .inl e
  · exact e

theorem runExpire_ok {mask : Nat → DelOutcome} {st : CompState} {ik v raw : Bytes} (vers : List Bytes)
    (hsk : skipped st raw = false) (hm : mask st.calls = .ok) (hg : st.store.get ik = some v) :
    (runExpire mask st ik v vers raw).store = (ik :: vers).foldl Store.erase st.store := by
  rcases runExpire_cases mask st ik v vers raw with ⟨h, _⟩ | ⟨_, _, _, _, h, _⟩ | ⟨_, h, _⟩
  · rw [hsk] at h; cases h
  · exact h
  · unfold skipped at hsk
    unfold expireErr at h
    rw [hsk, hm, hg] at h
    simp at h

theorem runDelete_del_ok {mask : Nat → DelOutcome} {st : CompState} {raw : Bytes} (ik : Bytes)
    (hsk : skipped st raw = false) (hm : mask st.calls = .ok) :
    runDelete mask st (.del ik raw) =
      { st with store := st.store.erase ik, calls := st.calls + 1, trace := st.trace ++ [.del ik] } := by
  unfold skipped at hsk
  simp only [runDelete, hsk, hm]
  rfl

theorem runDelete_delcur_cases (mask : Nat → DelOutcome) (st : CompState) (ik v : Bytes) {raw : Bytes}
    (hraw : raw ≠ []) :
    (st.lastFailed = raw ∧ runDelete mask st (.delcur ik v raw) = st ∧ delcurErr mask st ik v raw = false) ∨
    (st.lastFailed ≠ raw ∧ delcurErr mask st ik v raw = false ∧
        (runDelete mask st (.delcur ik v raw)).store = st.store.erase ik) ∨
    (st.lastFailed ≠ raw ∧ delcurErr mask st ik v raw = true ∧
        (runDelete mask st (.delcur ik v raw)).store = st.store) := by
  cases hsk : skipped st raw with
  | true =>
    unfold skipped at hsk
    exact .inl ⟨(skipped_iff.1 hsk).2, if_pos hsk, by simp only [delcurErr, hsk]; rfl⟩
  | false =>
    have h : st.lastFailed ≠ raw := fun h => by
      rw [← Bool.not_eq_true, skipped_iff] at hsk
      exact hsk ⟨h ▸ hraw, h⟩
    unfold skipped at hsk
    simp only [runDelete, delcurErr, hsk]
    right
    cases mask st.calls with
    | ok =>
      by_cases hg : st.store.get ik = some v
      · exact .inl ⟨h, by simp [hg], by rw [if_pos hg]; rfl⟩
      · exact .inr ⟨h, by simp [hg], by rw [if_neg hg]; rfl⟩
    | fail => exact .inr ⟨h, rfl, rfl⟩
    | failCas => exact .inr ⟨h, rfl, rfl⟩
/-! ### one iteration of the loop (`passStep`) -/

section step
variable {c : WCfg} {mask : Nat → DelOutcome} {snap : List Rec} {s : Loop} {r : Rec}

theorem passStep_st (c : WCfg) (mask : Nat → DelOutcome) (snap : List Rec) (s : Loop) (r : Rec) :
    (passStep c mask snap s r).st = runExpire mask s.st r.ik r.val (versionsOf r.key snap) r.key ∨
    ∃ acts, (passStep c mask snap s r).st = runDeletes mask s.st acts ∧ ∀ a ∈ acts, ActFor s.p r a := by
  unfold passStep
  split
  · exact .inr ⟨[], rfl, List.forall_mem_nil _⟩
  · exact .inr ⟨[], rfl, List.forall_mem_nil _⟩
  · exact .inl rfl
  · exact .inr ⟨[.del r.ik r.key], rfl, fun a ha => List.mem_singleton.1 ha ▸ actFor_del s.p r⟩
  · exact .inr ⟨_, rfl, fun _ ha => workerStep_act c s.p r ha⟩
  · exact .inr ⟨_, rfl, fun _ ha => workerStep_act c s.p r ha⟩

theorem passStep_get (c : WCfg) (mask : Nat → DelOutcome) (snap : List Rec) (s : Loop) (r : Rec)
    (hso : Store.Sorted s.st.store) (b : Bytes) :
    (passStep c mask snap s r).st.store.get b = s.st.store.get b ∨
    ((passStep c mask snap s r).st.store.get b = none ∧
      (b = r.ik ∨ (b = encode r.key s.p.rev ∧ 0 < s.p.rev) ∨ b ∈ versionsOf r.key snap)) := by
  rcases passStep_st c mask snap s r with e | ⟨acts, e, hacts⟩ <;> rw [e]
  · rcases runExpire_get mask s.st r.ik r.val (versionsOf r.key snap) r.key hso b with h | ⟨h, hb⟩
    · exact .inl h
    · exact .inr ⟨h, (List.mem_cons.1 hb).imp id .inr⟩
  · rcases runDeletes_get mask acts s.st hso b with h | ⟨h, a, ha, ht⟩
    · exact .inl h
    · exact .inr ⟨h, ((hacts a ha).2 b ht).imp id .inl⟩

theorem passStep_sorted (c : WCfg) (mask : Nat → DelOutcome) (snap : List Rec) (s : Loop) (r : Rec)
    (hso : Store.Sorted s.st.store) : Store.Sorted (passStep c mask snap s r).st.store := by
  rcases passStep_st c mask snap s r with e | ⟨acts, e, _⟩ <;> rw [e]
  · exact runExpire_sorted mask s.st _ _ _ _ hso
  · exact runDeletes_sorted mask acts s.st hso

theorem passStep_remembers (c : WCfg) (mask : Nat → DelOutcome) (snap : List Rec) (s : Loop) (r : Rec) :
    ((passStep c mask snap s r).p = s.p ∨ (passStep c mask snap s r).p = ⟨r.key, r.rev, r.val⟩) ∧
    ((passStep c mask snap s r).live = s.live ∨ (passStep c mask snap s r).live = r.key) ∧
    ((passStep c mask snap s r).gone = s.gone ∨ (passStep c mask snap s r).gone = r.key) := by
  unfold passStep
  split
  · exact ⟨.inl rfl, .inl rfl, .inl rfl⟩
  · exact ⟨.inl rfl, .inl rfl, .inl rfl⟩
  · refine ⟨.inl rfl, ?_, ?_⟩
    · split
      · exact .inr rfl
      · exact .inl rfl
    · split
      · exact .inl rfl
      · exact .inr rfl
  · exact ⟨.inl rfl, .inl rfl, .inl rfl⟩
  · exact ⟨workerStep_snd_cases c s.p r, .inr rfl, .inl rfl⟩
  · exact ⟨workerStep_snd_cases c s.p r, .inl rfl, .inl rfl⟩

theorem passStep_lastFailed (c : WCfg) (mask : Nat → DelOutcome) (snap : List Rec) (s : Loop) (r : Rec) :
    (passStep c mask snap s r).st.lastFailed = s.st.lastFailed ∨ (passStep c mask snap s r).st.lastFailed = r.key := by
  rcases passStep_st c mask snap s r with e | ⟨acts, e, hacts⟩ <;> rw [e]
  · exact runExpire_lastFailed mask s.st _ _ _ _
  · rcases runDeletes_lastFailed mask acts s.st with h | ⟨a, ha, h⟩
    · exact .inl h
    · exact .inr ((hacts a ha).1 _ h)

end step

/-! ### the whole loop over records of a sorted, well-keyed store (its own snapshot) -/

theorem foldl_cases {σ α β : Type} (f : σ → α → σ) (g : σ → β) (v : α → β)
    (h : ∀ s a, g (f s a) = g s ∨ g (f s a) = v a) (l : List α) (s : σ) :
    g (l.foldl f s) = g s ∨ ∃ a ∈ l, g (l.foldl f s) = v a :=
  List.foldlRecOn (motive := fun x => g x = g s ∨ ∃ a ∈ l, g x = v a) l f (.inl rfl) fun x hx a ha =>
    (h x a).elim (fun e => by rw [e]; exact hx) fun e => .inr ⟨a, ha, e⟩

section fold
variable {recs : List Rec} {c : WCfg} {mask : Nat → DelOutcome} {snap : List Rec}

theorem passStep_wf {s : Loop} {r : Rec} (h : s.WF) (hr : r.rev < 2 ^ 64) : (passStep c mask snap s r).WF := by
  refine ⟨passStep_sorted c mask snap s r h.so, ?_⟩
  rcases (passStep_remembers c mask snap s r).1 with e | e <;> rw [e]
  · exact h.p64
  · exact hr

theorem fold_wf (l : List Rec) (s : Loop) (h : s.WF) (hl : ∀ r ∈ l, r.rev < 2 ^ 64) :
    (l.foldl (passStep c mask snap) s).WF :=
  List.foldlRecOn l _ h fun _ hx r hr => passStep_wf hx (hl r hr)

theorem fold_remembers (l : List Rec) (s : Loop) :
    ((l.foldl (passStep c mask snap) s).p = s.p ∨
      ∃ r ∈ l, (l.foldl (passStep c mask snap) s).p = ⟨r.key, r.rev, r.val⟩) ∧
    ((l.foldl (passStep c mask snap) s).live = s.live ∨ ∃ r ∈ l, (l.foldl (passStep c mask snap) s).live = r.key) ∧
    ((l.foldl (passStep c mask snap) s).gone = s.gone ∨ ∃ r ∈ l, (l.foldl (passStep c mask snap) s).gone = r.key) ∧
    ((l.foldl (passStep c mask snap) s).st.lastFailed = s.st.lastFailed ∨
      ∃ r ∈ l, (l.foldl (passStep c mask snap) s).st.lastFailed = r.key) :=
  ⟨foldl_cases _ (·.p) (fun r => ⟨r.key, r.rev, r.val⟩) (fun s r => (passStep_remembers c mask snap s r).1) l s,
    foldl_cases _ (·.live) (·.key) (fun s r => (passStep_remembers c mask snap s r).2.1) l s,
    foldl_cases _ (·.gone) (·.key) (fun s r => (passStep_remembers c mask snap s r).2.2) l s,
    foldl_cases _ (·.st.lastFailed) (·.key) (passStep_lastFailed c mask snap) l s⟩

variable (hw : WellKeyed recs) (hk : ∀ r ∈ recs, Alphabet r.key ∧ r.rev < 2 ^ 64)
include hw hk

theorem fold_get (l : List Rec) (hl : ∀ r ∈ l, r ∈ recs) (s : Loop) (h : s.WF) (b : Bytes) :
    (l.foldl (passStep c mask recs) s).st.store.get b = s.st.store.get b ∨
    ((l.foldl (passStep c mask recs) s).st.store.get b = none ∧ ∃ r ∈ l, ∃ n, n < 2 ^ 64 ∧ b = encode r.key n) := by
  refine (List.foldlRecOn (motive := fun x : Loop => x.WF ∧ (x.st.store.get b = s.st.store.get b ∨
    (x.st.store.get b = none ∧ ∃ r ∈ l, ∃ n, n < 2 ^ 64 ∧ b = encode r.key n))) l _ ⟨h, .inl rfl⟩ ?_).2
  intro x ⟨hwf, hx⟩ r hr
  have hrm := hl r hr
  refine ⟨passStep_wf hwf (hk r hrm).2, ?_⟩
  rcases passStep_get c mask recs x r hwf.so b with h2 | ⟨h2, hb⟩
  · rwa [h2]
  · refine .inr ⟨h2, r, hr, ?_⟩
    rcases hb with e | ⟨e, _⟩ | e
    · exact ⟨r.rev, (hk r hrm).2, e.trans (hw r hrm)⟩
    · exact ⟨x.p.rev, hwf.p64, e⟩
    · obtain ⟨w, hwm, hwk, _, _, e'⟩ := mem_versionsOf.1 e
      exact ⟨w.rev, (hk w hwm).2, by rw [← e', hw w hwm, hwk]⟩

theorem fold_get_none (l : List Rec) (hl : ∀ r ∈ l, r ∈ recs) (s : Loop) (h : s.WF) {b : Bytes}
    (hb : s.st.store.get b = none) : (l.foldl (passStep c mask recs) s).st.store.get b = none := by
  rcases fold_get hw hk l hl s h b with e | e
  · exact e.trans hb
  · exact e.1

theorem fold_frame (l : List Rec) (hl : ∀ r ∈ l, r ∈ recs) (s : Loop) (h : s.WF) {k : Bytes}
    (hkl : ∀ r ∈ l, r.key ≠ k) {n : Nat} (hn : n < 2 ^ 64) :
    (l.foldl (passStep c mask recs) s).st.store.get (encode k n) = s.st.store.get (encode k n) := by
  rcases fold_get hw hk l hl s h (encode k n) with e | ⟨_, r, hr, m, hm, e⟩
  · exact e
  · exact absurd (encode_inj hn hm e).1.symm (hkl r hr)

end fold

/-! ### the records of one raw key: a block of the sorted store -/

theorem key_block {recs : List Rec} (hs : SortedRecs recs) (k : Bytes) :
    ∃ a b c, recs = a ++ (b ++ c) ∧ (∀ x ∈ a, cmp x.key k = .lt) ∧ (∀ x ∈ b, x.key = k) ∧
      (∀ x ∈ c, cmp k x.key = .lt) := by
  induction recs with
  | nil => exact ⟨[], [], [], rfl, List.forall_mem_nil _, List.forall_mem_nil _, List.forall_mem_nil _⟩
  | cons x xs ih =>
    obtain ⟨hx, hs'⟩ := List.pairwise_cons.1 hs
    have hle : ∀ y ∈ xs, cmp x.key y.key = .lt ∨ x.key = y.key := fun y hy => (hx y hy).imp id (·.1)
    obtain ⟨a, b, c, rfl, ha, hb, hc⟩ := ih hs'
    cases hxk : cmp x.key k with
    | lt => exact ⟨x :: a, b, c, rfl, List.forall_mem_cons.2 ⟨hxk, ha⟩, hb, hc⟩
    | eq =>
      have hxk := cmp_eq_iff.1 hxk
      cases a with
      | nil => exact ⟨[], x :: b, c, rfl, List.forall_mem_nil _, List.forall_mem_cons.2 ⟨hxk, hb⟩, hc⟩
      | cons y a =>
        exfalso
        have hy := ha y List.mem_cons_self
        rcases hle y (by simp) with h | h
        · exact cmp_lt_irrefl (cmp_lt_trans (hxk ▸ h) hy)
        · rw [← h, hxk] at hy; exact cmp_lt_irrefl hy
    | gt =>
      have hxk := cmp_gt_iff.1 hxk
      refine ⟨[], [], x :: (a ++ (b ++ c)), rfl, List.forall_mem_nil _, List.forall_mem_nil _,
        List.forall_mem_cons.2 ⟨hxk, fun y hy => ?_⟩⟩
      rcases hle y hy with h | h
      · exact cmp_lt_trans hxk h
      · exact h ▸ hxk

theorem block_head {b : List Rec} (hb : b.Pairwise recLt) {k : Bytes} (hkb : ∀ x ∈ b, x.key = k) {i : Rec}
    (hi : i ∈ b) (hi0 : i.rev = 0) : ∃ vs, b = i :: vs ∧ ∀ x ∈ vs, x.rev ≠ 0 := by
  have hrev : ∀ {x y : Rec}, x ∈ b → y ∈ b → recLt x y → x.rev < y.rev := by
    intro x y hx hy h
    rcases h with h | h
    · rw [hkb x hx, hkb y hy] at h; exact absurd h cmp_lt_irrefl
    · exact h.2
  cases b with
  | nil => cases hi
  | cons x vs =>
    have hx := List.pairwise_cons.1 hb
    rcases List.mem_cons.1 hi with rfl | hi'
    · exact ⟨vs, rfl, fun y hy => by have := hrev (by simp) (by simp [hy]) (hx.1 y hy); omega⟩
    · have := hrev (by simp) hi (hx.1 i hi'); omega

theorem mem_batch_of_key {recs : List Rec} (hs : SortedRecs recs) {k : Bytes} {i : Rec} (hi : i ∈ recs)
    (hik : i.key = k) (hi0 : i.rev = 0) (hmax : ∀ w ∈ recs, w.key = k → w.rev < 2 ^ 64 - 1) {w : Rec} (hwm : w ∈ recs)
    (hwk : w.key = k) : w.ik ∈ i.ik :: versionsOf k recs := by
  by_cases h0 : w.rev = 0
  · have : w = i := recs_unique hs hwm hi (hwk.trans hik.symm) (by omega)
    subst this; simp
  · exact List.mem_cons_of_mem _ (mem_versionsOf.2 ⟨w, hwm, hwk, h0, hmax w hwm hwk, rfl⟩)

/-- the worker as `newWorker` leaves it, before the first record of the encoded store -/
def start (recs : List Rec) : Loop := ⟨{}, [], [], { store := encodeStore recs }⟩

theorem passRun_store (c : WCfg) (mask : Nat → DelOutcome) (recs : List Rec) :
    (passRun c mask { store := encodeStore recs } recs).2.store =
      (recs.foldl (passStep c mask recs) (start recs)).st.store := by
  rw [passRun_eq, passLoop_snd]; rfl

theorem start_wf {recs : List Rec} (hs : SortedRecs recs) (hk : ∀ r ∈ recs, Alphabet r.key ∧ r.rev < 2 ^ 64) :
    (start recs).WF := ⟨encodeStore_sorted hs hk, Nat.two_pow_pos 64⟩

section block
variable {recs : List Rec} {c : WCfg} {mask : Nat → DelOutcome}

/-- The loop at the block `b` of the records of the raw key `k`, in the state `s`: the worker remembers nothing about `k`
yet, the records of `k` are all there, and what the loop leaves of them when it is through `b` is what the pass
leaves of them. -/
structure AtBlock (c : WCfg) (mask : Nat → DelOutcome) (recs : List Rec) (k : Bytes) (b : List Rec) (s : Loop) :
    Prop where
  mem : ∀ x, x ∈ b ↔ x ∈ recs ∧ x.key = k
  sorted : b.Pairwise recLt
  wf : s.WF
  pb : PrevBefore s.p b
  pk : s.p.key ≠ k
  live : s.live ≠ k
  gone : s.gone ≠ k
  lf : s.st.lastFailed ≠ k
  there : ∀ x ∈ b, s.st.store.get x.ik = some x.val
  after : ∀ x ∈ b, (passRun c mask { store := encodeStore recs } recs).2.store.get x.ik =
    (b.foldl (passStep c mask recs) s).st.store.get x.ik

theorem at_block (hs : SortedRecs recs) (hw : WellKeyed recs) (hk : ∀ r ∈ recs, Alphabet r.key ∧ r.rev < 2 ^ 64)
    {k : Bytes} (hk0 : k ≠ []) : ∃ b s, AtBlock c mask recs k b s := by
  obtain ⟨a, b, cc, hsplit, ha, hb, hcc⟩ := key_block hs k
  have hpw := List.pairwise_append.1 (hsplit ▸ hs)
  have hsub : ∀ x, x ∈ recs ↔ x ∈ a ∨ x ∈ b ∨ x ∈ cc := fun x => by rw [hsplit]; simp
  have ha' : ∀ x ∈ a, x.key ≠ k := fun x hx e => cmp_lt_irrefl (a := k) (e ▸ ha x hx)
  have hcc' : ∀ x ∈ cc, x.key ≠ k := fun x hx e => cmp_lt_irrefl (a := k) (e ▸ hcc x hx)
  have hwf0 := start_wf hs hk
  have hwf1 := fold_wf (c := c) (mask := mask) (snap := recs) a _ hwf0 (fun x hx => (hk x ((hsub x).2 (.inl hx))).2)
  have hwf2 := fold_wf (c := c) (mask := mask) (snap := recs) b _ hwf1
    (fun x hx => (hk x ((hsub x).2 (.inr (.inl hx)))).2)
  obtain ⟨hp, hlive, hgone, hlf⟩ := fold_remembers (c := c) (mask := mask) (snap := recs) a (start recs)
  have hrem : ∀ {v : Bytes}, (v = [] ∨ ∃ r ∈ a, v = r.key) → v ≠ k := by
    rintro v (rfl | ⟨r, hr, rfl⟩)
    · exact hk0.symm
    · exact ha' r hr
  refine ⟨b, a.foldl (passStep c mask recs) (start recs), ?_, hpw.2.1 |> List.Pairwise.sublist (List.sublist_append_left _ _),
    hwf1, ?_, ?_, hrem hlive, hrem hgone, hrem hlf, ?_, ?_⟩
  · intro x
    rw [hsub]
    constructor
    · exact fun h => ⟨.inr (.inl h), hb x h⟩
    · rintro ⟨h | h | h, e⟩
      · exact absurd e (ha' x h)
      · exact h
      · exact absurd e (hcc' x h)
  · rcases hp with e | ⟨r, hr, e⟩ <;> rw [e]
    · exact prevBefore_init _
    · intro x hx
      rcases hpw.2.2 r hr x (List.mem_append_left _ hx) with h | h
      · exact .inl h
      · exact .inr ⟨h.1, fun _ => h.2⟩
  · rcases hp with e | ⟨r, hr, e⟩ <;> rw [e]
    · exact hk0.symm
    · exact ha' r hr
  · intro x hx
    have hxm := (hsub x).2 (.inr (.inl hx))
    rw [hw x hxm, hb x hx, fold_frame hw hk a (fun y hy => (hsub y).2 (.inl hy)) _ hwf0 ha' (hk x hxm).2, ← hb x hx]
    exact encodeStore_get hs hk hxm
  · intro x hx
    have hxm := (hsub x).2 (.inr (.inl hx))
    rw [passRun_store, congrArg (List.foldl (passStep c mask recs) (start recs)) hsplit, List.foldl_append,
      List.foldl_append, hw x hxm, hb x hx]
    exact fold_frame hw hk cc (fun y hy => (hsub y).2 (.inr (.inr hy))) _ hwf2 hcc' (hk x hxm).2

end block

/-! ### a key the ttl pass spares goes through the ordinary rules alone -/

section spared
variable {recs : List Rec} {c : WCfg} {mask : Nat → DelOutcome}

/-- `h`: why `compactIfExpired` answers "not expired" at every record of `l` -/
theorem fold_ordinary {snap : List Rec} (hcomp : c.compact = true) {k : Bytes} (l : List Rec)
    (hl : ∀ r ∈ l, r.key = k) (s : Loop)
    (h : isEventKey c k = false ∨ (s.live = k ∧ s.gone ≠ k ∧ ∀ r ∈ l, r.rev ≠ 0)) :
    (l.foldl (passStep c mask snap) s).st = runDeletes mask s.st (workerLoop (ccfg c.R) s.p l) := by
  induction l generalizing s with
  | nil => exact (runDeletes_emitPrev mask s.st s.p).symm
  | cons r l ih =>
    have hr := hl r List.mem_cons_self
    have he : expiry c s.live s.gone r = .no := by
      rcases h with h | ⟨h1, h2, h3⟩
      · exact expiry_nonevent (hr ▸ h) _ _
      · exact expiry_live_version c (h3 r List.mem_cons_self) (hr.trans h1.symm) (hr ▸ h2.symm)
    rw [List.foldl_cons, ih (fun x hx => hl x (List.mem_cons_of_mem _ hx)), passStep_no he, workerStep_ccfg hcomp]
    · simp only [workerLoop]; rw [runDeletes_append]
    · rw [passStep_no he]
      exact h.imp id (fun ⟨h1, h2, h3⟩ => ⟨h1, h2, fun x hx => h3 x (List.mem_cons_of_mem _ hx)⟩)

/-- what makes the ttl pass spare `k`, when `fin` is the store it leaves: nothing is asked of a key that is no event
key; an Event has a well-formed revision record that names a revision above the timeout revision or is still in `fin` -/
def SparedIn (c : WCfg) (fin : Store) (recs : List Rec) (k : Bytes) : Prop :=
  isEventKey c k = true → ∃ i ∈ recs, i.key = k ∧ i.rev = 0 ∧ 8 ≤ i.val.length ∧
    (c.timeout < fromBE (i.val.take 8) ∨ fin.get i.ik ≠ none)

/-- `done`: at most the revision record, passed over with a batch that returned an error -/
theorem spared_block (hw : WellKeyed recs) (hk : ∀ r ∈ recs, Alphabet r.key ∧ r.rev < 2 ^ 64)
    (hcomp : c.compact = true) (hon : c.supportTTL = false) (hT : c.timeout ≠ 0) {k : Bytes} {b : List Rec} {s : Loop}
    (B : AtBlock c mask recs k b s)
    (hP : SparedIn c (passRun c mask { store := encodeStore recs } recs).2.store recs k) :
    ∃ done b' st', b = done ++ b' ∧ (∀ x ∈ done, x.rev = 0) ∧ st'.store = s.st.store ∧
      (b.foldl (passStep c mask recs) s).st = runDeletes mask st' (workerLoop (ccfg c.R) s.p b') := by
  have hbk : ∀ x ∈ b, x.key = k := fun x hx => ((B.mem x).1 hx).2
  cases hev : isEventKey c k with
  | false => exact ⟨[], b, s.st, rfl, List.forall_mem_nil _, rfl, fold_ordinary hcomp b hbk s (.inl hev)⟩
  | true =>
    obtain ⟨i, hi, hik, hi0, h8, hdis⟩ := hP hev
    obtain ⟨vs, rfl, hvs⟩ := block_head B.sorted hbk ((B.mem i).2 ⟨hi, hik⟩) hi0
    have hevi : isEventKey c i.key = true := hik ▸ hev
    have hvk : ∀ x ∈ vs, x.key = k := fun x hx => hbk x (List.mem_cons_of_mem _ hx)
    by_cases hy : c.timeout < fromBE (i.val.take 8)
    · -- young: the key is remembered; the revision record goes through the ordinary rules too
      have he := expiry_noLive hon hT hevi s.live s.gone hi0 h8 hy
      refine ⟨[], i :: vs, s.st, rfl, List.forall_mem_nil _, rfl, ?_⟩
      rw [List.foldl_cons, fold_ordinary hcomp vs hvk _ (.inr ?_), passStep_noLive he, workerStep_ccfg hcomp]
      · simp only [workerLoop]; rw [runDeletes_append]
      · rw [passStep_noLive he]; exact ⟨hik, B.gone, hvs⟩
    · -- expired and still there at the end: its batch returned an error, and the key is remembered as alive
      have he := expiry_idx hon hT hevi s.live s.gone hi0 h8 (Nat.not_lt.1 hy)
      have hkept := hdis.resolve_left hy
      rw [B.after i List.mem_cons_self, List.foldl_cons] at hkept
      rcases runExpire_cases mask s.st i.ik i.val (versionsOf i.key recs) i.key with
        ⟨h1, _, _⟩ | ⟨_, _, _, _, h3, _⟩ | ⟨_, h2, h3, _⟩
      · exact absurd ((skipped_iff.1 h1).2.trans hik) B.lf
      · exfalso
        apply hkept
        refine fold_get_none hw hk vs (fun x hx => ((B.mem x).1 (List.mem_cons_of_mem _ hx)).1)
          (passStep c mask recs s i) (passStep_wf B.wf (hk i hi).2) ?_
        rw [passStep_idx he]
        show (runExpire mask s.st i.ik i.val (versionsOf i.key recs) i.key).store.get i.ik = none
        rw [h3]
        exact (eraseAll_get (i.ik :: versionsOf i.key recs) B.wf.so i.ik).trans (if_pos List.mem_cons_self)
      · refine ⟨[i], vs, runExpire mask s.st i.ik i.val (versionsOf i.key recs) i.key, rfl,
          fun x hx => List.mem_singleton.1 hx ▸ hi0, h3, ?_⟩
        rw [List.foldl_cons, passStep_idx he, h2]
        exact fold_ordinary hcomp vs hvk _ (.inr ⟨hik, B.gone, hvs⟩)

/-- C07's `workerLoop_targets` / `loop_tombClosed` on the block of the key; the two conclusions are the hypotheses of
`readAt_filter_key`. -/
theorem spared_key (hs : SortedRecs recs) (hw : WellKeyed recs)
    (hk : ∀ r ∈ recs, Alphabet r.key ∧ r.rev < 2 ^ 64) (hne : ∀ r ∈ recs, r.key ≠ [])
    (hcomp : c.compact = true) (hon : c.supportTTL = false) (hT : c.timeout ≠ 0) {k : Bytes}
    {fin : Store} (hfin : (passRun c mask { store := encodeStore recs } recs).2.store = fin)
    (hP : SparedIn c fin recs k) :
    (∀ d ∈ recs, d.key = k → fin.get d.ik = none → Deletable c.R recs d) ∧
    (∀ t ∈ recs, t.key = k → fin.get t.ik = none → isTomb t.val = true → 0 < t.rev →
      ∀ w ∈ recs, w.key = t.key → 0 < w.rev → w.rev < t.rev → fin.get w.ik = none) := by
  subst hfin
  by_cases hk0 : k = []
  · exact ⟨fun d hd hdk => absurd (hdk.trans hk0) (hne d hd), fun t ht htk => absurd (htk.trans hk0) (hne t ht)⟩
  obtain ⟨b, s, B⟩ := at_block (c := c) (mask := mask) hs hw hk hk0
  obtain ⟨done, b', st', rfl, hdone, hst', hblock⟩ := spared_block hw hk hcomp hon hT B hP
  have hbk : ∀ x ∈ done ++ b', x.key = k := fun x hx => ((B.mem x).1 hx).2
  have hbm : ∀ x ∈ done ++ b', x ∈ recs := fun x hx => ((B.mem x).1 hx).1
  have hso' : Store.Sorted st'.store := hst' ▸ B.wf.so
  have hthere : ∀ x ∈ done ++ b', st'.store.get x.ik ≠ none := fun x hx => by rw [hst', B.there x hx]; simp
  have hpb : PrevBefore s.p b' := fun x hx => B.pb x (List.mem_append_right _ hx)
  constructor
  · intro d hd hdk hgone
    have hdb := (B.mem d).2 ⟨hd, hdk⟩
    rw [B.after d hdb, hblock] at hgone
    rcases runDeletes_get_none mask _ st' hso' hgone with h | ⟨a, ha, ht⟩
    · exact absurd h (hthere d hdb)
    · exact workerLoop_targets hs hw hk c.R b' s.p (fun x hx => hbm x (List.mem_append_right _ hx))
        (List.pairwise_append.1 B.sorted).2.1 hpb B.wf.p64 ha ht hd rfl
  · have hTC := loop_tombClosed (mask := mask) B.sorted (fun x hx => hw x (hbm x hx)) (fun x hx => hk x (hbm x hx))
      (fun x hx => hne x (hbm x hx)) c.R b' done s.p st' rfl hpb
      (fun w hw' h0 _ => absurd (hdone w hw') (Nat.ne_of_gt h0)) B.wf.p64
      ⟨hso', fun t ht hget => absurd hget (hthere t ht),
        fun ⟨x, hx, hxk⟩ => absurd (hxk.symm.trans (hbk x (List.mem_append_right _ hx))) B.pk⟩
    intro t ht htk hget htomb hpos w hw' hwk h0 hlt
    have htb := (B.mem t).2 ⟨ht, htk⟩
    have hwb := (B.mem w).2 ⟨hw', hwk.trans htk⟩
    rw [B.after t htb, hblock] at hget
    rw [B.after w hwb, hblock]
    exact hTC t htb hget htomb hpos w hwb hwk h0 hlt

end spared

/-! ### an expired Event goes as a whole when every call succeeds -/

section whole
variable {recs : List Rec} {c : WCfg} {mask : Nat → DelOutcome} (hs : SortedRecs recs) (hw : WellKeyed recs)
  (hk : ∀ r ∈ recs, Alphabet r.key ∧ r.rev < 2 ^ 64)
  (hon : c.supportTTL = false) (hT : c.timeout ≠ 0) (hok : ∀ i, mask i = .ok)
  {k : Bytes} (hev : isEventKey c k = true)
  (hidx : ∀ i ∈ recs, i.key = k → i.rev = 0 → 8 ≤ i.val.length ∧ fromBE (i.val.take 8) ≤ c.timeout)
  (hver : ∀ w ∈ recs, w.key = k → w.rev ≤ c.timeout)
  (hmax : ∀ w ∈ recs, w.key = k → w.rev < 2 ^ 64 - 1)
include hs hw hk hon hT hok hev hidx hver hmax

/-- at the revision record the batch takes everything; a block without one loses its versions one by one -/
theorem expired_block (l : List Rec) (hl : ∀ x ∈ l, x ∈ recs ∧ x.key = k)
    (hpw : l.Pairwise recLt) (s : Loop) (hwf : s.WF) (hlive : s.live ≠ k) (hgone : s.gone ≠ k)
    (hlf : s.st.lastFailed ≠ k) (hthere : ∀ x ∈ l, s.st.store.get x.ik = some x.val) :
    ∀ x ∈ l, (l.foldl (passStep c mask recs) s).st.store.get x.ik = none := by
  induction l generalizing s with
  | nil => exact List.forall_mem_nil _
  | cons r l ih =>
    obtain ⟨hrm, hrk⟩ := hl r List.mem_cons_self
    obtain ⟨hrl, hpw'⟩ := List.pairwise_cons.1 hpw
    have hlm : ∀ x ∈ l, x ∈ recs := fun x hx => (hl x (List.mem_cons_of_mem _ hx)).1
    have hevr : isEventKey c r.key = true := hrk ▸ hev
    have hsk : skipped s.st r.key = false := Bool.eq_false_iff.2 fun h => hlf ((skipped_iff.1 h).2.trans hrk)
    have hwf' := passStep_wf (c := c) (mask := mask) (snap := recs) hwf (hk r hrm).2
    rw [List.foldl_cons]
    by_cases h0 : r.rev = 0
    · have he := expiry_idx hon hT hevr s.live s.gone h0 (hidx r hrm hrk h0).1 (hidx r hrm hrk h0).2
      intro x hx
      apply fold_get_none hw hk l hlm _ hwf'
      rw [passStep_idx he]
      show (runExpire mask s.st r.ik r.val (versionsOf r.key recs) r.key).store.get x.ik = none
      rw [runExpire_ok _ hsk (hok _) (hthere r List.mem_cons_self), eraseAll_get _ hwf.so, if_pos]
      rw [hrk]
      exact mem_batch_of_key hs hrm hrk h0 hmax (hl x hx).1 (hl x hx).2
    · have he := expiry_ver hon hT hevr s.live s.gone h0 (hrk ▸ hgone.symm) (hver r hrm hrk) (hrk ▸ hlive.symm)
      have hget : ∀ b, (passStep c mask recs s r).st.store.get b = if b = r.ik then none else s.st.store.get b := by
        intro b
        rw [passStep_ver he, runDelete_del_ok _ hsk (hok _)]
        exact KB.Store.get_erase _ hwf.so _ _
      intro x hx
      rcases List.mem_cons.1 hx with rfl | hx
      · exact fold_get_none hw hk l hlm _ hwf' ((hget _).trans (if_pos rfl))
      · refine ih (fun y hy => hl y (List.mem_cons_of_mem _ hy)) hpw' _ hwf' ?_ ?_ ?_ ?_ x hx
        · rw [passStep_ver he]; exact hlive
        · rw [passStep_ver he]; exact hgone
        · rw [passStep_ver he, runDelete_del_ok _ hsk (hok _)]; exact hlf
        · -- the records to come are newer versions of `k`: other keys of the store
          intro y hy
          rw [hget, if_neg, hthere y (List.mem_cons_of_mem _ hy)]
          intro e
          rw [hw y (hlm y hy), hw r hrm] at e
          have := (encode_inj (hk y (hlm y hy)).2 (hk r hrm).2 e).2
          rcases hrl y hy with h | h
          · rw [hrk, (hl y (List.mem_cons_of_mem _ hy)).2] at h; exact cmp_lt_irrefl h
          · omega

theorem expired_key_removed :
    ∀ w ∈ recs, w.key = k → (passRun c mask { store := encodeStore recs } recs).2.store.get w.ik = none := by
  have hk0 : k ≠ [] := fun h => by rw [h, isEventKey_nil] at hev; cases hev
  obtain ⟨b, s, B⟩ := at_block (c := c) (mask := mask) hs hw hk hk0
  intro w hwm hwk
  have hwb := (B.mem w).2 ⟨hwm, hwk⟩
  rw [B.after w hwb]
  exact expired_block hs hw hk hon hT hok hev hidx hver hmax b (fun x hx => (B.mem x).1 hx) B.sorted s B.wf B.live
    B.gone B.lf B.there w hwb

end whole

/-! ### all or nothing, under every failure mask -/

/-- Stated from any point `s`, `rs` of the loop on, for the induction. Nothing of `k` is removed without its revision
record: the only call that names the revision record of an expired Event is the batch, and the batch names every version
the snapshot shows. A pass cut short is covered: a crash is the mask that fails every call from some point on. -/
theorem pass_all_or_nothing {recs : List Rec} {c : WCfg} {mask : Nat → DelOutcome} (hs : SortedRecs recs)
    (hw : WellKeyed recs) (hk : ∀ r ∈ recs, Alphabet r.key ∧ r.rev < 2 ^ 64)
    (hon : c.supportTTL = false) (hT : c.timeout ≠ 0)
    {k : Bytes} (hev : isEventKey c k = true) {i : Rec} (hi : i ∈ recs) (hik : i.key = k) (hi0 : i.rev = 0)
    (h8 : 8 ≤ i.val.length) (hexp : fromBE (i.val.take 8) ≤ c.timeout)
    (hmax : ∀ w ∈ recs, w.key = k → w.rev < 2 ^ 64 - 1) (rs : List Rec) (hrs : ∀ r ∈ rs, r ∈ recs) (s : Loop)
    (hwf : s.WF)
    (h : (∀ w ∈ recs, w.key = k → s.st.store.get w.ik = none) ∨ s.st.store.get i.ik = some i.val) :
    (∀ w ∈ recs, w.key = k → (rs.foldl (passStep c mask recs) s).st.store.get w.ik = none) ∨
      (rs.foldl (passStep c mask recs) s).st.store.get i.ik = some i.val := by
  induction rs generalizing s with
  | nil => exact h
  | cons r rs ih =>
    have hrm := hrs r List.mem_cons_self
    refine ih (fun x hx => hrs x (List.mem_cons_of_mem _ hx)) _ (passStep_wf hwf (hk r hrm).2) ?_
    rcases h with h | h
    · exact .inl fun w hwm hwk =>
        (passStep_get c mask recs s r hwf.so w.ik).elim (fun e => e.trans (h w hwm hwk)) (·.1)
    · by_cases hri : r = i
      · -- the batch of `k` itself: all of it, or nothing
        subst hri
        have he := expiry_idx hon hT (hik ▸ hev) s.live s.gone hi0 h8 hexp
        rw [passStep_idx he]
        rcases runExpire_store mask s.st r.ik r.val (versionsOf r.key recs) r.key with e | e
        · exact .inr (e ▸ h)
        · refine .inl fun w hwm hwk => ?_
          show (runExpire mask s.st r.ik r.val (versionsOf r.key recs) r.key).store.get w.ik = none
          rw [e, eraseAll_get _ hwf.so, if_pos]
          rw [hik]
          exact mem_batch_of_key hs hi hik hi0 hmax hwm hwk
      · -- no other step names the revision record of `k`
        right
        rcases passStep_get c mask recs s r hwf.so i.ik with e | ⟨_, e | ⟨e, hpos⟩ | e⟩
        · exact e.trans h
        · rw [hw i hi, hw r hrm] at e
          obtain ⟨e1, e2⟩ := encode_inj (hk i hi).2 (hk r hrm).2 e
          exact absurd (recs_unique hs hrm hi e1.symm e2.symm) hri
        · rw [hw i hi, hi0] at e
          exact absurd (encode_inj (Nat.two_pow_pos 64) hwf.p64 e).2 (Nat.ne_of_lt hpos)
        · obtain ⟨w, hwm, _, hw0, _, e'⟩ := mem_versionsOf.1 e
          rw [hw i hi, hw w hwm, hi0] at e'
          exact absurd (encode_inj (hk w hwm).2 (Nat.two_pow_pos 64) e').2 hw0

end KB.ExpirePass
