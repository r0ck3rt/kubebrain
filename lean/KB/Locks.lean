import KB.Str
/-
  KB.Locks — lock-discipline table (static side) and an abstract trace model of a Go process
  (dynamic side), with the generic theorem that a disciplined table admits no data race.

  STATIC SIDE.  `Access` is one syntactic access to a shared struct field as emitted by
  harness/cmd/kbextract/locks.go into KB/Generated/LockTable.lean.  `locDisciplined tbl x` is the
  (decidable, boolean) lock discipline for the location (struct field) `x`:
    (A) every access that is not thread-confined is atomic, or
    (B) there is ONE lock `L` such that every access that is not thread-confined is a plain access
        made while `L` is held, and every such WRITE holds `L` in write (exclusive) mode
        (so two readers may share the read lock; any conflicting pair has a writer holding `L`
        exclusively), or
    (C) every access that is not thread-confined is a READ (the location is written only before it is
        shared — by the constructor — and is immutable afterwards).
  A location all of whose accesses are thread-confined satisfies (A) vacuously.

  DYNAMIC SIDE (simplified but honest happens-before model; what it is and is not):
    * a trace is a finite list of events in one global order (the order in which the synchronising
      operations take effect; plain accesses are placed anywhere consistent with program order);
    * events: `acq t l w` / `rel t l w` — thread `t` acquires / releases lock `l` in write (`w = true`,
      Mutex.Lock / RWMutex.Lock) or read (`w = false`, RWMutex.RLock) mode; `acc t x write atomic site`
      — thread `t` reads or writes location `x`, plainly or with sync/atomic, executing table entry `site`;
    * locations and locks are *instances*: a static name (struct field / mutex field) paired with an
      object id, so two `Ring`s have different locations and different locks;
    * happens-before `HB` is the least transitive relation containing
        - program order (same thread, earlier in the trace),
        - write-release → any later acquire of the same lock,
        - read-release  → any later WRITE-acquire of the same lock,
        - atomic access → any later atomic access of the same location
      (this is the Go memory model restricted to mutexes, RW-mutexes and sync/atomic; channel,
      WaitGroup, Once, `go` statement and goroutine-exit edges are NOT modelled, i.e. the model has
      FEWER edges than Go, hence reports MORE races: sound for race freedom);
    * lock semantics `WellFormed`: two acquisitions of the same lock of which at least one is in write
      mode are separated by a release, by the first acquirer, of that acquisition (mutual exclusion
      of a Mutex / RWMutex; locks are released by the thread that acquired them — Go permits
      unlocking from another goroutine, the code under verification never does);
    * a data race is a pair of accesses to the same location by different threads, at least one a
      write, not both atomic, unordered by `HB` (Go: "a write concurrent with another access, unless
      both are sync/atomic").
  `Conforms tbl tr` ties a trace to the table (this is exactly what is TRUSTED about the extractor):
  every access event executes a table entry with that field / kind / mode, the locks the entry lists
  are held (in the listed mode) by the accessing thread at that point of the trace *on the same owner
  object*, and an access the table calls thread-confined is ordered (either way) with every access
  of another thread to the same location (confinement / publication-before-sharing assumption).
-/
namespace KB.Locks
open KB

inductive AccessKind | read | write
  deriving DecidableEq, Repr

inductive AccessMode | plain | atomic
  deriving DecidableEq, Repr

/-- One syntactic access to a shared location (struct field). -/
structure Access where
  file : String
  line : Nat
  func : String
  field : Name
  access : AccessKind
  mode : AccessMode
  /-- every lock held at this point (lexically, or by all callers / by protocol), any mode -/
  locksHeld : List Name
  /-- the subset of `locksHeld` held in write (exclusive) mode -/
  locksWrite : List Name
  /-- some lock is held but none exclusively -/
  readLockOnly : Bool
  /-- the location (or this access: constructor before publication) is touched by one goroutine only -/
  threadConfined : Bool
  note : String
  deriving Repr

/-! ### static discipline -/

/-- `a` is a plain access protected by `L` (exclusively when it is a write), or is confined. -/
def guardedBy (L : Name) (a : Access) : Bool :=
  a.threadConfined ||
    (a.mode == .plain && a.locksHeld.contains L && (a.access == .read || a.locksWrite.contains L))

def atomicOrConfined (a : Access) : Bool := a.threadConfined || a.mode == .atomic

def accessesOf (tbl : List Access) (x : Name) : List Access := tbl.filter (fun a => a.field == x)

/-- all lock names mentioned by accesses of `x` (candidates for the protecting lock) -/
def candidateLocks (tbl : List Access) (x : Name) : List Name :=
  (accessesOf tbl x).flatMap (·.locksHeld)

/-- thread-confined, or a read (discipline (C): every SHARED access is a read) -/
def readOrConfined (a : Access) : Bool := a.threadConfined || a.access == .read

def locDisciplined (tbl : List Access) (x : Name) : Bool :=
  (accessesOf tbl x).all atomicOrConfined ||
  (accessesOf tbl x).all readOrConfined ||
    (candidateLocks tbl x).any (fun L => (accessesOf tbl x).all (guardedBy L))

def fieldsOf (tbl : List Access) : List Name := (tbl.map (·.field)).eraseDups

/-- the whole table is disciplined, except for the listed locations -/
def tableDisciplinedExcept (tbl : List Access) (except : List Name) : Bool :=
  (fieldsOf tbl).all (fun x => except.contains x || locDisciplined tbl x)

def tableDisciplined (tbl : List Access) : Bool := tableDisciplinedExcept tbl []

/-- the locations of the table that violate the discipline -/
def undisciplined (tbl : List Access) : List Name :=
  (fieldsOf tbl).filter (fun x => !locDisciplined tbl x)

/-! ### dynamic model -/

abbrev Thread := Nat
abbrev Obj := Nat

structure Loc where
  field : Name
  obj : Obj
  deriving DecidableEq, Repr

structure LockId where
  name : Name
  obj : Obj
  deriving DecidableEq, Repr

inductive Ev
  | acq (t : Thread) (l : LockId) (w : Bool)
  | rel (t : Thread) (l : LockId) (w : Bool)
  | acc (t : Thread) (x : Loc) (write : Bool) (atomic : Bool) (site : Nat)
  deriving DecidableEq, Repr

def Ev.thread : Ev → Thread
  | .acq t _ _ => t
  | .rel t _ _ => t
  | .acc t _ _ _ _ => t

abbrev Trace := List Ev

/-- happens-before on trace positions -/
inductive HB (tr : Trace) : Nat → Nat → Prop
  | po {i j a b} : i < j → tr[i]? = some a → tr[j]? = some b → a.thread = b.thread → HB tr i j
  | relW {i j t t' l w} : i < j → tr[i]? = some (Ev.rel t l true) → tr[j]? = some (Ev.acq t' l w) → HB tr i j
  | relR {i j t t' l} : i < j → tr[i]? = some (Ev.rel t l false) → tr[j]? = some (Ev.acq t' l true) → HB tr i j
  | atom {i j t t' x w w' s s'} : i < j → tr[i]? = some (Ev.acc t x w true s) →
      tr[j]? = some (Ev.acc t' x w' true s') → HB tr i j
  | trans {i j k} : HB tr i j → HB tr j k → HB tr i k

/-- thread `t` holds lock `l` in mode `w` just before position `i`: it acquired it at some earlier
position and has not released it since -/
def HeldAt (tr : Trace) (i : Nat) (t : Thread) (l : LockId) (w : Bool) : Prop :=
  ∃ k : Nat, k < i ∧ tr[k]? = some (Ev.acq t l w) ∧ ∀ (m : Nat) (w' : Bool), k < m → m < i → tr[m]? ≠ some (Ev.rel t l w')

/-- lock semantics: conflicting acquisitions of one lock are separated by the first one's release -/
def WellFormed (tr : Trace) : Prop :=
  ∀ (k k' : Nat) (t t' : Thread) (l : LockId) (w w' : Bool), k < k' → tr[k]? = some (Ev.acq t l w) →
    tr[k']? = some (Ev.acq t' l w') → (w || w') = true → ∃ m : Nat, k < m ∧ m < k' ∧ tr[m]? = some (Ev.rel t l w)

/-- positions `i < j` are a data race on location `x` -/
def RaceOn (tr : Trace) (x : Loc) (i j : Nat) : Prop :=
  ∃ (t t' : Thread) (w w' a a' : Bool) (s s' : Nat), i < j ∧ tr[i]? = some (Ev.acc t x w a s) ∧ tr[j]? = some (Ev.acc t' x w' a' s') ∧
    t ≠ t' ∧ (w || w') = true ∧ (a && a') = false ∧ ¬ HB tr i j

def RaceFreeOn (tr : Trace) (x : Loc) : Prop := ∀ i j, ¬ RaceOn tr x i j

/-- the trace is an execution of the program described by the table (the trusted tie) -/
def Conforms (tbl : List Access) (tr : Trace) : Prop :=
  ∀ (i : Nat) (t : Thread) (x : Loc) (w a : Bool) (s : Nat), tr[i]? = some (Ev.acc t x w a s) →
    ∃ e : Access, tbl[s]? = some e ∧ e.field = x.field ∧
      w = (e.access == .write) ∧ a = (e.mode == .atomic) ∧
      (∀ L, L ∈ e.locksHeld → ∃ m, HeldAt tr i t ⟨L, x.obj⟩ m ∧ (L ∈ e.locksWrite → m = true)) ∧
      (e.threadConfined = true → ∀ (j : Nat) (t' : Thread) (w' a' : Bool) (s' : Nat), tr[j]? = some (Ev.acc t' x w' a' s') → t' ≠ t →
        HB tr i j ∨ HB tr j i)


/-! ### the theorem: a disciplined location has no data race -/

theorem HB.lt {tr : Trace} {i j : Nat} (h : HB tr i j) : i < j := by
  induction h with
  | po h _ _ _ => exact h
  | relW h _ _ => exact h
  | relR h _ _ => exact h
  | atom h _ _ => exact h
  | trans _ _ ih1 ih2 => exact Nat.lt_trans ih1 ih2

theorem held_common_lock_ordered (tr : Trace) (hwf : WellFormed tr)
    (i j : Nat) (hij : i < j) (t t' : Thread) (ht : t ≠ t') (l : LockId) (m m' : Bool)
    (ei ej : Ev) (hi : tr[i]? = some ei) (hj : tr[j]? = some ej)
    (hti : ei.thread = t) (htj : ej.thread = t')
    (hnri : ∀ w, ei ≠ Ev.rel t l w)
    (hhi : HeldAt tr i t l m) (hhj : HeldAt tr j t' l m') (hm : (m || m') = true) : HB tr i j := by
  obtain ⟨k, hki, hk, hnk⟩ := hhi
  obtain ⟨k', hkj, hk', hnk'⟩ := hhj
  rcases Nat.lt_trichotomy k k' with hlt | heq | hgt
  · obtain ⟨r, hkr, hrk', hr⟩ := hwf k k' t t' l m m' hlt hk hk' hm
    have hir : i < r := by
      rcases Nat.lt_trichotomy r i with h | h | h
      · exact absurd hr (hnk r m hkr h)
      · subst h; rw [hi] at hr; exact absurd (Option.some.inj hr) (hnri m)
      · exact h
    have h1 : HB tr i r := HB.po hir hi hr (by rw [hti]; rfl)
    have h2 : HB tr r k' := by
      cases m with
      | true => exact HB.relW hrk' hr hk'
      | false =>
        simp at hm; subst hm
        exact HB.relR hrk' hr hk'
    have h3 : HB tr k' j := HB.po hkj hk' hj (by rw [htj]; rfl)
    exact HB.trans h1 (HB.trans h2 h3)
  · subst heq; rw [hk] at hk'
    injection hk' with h; injection h with h
    exact absurd h ht
  · have hm' : (m' || m) = true := by rw [Bool.or_comm]; exact hm
    obtain ⟨r, hkr, hrk, hr⟩ := hwf k' k t' t l m' m hgt hk' hk hm'
    exact absurd hr (hnk' r m' hkr (by omega))

theorem mem_accessesOf {tbl : List Access} {s : Nat} {e : Access} {f : Name}
    (h : tbl[s]? = some e) (hf : e.field = f) : e ∈ accessesOf tbl f := by
  unfold accessesOf
  rw [List.mem_filter]
  exact ⟨List.mem_of_getElem? h, by simp [hf]⟩

theorem atomic_of_not_confined {a : Access} (h : atomicOrConfined a = true)
    (hc : ¬ a.threadConfined = true) : a.mode = .atomic := by
  simpa [atomicOrConfined, hc] using h

theorem read_of_not_confined {a : Access} (h : readOrConfined a = true)
    (hc : ¬ a.threadConfined = true) : a.access = .read := by
  simpa [readOrConfined, hc] using h

theorem guarded_of_not_confined {L : Name} {a : Access} (h : guardedBy L a = true)
    (hc : ¬ a.threadConfined = true) : L ∈ a.locksHeld ∧ (a.access = .read ∨ L ∈ a.locksWrite) := by
  simp [guardedBy, hc] at h
  exact ⟨h.1.2, h.2⟩

theorem locDisciplined_iff {tbl : List Access} {x : Name} :
    locDisciplined tbl x = true ↔
      (∀ a ∈ accessesOf tbl x, atomicOrConfined a = true) ∨
      (∀ a ∈ accessesOf tbl x, readOrConfined a = true) ∨
      ∃ L ∈ candidateLocks tbl x, ∀ a ∈ accessesOf tbl x, guardedBy L a = true := by
  simp only [locDisciplined, Bool.or_eq_true, List.all_eq_true, List.any_eq_true, or_assoc]

theorem disciplined_no_race (tbl : List Access) (tr : Trace) (hwf : WellFormed tr) (hc : Conforms tbl tr)
    (x : Loc) (hd : locDisciplined tbl x.field = true) : RaceFreeOn tr x := by
  intro i j ⟨t, t', w, w', a, a', s, s', hij, hi, hj, htt, hww, haa, hnhb⟩
  obtain ⟨e, hes, hef, hew, hea, hel, hec⟩ := hc i t x w a s hi
  obtain ⟨e', hes', hef', hew', hea', hel', hec'⟩ := hc j t' x w' a' s' hj
  have hmem := mem_accessesOf hes hef
  have hmem' := mem_accessesOf hes' hef'
  -- a confined access is ordered with every access of another thread
  by_cases hconf : e.threadConfined = true
  · exact (hec hconf j t' w' a' s' hj (Ne.symm htt)).elim hnhb fun h => absurd h.lt (by omega)
  by_cases hconf' : e'.threadConfined = true
  · exact (hec' hconf' i t w a s hi htt).elim (fun h => absurd h.lt (by omega)) hnhb
  rcases locDisciplined_iff.mp hd with hA | hC | ⟨L, _, hB⟩
  · rw [hea, hea', atomic_of_not_confined (hA e hmem) hconf,
      atomic_of_not_confined (hA e' hmem') hconf'] at haa
    cases haa
  · rw [hew, hew', read_of_not_confined (hC e hmem) hconf,
      read_of_not_confined (hC e' hmem') hconf'] at hww
    cases hww
  · -- both hold `L`, a writer exclusively
    obtain ⟨hL, hrw⟩ := guarded_of_not_confined (hB e hmem) hconf
    obtain ⟨hL', hrw'⟩ := guarded_of_not_confined (hB e' hmem') hconf'
    obtain ⟨m, hheld, hmw⟩ := hel L hL
    obtain ⟨m', hheld', hmw'⟩ := hel' L hL'
    have hm : (m || m') = true := by
      rcases Bool.or_eq_true _ _ ▸ hww with h | h
      · rw [hmw (hrw.resolve_left fun hr => by rw [hew, hr] at h; cases h)]; rfl
      · rw [hmw' (hrw'.resolve_left fun hr => by rw [hew', hr] at h; cases h), Bool.or_true]
    exact hnhb (held_common_lock_ordered tr hwf i j hij t t' htt ⟨L, x.obj⟩ m m' _ _ hi hj rfl rfl
      (fun _ h => Ev.noConfusion h) hheld hheld' hm)

theorem mem_fieldsOf {tbl : List Access} {x : Name} : x ∈ fieldsOf tbl ↔ ∃ e ∈ tbl, e.field = x := by
  rw [fieldsOf, List.mem_eraseDups, List.mem_map]

theorem tableDisciplinedExcept_iff {tbl : List Access} {except : List Name} :
    tableDisciplinedExcept tbl except = true ↔
      ∀ x ∈ fieldsOf tbl, x ∈ except ∨ locDisciplined tbl x = true := by
  simp only [tableDisciplinedExcept, List.all_eq_true, Bool.or_eq_true, List.contains_iff_mem]

theorem undisciplined_eq_nil_iff {tbl : List Access} :
    undisciplined tbl = [] ↔ tableDisciplined tbl = true := by
  simp [undisciplined, tableDisciplined, tableDisciplinedExcept]

theorem accessesOf_eq_nil {tbl : List Access} {x : Name} (h : x ∉ fieldsOf tbl) : accessesOf tbl x = [] :=
  List.filter_eq_nil_iff.mpr fun a ha hax => h (mem_fieldsOf.mpr ⟨a, ha, by simpa using hax⟩)

theorem locDisciplined_of_tableExcept {tbl : List Access} {except : List Name}
    (h : tableDisciplinedExcept tbl except = true) (x : Name) (hx : x ∉ except) :
    locDisciplined tbl x = true := by
  by_cases hf : x ∈ fieldsOf tbl
  · exact (tableDisciplinedExcept_iff.mp h x hf).resolve_left hx
  · simp [locDisciplined, accessesOf_eq_nil hf]

theorem table_disciplined_no_race (tbl : List Access) (except : List Name)
    (hd : tableDisciplinedExcept tbl except = true)
    (tr : Trace) (hwf : WellFormed tr) (hc : Conforms tbl tr)
    (x : Loc) (hx : x.field ∉ except) : RaceFreeOn tr x :=
  disciplined_no_race tbl tr hwf hc x (locDisciplined_of_tableExcept hd x.field hx)

/-! ### the hypotheses are satisfiable; the conclusion is not vacuous -/

def exTbl : List Access :=
  [ { file := "ex.go", line := 10, func := "Get", field := b!"f", access := .read, mode := .plain,
      locksHeld := [b!"m"], locksWrite := [], readLockOnly := true, threadConfined := false, note := "" },
    { file := "ex.go", line := 20, func := "Set", field := b!"f", access := .write, mode := .plain,
      locksHeld := [b!"m"], locksWrite := [b!"m"], readLockOnly := false, threadConfined := false, note := "" } ]

theorem exTbl_disciplined : locDisciplined exTbl (b!"f") = true := by decide

def exLoc : Loc := ⟨b!"f", 0⟩
def exLock : LockId := ⟨b!"m", 0⟩

/-- thread 1 reads `f` under the read lock, then thread 2 writes `f` under the write lock -/
def exTrace : Trace :=
  [ .acq 1 exLock false, .acc 1 exLoc false false 0, .rel 1 exLock false,
    .acq 2 exLock true, .acc 2 exLoc true false 1, .rel 2 exLock true ]

theorem exTrace_wf : WellFormed exTrace := by
  intro k k' t t' l w w' hlt hk hk' hww
  -- the acquisitions are at positions 0 and 3, the release between them at 2
  match k', hk' with
  | 1, h | 2, h | 4, h | 5, h | _ + 6, h => cases h
  | 0, _ => omega
  | 3, _ =>
    match k, hk with
    | 0, hk => cases hk; exact ⟨2, by omega, by omega, rfl⟩
    | 1, h | 2, h => cases h
    | _ + 3, _ => omega

theorem exTrace_conforms : Conforms exTbl exTrace := by
  intro i t x w a s hi
  -- the accesses are at positions 1 (under the read lock taken at 0) and 4 (write lock taken at 3)
  match i, hi with
  | 0, hi | 2, hi | 3, hi | 5, hi | _ + 6, hi => cases hi
  | 1, hi =>
    cases hi
    refine ⟨_, rfl, rfl, rfl, rfl, fun L hL => ?_, fun h => nomatch h⟩
    cases List.mem_singleton.mp hL
    exact ⟨false, ⟨0, by omega, rfl, fun m _ h1 h2 => by omega⟩, fun h => nomatch h⟩
  | 4, hi =>
    cases hi
    refine ⟨_, rfl, rfl, rfl, rfl, fun L hL => ?_, fun h => nomatch h⟩
    cases List.mem_singleton.mp hL
    exact ⟨true, ⟨3, by omega, rfl, fun m _ h1 h2 => by omega⟩, fun _ => rfl⟩

theorem exTrace_race_free : RaceFreeOn exTrace exLoc :=
  disciplined_no_race exTbl exTrace exTrace_wf exTrace_conforms exLoc exTbl_disciplined

/-- two unlocked plain writes by different threads -/
def exBad : Trace := [ .acc 1 exLoc true false 0, .acc 2 exLoc true false 1 ]

theorem exBad_no_hb : ∀ i j, ¬ HB exBad i j := by
  intro i j h
  induction h with
  | trans _ _ ih _ => exact ih
  | @po i j a b hlt ha hb hab =>
    rcases j with _ | _ | j
    · omega
    · have : i = 0 := by omega
      subst this
      simp [exBad] at ha hb
      subst ha hb
      simp [Ev.thread] at hab
    · simp [exBad] at hb
  | @relW i j t t' l w hlt ha hb =>
    rcases i with _ | _ | i <;> simp [exBad] at ha
  | @relR i j t t' l hlt ha hb =>
    rcases i with _ | _ | i <;> simp [exBad] at ha
  | @atom i j t t' x w w' s s' hlt ha hb =>
    rcases i with _ | _ | i <;> simp [exBad] at ha

theorem exBad_race : RaceOn exBad exLoc 0 1 :=
  ⟨1, 2, true, true, false, false, 0, 1, by omega, rfl, rfl, by decide, rfl, rfl, exBad_no_hb 0 1⟩

/-! ### operational justification of `WellFormed`: traces accepted by a RW-lock machine -/

/-- the state of all locks: the exclusive holder, and the (multi)set of shared holders -/
structure LockState where
  writer : LockId → Option Thread
  readers : LockId → List Thread

def LockState.empty : LockState := ⟨fun _ => none, fun _ => []⟩

/-- one step of the lock machine (`none` = the event is not enabled):
`Lock` needs no holder at all, `RLock` needs no exclusive holder, `Unlock` / `RUnlock` need the
thread to be the exclusive holder / one of the shared holders; accesses are always enabled. -/
def LockState.step (s : LockState) : Ev → Option LockState
  | .acq t l true =>
    if s.writer l = none ∧ s.readers l = [] then
      some { s with writer := fun l' => if l' = l then some t else s.writer l' } else none
  | .acq t l false =>
    if s.writer l = none then
      some { s with readers := fun l' => if l' = l then t :: s.readers l else s.readers l' } else none
  | .rel t l true =>
    if s.writer l = some t then
      some { s with writer := fun l' => if l' = l then none else s.writer l' } else none
  | .rel t l false =>
    if t ∈ s.readers l then
      some { s with readers := fun l' => if l' = l then (s.readers l).erase t else s.readers l' } else none
  | .acc _ _ _ _ _ => some s

def LockState.run (s : LockState) : Trace → Option LockState
  | [] => some s
  | e :: tr =>
    match s.step e with
    | some s' => s'.run tr
    | none => none

/-- the machine runs the whole trace from the state where no lock is held -/
def Accepted (tr : Trace) : Prop := (LockState.empty.run tr).isSome = true

/-- thread `t` holds `l` in mode `w` in state `s` -/
def LockState.holds (s : LockState) (t : Thread) (l : LockId) : Bool → Prop
  | true => s.writer l = some t
  | false => t ∈ s.readers l

theorem LockState.step_acq_blocked {s : LockState} {t t' : Thread} {l : LockId} {w w' : Bool}
    (h : s.holds t l w) (hw : (w || w') = true) : s.step (.acq t' l w') = none := by
  cases w <;> cases w' <;> simp [holds] at h hw <;> simp [step, h]
  intro _ h2
  rw [h2] at h
  cases h

theorem LockState.step_acq_holds {s s1 : LockState} {t : Thread} {l : LockId} {w : Bool}
    (h : s.step (.acq t l w) = some s1) : s1.holds t l w := by
  cases w <;> simp [step] at h <;> obtain ⟨_, rfl⟩ := h <;> simp [holds]

theorem LockState.step_preserves {s s1 : LockState} {t : Thread} {l : LockId} {w : Bool} {e : Ev}
    (h : s.holds t l w) (hs : s.step e = some s1) (hne : e ≠ .rel t l w) : s1.holds t l w := by
  unfold step at hs
  split at hs <;> simp only [Option.ite_none_right_eq_some, Option.some.injEq] at hs
  · -- Lock: `l2` had no holder, so `l ≠ l2` when `t` holds `l` exclusively
    obtain ⟨⟨hw, _⟩, rfl⟩ := hs
    cases w
    · exact h
    · show (if l = _ then _ else _) = _
      split
      · next heq => subst heq; rw [holds, hw] at h; cases h
      · exact h
  · obtain ⟨_, rfl⟩ := hs
    cases w
    · show t ∈ (if l = _ then _ else _)
      split
      · next heq => subst heq; exact List.mem_cons_of_mem _ h
      · exact h
    · exact h
  · -- Unlock by the exclusive holder `t2`: were it `t`'s lock, the event would be `rel t l true`
    obtain ⟨hw, rfl⟩ := hs
    cases w
    · exact h
    · show (if l = _ then _ else _) = _
      split
      · next heq =>
        subst heq; rw [holds, hw] at h
        exact absurd (by rw [Option.some.inj h]) hne
      · exact h
  · -- RUnlock by `t2 ≠ t` (same argument) removes only `t2`
    obtain ⟨_, rfl⟩ := hs
    cases w
    · show t ∈ (if l = _ then _ else _)
      split
      · next heq =>
        subst heq
        exact (List.mem_erase_of_ne fun h' => hne (by rw [h'])).mpr h
      · exact h
    · exact h
  · cases hs; exact h

theorem LockState.run_blocked (tr : Trace) : ∀ (s : LockState) (k' : Nat) (t t' : Thread) (l : LockId) (w w' : Bool),
    s.holds t l w → (s.run tr).isSome = true → tr[k']? = some (.acq t' l w') → (w || w') = true →
    ∃ m, m < k' ∧ tr[m]? = some (.rel t l w) := by
  induction tr with
  | nil => intro s k' t t' l w w' _ _ hk'; cases hk'
  | cons e tr ih =>
    intro s k' t t' l w w' hh hrun hk' hw
    cases k' with
    | zero =>
      cases hk'
      rw [run, step_acq_blocked hh hw] at hrun
      cases hrun
    | succ k' =>
      by_cases he : e = .rel t l w
      · exact ⟨0, by omega, by rw [he]; rfl⟩
      · rw [run] at hrun
        split at hrun
        · next s1 hs =>
          obtain ⟨m, hm, hr⟩ := ih s1 k' t t' l w w' (step_preserves hh hs he) hrun hk' hw
          exact ⟨m + 1, by omega, hr⟩
        · cases hrun

theorem LockState.run_wellFormed (tr : Trace) : ∀ (s : LockState), (s.run tr).isSome = true → WellFormed tr := by
  induction tr with
  | nil => intro s _ k k' t t' l w w' _ hk; cases hk
  | cons e tr ih =>
    intro s hrun k k' t t' l w w' hlt hk hk' hw
    rw [run] at hrun
    split at hrun
    · next s1 hs =>
      cases k' with
      | zero => omega
      | succ k' =>
        cases k with
        | zero =>
          cases hk
          obtain ⟨m, hm, hr⟩ := run_blocked tr s1 k' t t' l w w' (step_acq_holds hs) hrun hk' hw
          exact ⟨m + 1, by omega, by omega, hr⟩
        | succ k =>
          obtain ⟨m, h1, h2, hr⟩ := ih s1 hrun k k' t t' l w w' (by omega) hk hk' hw
          exact ⟨m + 1, by omega, by omega, hr⟩
    · cases hrun

theorem accepted_wellFormed (tr : Trace) (h : Accepted tr) : WellFormed tr :=
  LockState.run_wellFormed tr LockState.empty h

/-- so `Accepted` is satisfiable by a locking trace -/
theorem exTrace_accepted : Accepted exTrace := by
  unfold Accepted
  decide

end KB.Locks
