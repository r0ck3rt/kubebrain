/-
  KB.Bytes — byte strings as `List Nat` (a byte is a `Nat`; `< 256` is an explicit
  hypothesis only where the Go code depends on it), `bytes.Compare`, big-endian
  fixed-width integers.  Core-only (no Mathlib) so that the driver links.
-/
namespace KB

abbrev Bytes := List Nat

/-- `bytes.Compare`. -/
def cmp : Bytes → Bytes → Ordering
  | [], [] => .eq
  | [], _ :: _ => .lt
  | _ :: _, [] => .gt
  | a :: as, b :: bs => if a < b then .lt else if b < a then .gt else cmp as bs

def blt (a b : Bytes) : Bool := cmp a b == .lt
def ble (a b : Bytes) : Bool := cmp a b != .gt

@[simp] theorem cmp_nil_nil : cmp [] [] = .eq := rfl
@[simp] theorem cmp_nil_cons (b : Nat) (bs : Bytes) : cmp [] (b :: bs) = .lt := rfl
@[simp] theorem cmp_cons_nil (a : Nat) (as : Bytes) : cmp (a :: as) [] = .gt := rfl
theorem cmp_cons_cons (a b : Nat) (as bs : Bytes) :
    cmp (a :: as) (b :: bs) = if a < b then .lt else if b < a then .gt else cmp as bs := rfl

/-- `cmp` is the lexicographic order: heads first, then tails. -/
theorem cmp_cons (a b : Nat) (as bs : Bytes) :
    cmp (a :: as) (b :: bs) = (compare a b).then (cmp as bs) := by
  rw [cmp_cons_cons]
  rcases Nat.lt_trichotomy a b with h | rfl | h
  · rw [if_pos h, Nat.compare_eq_lt.mpr h]; rfl
  · simp
  · rw [if_neg (Nat.lt_asymm h), if_pos h, Nat.compare_eq_gt.mpr h]; rfl

@[simp] theorem cmp_refl (a : Bytes) : cmp a a = .eq := by
  induction a with
  | nil => rfl
  | cons x xs ih => simp [cmp_cons, ih]

theorem cmp_eq_iff {a b : Bytes} : cmp a b = .eq ↔ a = b := by
  induction a generalizing b with
  | nil => cases b <;> simp
  | cons x xs ih => cases b <;> simp [cmp_cons, Ordering.then_eq_eq, ih]

theorem cmp_swap (a b : Bytes) : cmp b a = (cmp a b).swap := by
  induction a generalizing b with
  | nil => cases b <;> rfl
  | cons x xs ih => cases b <;> simp [cmp_cons, Ordering.swap_then, Nat.compare_swap, ih]

theorem cmp_gt_iff {a b : Bytes} : cmp a b = .gt ↔ cmp b a = .lt := by
  rw [cmp_swap a b]; cases cmp a b <;> simp

theorem cmp_lt_trans {a b c : Bytes} (h1 : cmp a b = .lt) (h2 : cmp b c = .lt) : cmp a c = .lt := by
  induction a generalizing b c with
  | nil => cases c <;> cases b <;> simp_all
  | cons x xs ih =>
    cases b with
    | nil => simp at h1
    | cons y ys =>
      cases c with
      | nil => simp at h2
      | cons z zs =>
        simp only [cmp_cons, Ordering.then_eq_lt, Nat.compare_eq_lt, Nat.compare_eq_eq] at h1 h2 ⊢
        rcases h1 with h1 | ⟨rfl, h1⟩ <;> rcases h2 with h2 | ⟨rfl, h2⟩
        · exact .inl (Nat.lt_trans h1 h2)
        · exact .inl h1
        · exact .inl h2
        · exact .inr ⟨rfl, ih h1 h2⟩

theorem cmp_append_of_length_eq {a b : Bytes} (hl : a.length = b.length) (s t : Bytes) :
    cmp (a ++ s) (b ++ t) = (cmp a b).then (cmp s t) := by
  induction a generalizing b with
  | nil =>
    cases b with
    | nil => rfl
    | cons _ _ => cases hl
  | cons x xs ih =>
    cases b with
    | nil => cases hl
    | cons y ys => simp only [List.cons_append, cmp_cons, ih (Nat.succ.inj hl), Ordering.then_assoc]

theorem cmp_append_left (p a b : Bytes) : cmp (p ++ a) (p ++ b) = cmp a b := by
  rw [cmp_append_of_length_eq rfl, cmp_refl]; rfl

theorem cmp_prefix_ne_gt (p t : Bytes) : cmp p (p ++ t) ≠ .gt := by
  have h := cmp_append_left p [] t
  rw [List.append_nil] at h
  rw [h]
  cases t <;> simp

theorem blt_iff {a b : Bytes} : blt a b = true ↔ cmp a b = .lt := by simp [blt]
theorem ble_iff {a b : Bytes} : ble a b = true ↔ cmp a b ≠ .gt := by simp [ble]

theorem ble_iff_lt_or_eq {a b : Bytes} : ble a b = true ↔ (cmp a b = .lt ∨ a = b) := by
  rw [ble_iff, ← cmp_eq_iff]; cases cmp a b <;> simp

theorem not_blt_iff_ble {a b : Bytes} : blt a b = false ↔ ble b a = true := by
  rw [ble_iff, cmp_swap a b]
  simp only [blt]; cases cmp a b <;> simp

theorem ble_refl (a : Bytes) : ble a a = true := by simp [ble]

theorem ble_total (a b : Bytes) : ble a b = true ∨ ble b a = true := by
  rw [ble_iff, ble_iff, cmp_swap a b]; cases cmp a b <;> simp

theorem ble_antisymm {a b : Bytes} (h1 : ble a b = true) (h2 : ble b a = true) : a = b := by
  rw [ble_iff] at h1 h2; rw [cmp_swap a b] at h2
  rw [← cmp_eq_iff]; cases h : cmp a b <;> simp_all

theorem blt_iff_ble_not_ble (a b : Bytes) :
    blt a b = true ↔ (ble a b = true ∧ ¬ ble b a = true) := by
  rw [ble_iff, ble_iff, blt_iff, cmp_swap a b]; cases cmp a b <;> simp

theorem ble_of_blt {a b : Bytes} (h : blt a b = true) : ble a b = true :=
  ((blt_iff_ble_not_ble a b).mp h).1

theorem not_ble_of_blt {a b : Bytes} (h : blt a b = true) : ¬ ble b a = true :=
  ((blt_iff_ble_not_ble a b).mp h).2

theorem ble_trans {a b c : Bytes} (h1 : ble a b = true) (h2 : ble b c = true) : ble a c = true := by
  rw [ble_iff_lt_or_eq] at *
  rcases h1 with h1 | h1
  · rcases h2 with h2 | h2
    · exact .inl (cmp_lt_trans h1 h2)
    · subst h2; exact .inl h1
  · subst h1; exact h2

theorem blt_of_blt_of_ble {a b c : Bytes} (h1 : blt a b = true) (h2 : ble b c = true) : blt a c = true :=
  (blt_iff_ble_not_ble a c).mpr ⟨ble_trans (ble_of_blt h1) h2, fun h => not_ble_of_blt h1 (ble_trans h2 h)⟩

theorem blt_of_ble_of_blt {a b c : Bytes} (h1 : ble a b = true) (h2 : blt b c = true) : blt a c = true :=
  (blt_iff_ble_not_ble a c).mpr ⟨ble_trans h1 (ble_of_blt h2), fun h => not_ble_of_blt h2 (ble_trans h h1)⟩

/-- `bytes.HasPrefix`. -/
def hasPrefix : Bytes → Bytes → Bool
  | _, [] => true
  | [], _ :: _ => false
  | a :: as, p :: ps => a == p && hasPrefix as ps

theorem hasPrefix_iff {k p : Bytes} : hasPrefix k p = true ↔ ∃ t, k = p ++ t := by
  induction p generalizing k with
  | nil => simp [hasPrefix]
  | cons x xs ih =>
    cases k with
    | nil => simp [hasPrefix]
    | cons y ys =>
      simp only [hasPrefix, Bool.and_eq_true, beq_iff_eq, ih, List.cons_append, List.cons.injEq]
      constructor
      · rintro ⟨rfl, t, rfl⟩; exact ⟨t, rfl, rfl⟩
      · rintro ⟨t, rfl, rfl⟩; exact ⟨rfl, t, rfl⟩

/-- `bytes.Contains(s, sub)`. -/
def containsSub : Bytes → Bytes → Bool
  | [], sub => sub.isEmpty
  | a :: as, sub => hasPrefix (a :: as) sub || containsSub as sub

/-! ### big-endian fixed width -/

/-- `n` big-endian base-256 digits of `x` (most significant first); digits of
`x mod 256^n`, as `binary.BigEndian.PutUint64` for `n = 8`. -/
def beN : Nat → Nat → Bytes
  | 0, _ => []
  | n + 1, x => (x / 256 ^ n % 256) :: beN n x

def fromBE (b : Bytes) : Nat := b.foldl (fun acc d => acc * 256 + d) 0

def be64 (x : Nat) : Bytes := beN 8 x

@[simp] theorem beN_length (n x : Nat) : (beN n x).length = n := by
  induction n with
  | zero => rfl
  | succ n ih => simp [beN, ih]

theorem beN_lt (n x : Nat) : ∀ d ∈ beN n x, d < 256 := by
  induction n with
  | zero => simp [beN]
  | succ n ih =>
    intro d hd
    simp only [beN, List.mem_cons] at hd
    rcases hd with rfl | hd
    · exact Nat.mod_lt _ (by decide)
    · exact ih d hd

theorem beN_mod (n x : Nat) : beN n (x % 256 ^ n) = beN n x := by
  induction n generalizing x with
  | zero => rfl
  | succ n ih =>
    simp only [beN]
    congr 1
    · rw [Nat.pow_succ, Nat.mod_mul_right_div_self, Nat.mod_mod]
    · rw [← ih (x % 256 ^ (n + 1)), ← ih x]
      congr 1
      rw [Nat.pow_succ]
      exact Nat.mod_mul_right_mod _ _ _

theorem foldl_fromBE (acc : Nat) (b : Bytes) :
    b.foldl (fun acc d => acc * 256 + d) acc = acc * 256 ^ b.length + fromBE b := by
  induction b generalizing acc with
  | nil => simp [fromBE]
  | cons d ds ih =>
    simp only [List.foldl_cons, List.length_cons, fromBE]
    rw [ih, ih (0 * 256 + d)]
    simp [Nat.pow_succ, Nat.add_mul, Nat.mul_assoc, Nat.mul_comm 256, Nat.add_assoc]

theorem fromBE_beN (n x : Nat) : fromBE (beN n x) = x % 256 ^ n := by
  induction n generalizing x with
  | zero => simp [beN, fromBE, Nat.mod_one]
  | succ n ih =>
    simp only [beN, fromBE, List.foldl_cons]
    rw [foldl_fromBE, ih, beN_length]
    have h : 256 ^ (n + 1) = 256 ^ n * 256 := Nat.pow_succ ..
    rw [h, Nat.mod_mul, Nat.zero_mul, Nat.zero_add, Nat.add_comm, Nat.mul_comm]

theorem fromBE_be64 {x : Nat} (h : x < 2 ^ 64) : fromBE (be64 x) = x := by
  rw [be64, fromBE_beN]; exact Nat.mod_eq_of_lt h

/-- Fixed-width big-endian digits grow with the number: the leading digits are in order, and where they agree
the remainders decide. -/
theorem cmp_beN_lt (n : Nat) {x y : Nat} (hy : y < 256 ^ n) (h : x < y) : cmp (beN n x) (beN n y) = .lt := by
  induction n generalizing x y with
  | zero => omega
  | succ n ih =>
    have hp : 0 < 256 ^ n := Nat.pow_pos (by decide)
    have hqy : y / 256 ^ n < 256 := Nat.div_lt_of_lt_mul (by rwa [Nat.pow_succ] at hy)
    have hq : x / 256 ^ n ≤ y / 256 ^ n := Nat.div_le_div_right (Nat.le_of_lt h)
    rw [beN, beN, cmp_cons, Nat.mod_eq_of_lt hqy, Nat.mod_eq_of_lt (Nat.lt_of_le_of_lt hq hqy)]
    rcases Nat.lt_or_eq_of_le hq with hq | hq
    · rw [Nat.compare_eq_lt.mpr hq]; rfl
    · have ex := Nat.div_add_mod x (256 ^ n)
      have ey := Nat.div_add_mod y (256 ^ n)
      rw [hq, Nat.compare_eq_eq.mpr rfl, ← beN_mod n x, ← beN_mod n y]
      rw [hq] at ex
      exact ih (Nat.mod_lt y hp) (by omega)

theorem cmp_beN (n x y : Nat) (hx : x < 256 ^ n) (hy : y < 256 ^ n) :
    cmp (beN n x) (beN n y) = compare x y := by
  rcases Nat.lt_trichotomy x y with h | rfl | h
  · rw [cmp_beN_lt n hy h, Nat.compare_eq_lt.mpr h]
  · simp
  · rw [Nat.compare_eq_gt.mpr h, cmp_gt_iff, cmp_beN_lt n hx h]

theorem cmp_be64 {x y : Nat} (hx : x < 2 ^ 64) (hy : y < 2 ^ 64) :
    cmp (be64 x) (be64 y) = compare x y :=
  cmp_beN 8 x y hx hy

theorem be64_inj {x y : Nat} (hx : x < 2 ^ 64) (hy : y < 2 ^ 64) (h : be64 x = be64 y) : x = y := by
  rw [← fromBE_be64 hx, ← fromBE_be64 hy, h]

end KB
